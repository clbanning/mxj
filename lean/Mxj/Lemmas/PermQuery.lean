/-
  Mxj.Lemmas.PermQuery — "m' is m with the entries of every map permuted" (`ValPerm`) and the
  invariance of the path walker under it.  Go's hash-iteration order is the entry order of the
  association list in the model; these lemmas say the query answers do not depend on it.
-/
import Mxj.Lemmas.Hered
namespace Mxj
open Denote

/-- memberwise relation on two lists of values (core has no `Forall₂`) -/
inductive All2 (R : Val → Val → Prop) : List Val → List Val → Prop
  | nil : All2 R [] []
  | cons {a b : Val} {l l' : List Val} : R a b → All2 R l l' → All2 R (a :: l) (b :: l')

/-- entrywise relation: same keys in the same order, related values -/
inductive EntAll2 (R : Val → Val → Prop) : Entries → Entries → Prop
  | nil : EntAll2 R [] []
  | cons (k : Str) {v w : Val} {r r' : Entries} :
      R v w → EntAll2 R r r' → EntAll2 R ((k, v) :: r) ((k, w) :: r')

/-- `ValPerm m m'`: `m'` is `m` with the entries of every map, at every depth, permuted -/
inductive ValPerm : Val → Val → Prop
  | refl (v : Val) : ValPerm v v
  | list {xs ys : List Val} : All2 ValPerm xs ys → ValPerm (.list xs) (.list ys)
  | map {kvs mid kvs' : Entries} :
      List.Perm kvs mid → EntAll2 ValPerm mid kvs' → ValPerm (.map kvs) (.map kvs')

/-- the two answer lists are permutations of each other, members compared up to `ValPerm` -/
def PermR (l l' : List Val) : Prop := ∃ mid, List.Perm l mid ∧ All2 ValPerm mid l'

theorem all2_refl : ∀ l : List Val, All2 ValPerm l l
  | [] => .nil
  | x :: xs => .cons (.refl x) (all2_refl xs)

theorem all2_append {R : Val → Val → Prop} {a a' b b' : List Val}
    (h1 : All2 R a a') (h2 : All2 R b b') :
    All2 R (a ++ b) (a' ++ b') := by
  induction h1 with
  | nil => simpa using h2
  | cons h _ ih => exact .cons h ih

theorem PermR.refl (l : List Val) : PermR l l := ⟨l, List.Perm.refl l, all2_refl l⟩
theorem PermR.of_all2 {l l' : List Val} (h : All2 ValPerm l l') : PermR l l' :=
  ⟨l, List.Perm.refl l, h⟩
theorem PermR.of_perm_left {l m l' : List Val} (p : List.Perm l m) (h : PermR m l') :
    PermR l l' := by
  obtain ⟨mid, p', f⟩ := h; exact ⟨mid, p.trans p', f⟩

theorem PermR.append {a a' b b' : List Val} (h1 : PermR a a') (h2 : PermR b b') :
    PermR (a ++ b) (a' ++ b') := by
  obtain ⟨m1, p1, f1⟩ := h1; obtain ⟨m2, p2, f2⟩ := h2
  exact ⟨m1 ++ m2, List.Perm.append p1 p2, all2_append f1 f2⟩

theorem PermR.length {l l' : List Val} (h : PermR l l') : l.length = l'.length := by
  obtain ⟨mid, p, f⟩ := h
  rw [p.length_eq]
  clear p
  induction f with
  | nil => rfl
  | cons _ _ ih => simp [ih]

/-- `S` is left open: it is put to `PermR` (closed under append by `PermR.refl []`, `PermR.append`) and
    `All2 ValPerm` (`.nil`, `all2_append`) below, to `List.Perm` in Lemmas.PermKey; likewise in
    `entries_flatMap_rel` -/
theorem all2_flatMap_rel {β} {S : List β → List β → Prop} (hnil : S [] [])
    (happ : ∀ {a a' b b'}, S a a' → S b b' → S (a ++ b) (a' ++ b'))
    {R : Val → Val → Prop} {f g : Val → List β} {l l' : List Val} (h : All2 R l l')
    (hf : ∀ a b, a ∈ l → R a b → S (f a) (g b)) : S (l.flatMap f) (l'.flatMap g) := by
  induction h with
  | nil => exact hnil
  | @cons a b l l' hab _ ih =>
    exact happ (hf a b List.mem_cons_self hab)
      (ih fun x y hx => hf x y (List.mem_cons_of_mem _ hx))

theorem entries_flatMap_rel {β} {S : List β → List β → Prop} (hnil : S [] [])
    (happ : ∀ {a a' b b'}, S a a' → S b b' → S (a ++ b) (a' ++ b'))
    (hperm : ∀ {a b c}, List.Perm a b → S b c → S a c)
    {f : Str → Val → List β} {kvs mid kvs' : Entries}
    (p : List.Perm kvs mid) (a : EntAll2 ValPerm mid kvs')
    (hf : ∀ e ∈ kvs, ∀ w, ValPerm e.2 w → S (f e.1 e.2) (f e.1 w)) :
    S (kvs.flatMap fun e => f e.1 e.2) (kvs'.flatMap fun e => f e.1 e.2) := by
  refine hperm (List.Perm.flatMap_right _ p) ?_
  have hf' : ∀ e ∈ mid, ∀ w, ValPerm e.2 w → S (f e.1 e.2) (f e.1 w) :=
    fun e he => hf e (p.mem_iff.2 he)
  clear hf p
  induction a with
  | nil => exact hnil
  | @cons k v w r r' hvw _ ih =>
    exact happ (hf' (k, v) List.mem_cons_self w hvw)
      (ih fun e he => hf' e (List.mem_cons_of_mem _ he))

theorem PermR.flatMap {f : Val → List Val} {l l' : List Val} (h : PermR l l')
    (hf : ∀ a b, a ∈ l → ValPerm a b → PermR (f a) (f b)) :
    PermR (l.flatMap f) (l'.flatMap f) := by
  obtain ⟨mid, p, f2⟩ := h
  exact PermR.of_perm_left (List.Perm.flatMap_right f p)
    (all2_flatMap_rel (PermR.refl []) PermR.append f2 fun a b ha => hf a b (p.mem_iff.2 ha))

theorem lookup_entAll2 {R : Val → Val → Prop} {k : Str} {mid kvs' : Entries}
    (h : EntAll2 R mid kvs') :
    (lookup k mid = none ∧ lookup k kvs' = none)
      ∨ ∃ v w, lookup k mid = some v ∧ lookup k kvs' = some w ∧ R v w := by
  induction h with
  | nil => exact .inl ⟨rfl, rfl⟩
  | @cons k' v w r r' hvw _ ih =>
    unfold lookup
    by_cases hk : k = k'
    · rw [if_pos hk, if_pos hk]; exact .inr ⟨v, w, rfl, rfl, hvw⟩
    · rw [if_neg hk, if_neg hk]; exact ih

/-- with distinct keys the look-up does not depend on the order of the entries -/
theorem lookup_valperm {k : Str} {kvs mid kvs' : Entries} (hw : (Val.map kvs).wf = true)
    (p : List.Perm kvs mid) (h : EntAll2 ValPerm mid kvs') :
    (lookup k kvs = none ∧ lookup k kvs' = none)
      ∨ ∃ v w, lookup k kvs = some v ∧ lookup k kvs' = some w ∧ ValPerm v w := by
  rw [← lookup_eq_of_perm p.symm (Val.nodup_keys_of_wf hw)]
  exact lookup_entAll2 h

theorem entAll2_values {R : Val → Val → Prop} {mid kvs' : Entries} (h : EntAll2 R mid kvs') :
    All2 R (mid.map (·.2)) (kvs'.map (·.2)) := by
  induction h with
  | nil => exact .nil
  | cons k hvw _ ih => exact .cons hvw ih

theorem selKey_valperm (k : Str) {m m' : Val} (hw : m.wf = true) (h : ValPerm m m') :
    All2 ValPerm (selKey k m) (selKey k m') := by
  cases h with
  | refl => exact all2_refl _
  | list _ => exact .nil
  | map p a =>
    simp only [selKey]
    rcases lookup_valperm (k := k) hw p a with ⟨h1, h2⟩ | ⟨v, w, h1, h2, hvw⟩
    · rw [h1, h2]; exact .nil
    · rw [h1, h2]; exact .cons hvw .nil

/-- a key step keeps the ORDER of the answers -/
theorem stepKey_valperm (k : Str) {m m' : Val} (hw : m.wf = true) (h : ValPerm m m') :
    All2 ValPerm (stepKey k m) (stepKey k m') := by
  cases h with
  | refl => exact all2_refl _
  | list f =>
    simp only [stepKey]
    exact all2_flatMap_rel .nil all2_append f fun a b ha hab =>
      selKey_valperm k (hered_wf.list hw a ha) hab
  | map p a => exact selKey_valperm k hw (.map p a)

theorem values_permR {kvs mid kvs' : Entries} (p : List.Perm kvs mid)
    (a : EntAll2 ValPerm mid kvs') : PermR (kvs.map (·.2)) (kvs'.map (·.2)) :=
  ⟨mid.map (·.2), p.map _, entAll2_values a⟩

theorem wildMember_valperm {m m' : Val} (h : ValPerm m m') :
    PermR (wildMember m) (wildMember m') := by
  cases h with
  | refl => exact PermR.refl _
  | list f => exact PermR.of_all2 (.cons (.list f) .nil)
  | map p a => exact values_permR p a

theorem stepWild_valperm {m m' : Val} (h : ValPerm m m') :
    PermR (stepWild m) (stepWild m') := by
  cases h with
  | refl => exact PermR.refl _
  | list f =>
    rw [stepWild_list, stepWild_list]
    exact all2_flatMap_rel (PermR.refl []) PermR.append f fun a b _ hab => wildMember_valperm hab
  | map p a => exact values_permR p a

theorem plainStep_key_valperm (k : Str) (hk : k ≠ ['*']) {m m' : Val} (hw : m.wf = true)
    (h : ValPerm m m') : All2 ValPerm (stepFn (plainStep k) m) (stepFn (plainStep k) m') := by
  unfold plainStep
  simp only [hk, if_false]; exact stepKey_valperm k hw h

theorem plainStep_valperm (k : Str) {m m' : Val} (hw : m.wf = true) (h : ValPerm m m') :
    PermR (stepFn (plainStep k) m) (stepFn (plainStep k) m') := by
  by_cases hk : k = ['*']
  · simp only [plainStep, hk, if_true]; exact stepWild_valperm h
  · exact PermR.of_all2 (plainStep_key_valperm k hk hw h)

theorem obs_valperm {v w : Val} (h : ValPerm v w) : obs v = obs w := by
  cases h <;> rfl

theorem hasSubKeys_valperm {m m' : Val} (hw : m.wf = true) (h : ValPerm m m') (s : SubKeys) :
    hasSubKeys m s = hasSubKeys m' s := by
  cases h with
  | refl => rfl
  | list _ => simp [hasSubKeys]
  | map p a =>
    refine hasSubKeys_congr_obs (fun k => ?_) s
    rcases lookup_valperm (k := k) hw p a with ⟨h1, h2⟩ | ⟨v, w, h1, h2, hvw⟩
    · rw [h1, h2]
    · rw [h1, h2]; exact congrArg some (obs_valperm hvw)

theorem passSubs_valperm (subs : Option SubKeys) {m m' : Val} (hw : m.wf = true)
    (h : ValPerm m m') : passSubs subs m = passSubs subs m' := by
  cases subs with
  | none => rfl
  | some s => exact hasSubKeys_valperm hw h s

theorem all2_filter {q : Val → Bool} {l l' : List Val} (f : All2 ValPerm l l')
    (hq : ∀ a b, a ∈ l → ValPerm a b → q a = q b) :
    All2 ValPerm (l.filter q) (l'.filter q) := by
  induction f with
  | nil => exact .nil
  | @cons a b l l' hab _ ih =>
    have e := hq a b (by simp) hab
    have ih' := ih (fun x y hx hxy => hq x y (List.mem_cons_of_mem _ hx) hxy)
    simp only [List.filter_cons, ← e]
    cases q a
    · simpa using ih'
    · simpa using All2.cons hab ih'

theorem loadLeaf_valperm (subs : Option SubKeys) {m m' : Val} (hw : m.wf = true)
    (h : ValPerm m m') : All2 ValPerm (loadLeaf subs m) (loadLeaf subs m') := by
  cases h with
  | refl => exact all2_refl _
  | list f =>
    simp only [loadLeaf]
    exact all2_filter f (fun a b ha hab => passSubs_valperm subs (hered_wf.list hw a ha) hab)
  | map p a =>
    simp only [loadLeaf, ← passSubs_valperm subs hw (.map p a)]
    cases passSubs subs (.map _)
    · simpa using All2.nil
    · simpa using All2.cons (ValPerm.map p a) .nil

theorem walk_valperm (subs : Option SubKeys) : ∀ (ks : List Str) {m m' : Val},
    m.wf = true → ValPerm m m' → PermR (walk subs m ks) (walk subs m' ks)
  | [], m, m', hw, h => by
    rw [walk_nil, walk_nil]; exact PermR.of_all2 (loadLeaf_valperm subs hw h)
  | k :: ks, m, m', hw, h => by
    rw [walk_step, walk_step]
    exact PermR.flatMap (plainStep_valperm k hw h)
      (fun a b ha hab => walk_valperm subs ks (hered_wf.stepFn _ hw a ha) hab)

theorem walk_valperm_ordered (subs : Option SubKeys) : ∀ (ks : List Str) {m m' : Val},
    (∀ k ∈ ks, k ≠ ['*']) → m.wf = true → ValPerm m m' →
    All2 ValPerm (walk subs m ks) (walk subs m' ks)
  | [], m, m', _, hw, h => by
    rw [walk_nil, walk_nil]; exact loadLeaf_valperm subs hw h
  | k :: ks, m, m', hk, hw, h => by
    rw [walk_step, walk_step]
    exact all2_flatMap_rel .nil all2_append (plainStep_key_valperm k (hk k (by simp)) hw h)
      fun a b ha hab => walk_valperm_ordered subs ks
        (fun k' hk' => hk k' (List.mem_cons_of_mem _ hk')) (hered_wf.stepFn _ hw a ha) hab

end Mxj
