/-
  Mxj.Lemmas.Path — the walker `walk` is the frontier semantics `Denote.run`, step by step
  (`stepFn`, `run_cons`, `walk_step`, `walk_front`, `walk_eq_run`), and what the leaf case `loadLeaf`
  is with and without sub-keys.  Before that a few `flatMap` lemmas the later modules share; after it
  what a sub-key condition can see of a value (`obs`), that a parsed sub-key argument is never the
  empty map, and `shortestOf`.
-/
import Mxj.Model.Denote
import Mxj.Model.KeySpec
import Mxj.Lemmas.Assoc
namespace Mxj
open Denote

theorem flatMap_congr_mem {α β} {l : List α} {f g : α → List β} (h : ∀ a ∈ l, f a = g a) :
    l.flatMap f = l.flatMap g := by
  rw [List.flatMap_def, List.flatMap_def, List.map_congr_left h]

theorem flatMap_filter_eq {α β} (p : α → Bool) (f : α → List β) (l : List α) :
    (l.filter p).flatMap f = l.flatMap (fun x => if p x then f x else []) := by
  induction l with
  | nil => rfl
  | cons a l ih => cases h : p a <;> simp [h, ih]

theorem flatMap_filter_not {α β} (p : α → Bool) (f : α → List β) (l : List α) :
    (l.filter fun a => !p a).flatMap f = l.flatMap fun a => if p a = true then [] else f a := by
  rw [flatMap_filter_eq]
  congr 1; funext a
  cases p a <;> rfl

theorem flatMap_filterMap {α β γ} (f : α → Option β) (g : β → List γ) : ∀ l : List α,
    (l.filterMap f).flatMap g = l.flatMap fun a => (f a).elim [] g
  | [] => rfl
  | a :: l => by
      cases h : f a <;> simp [h, flatMap_filterMap f g l]

theorem perm_append_swap_middle {α} (a b c d : List α) : ((a ++ b) ++ (c ++ d)).Perm ((a ++ c) ++ (b ++ d)) := by
  simp only [List.append_assoc]
  exact (List.perm_append_comm_assoc b c d).append_left a

theorem flatMap_append_fun_perm {α β} (g h : α → List β) : ∀ l : List α,
    (l.flatMap fun b => g b ++ h b).Perm (l.flatMap g ++ l.flatMap h)
  | [] => by simp
  | b :: l => by
      simp only [List.flatMap_cons]
      exact (List.Perm.append_left _ (flatMap_append_fun_perm g h l)).trans (perm_append_swap_middle _ _ _ _)

theorem flatMap_swap_perm {α β γ} (f : α → β → List γ) (l2 : List β) : ∀ l1 : List α,
    (l1.flatMap fun a => l2.flatMap (f a)).Perm (l2.flatMap fun b => l1.flatMap fun a => f a b)
  | [] => by simp
  | a :: l1 => by
      simp only [List.flatMap_cons]
      exact (List.Perm.append_left _ (flatMap_swap_perm f l2 l1)).trans
        (flatMap_append_fun_perm (f a) (fun b => l1.flatMap fun a => f a b) l2).symm

theorem nodup_map_on {α β} (f : α → β) (l : List α)
    (hinj : ∀ a ∈ l, ∀ b ∈ l, f a = f b → a = b) (h : l.Nodup) : (l.map f).Nodup :=
  List.pairwise_map.2 (h.imp_of_mem fun ha hb hne e => hne (hinj _ ha _ hb e))

/-- the per-value function of one frontier step -/
def stepFn : Step → Val → List Val
  | .key k => stepKey k
  | .wild => stepWild
  | .idx k i => fun v => (expand v).flatMap (pick k i)

theorem run_cons (s : Step) (rest : List Step) (fr : List Val) :
    run (s :: rest) fr = run rest (fr.flatMap (stepFn s)) := by
  cases s <;> simp only [run, stepFn, List.flatMap_assoc]

theorem stepFn_scalar (s : Step) (v : Val) (hm : v.isMap = false) (hl : v.isList = false) :
    stepFn s v = [] := by
  cases v <;> first | exact Bool.noConfusion hm | exact Bool.noConfusion hl | (cases s <;> rfl)

theorem stepKey_notList (k : Str) (v : Val) (hl : v.isList = false) : stepKey k v = selKey k v := by
  cases v <;> first | exact Bool.noConfusion hl | rfl

/-- the wildcard on one list member -/
def wildMember (x : Val) : List Val :=
  match x with
  | .map kvs => kvs.map (·.2)
  | y => [y]

theorem stepWild_list (xs : List Val) : stepWild (.list xs) = xs.flatMap wildMember := by
  simp only [stepWild]; congr 1

theorem walk_nil (subs : Option SubKeys) (m : Val) : walk subs m [] = loadLeaf subs m := by
  cases m <;> simp [walk]

theorem walk_step (subs : Option SubKeys) (k : Str) (ks : List Str) (m : Val) :
    walk subs m (k :: ks) = (stepFn (plainStep k) m).flatMap (fun v => walk subs v ks) := by
  cases m with
  | map kvs =>
    unfold plainStep
    by_cases hk : k = ['*']
    · simp only [walk, hk, if_true, stepFn, stepWild, selAll, List.flatMap_map]
    · simp only [walk, hk, if_false, stepFn, stepKey, selKey]
      cases lookup k kvs <;> simp
  | list xs =>
    unfold plainStep
    by_cases hk : k = ['*']
    · simp only [walk, hk, if_true, stepFn, stepWild, List.flatMap_assoc]
      congr 1; funext x
      cases x <;> simp [List.flatMap_map]
    · simp only [walk, hk, if_false, stepFn, stepKey, List.flatMap_assoc]
      congr 1; funext x
      cases x with
      | map kvs => simp only [selKey]; cases lookup k kvs <;> simp
      | _ => simp [selKey]
  | _ => rw [stepFn_scalar _ _ rfl rfl]; simp [walk]

/-- for the walker too a list stands for its members: a member that is a map is walked as that
    map would be; another member is entered under `*` and yields nothing under a plain key -/
theorem walk_list (sk : Option SubKeys) (xs : List Val) (k : Str) (ks : List Str) :
    walk sk (.list xs) (k :: ks) = xs.flatMap fun x =>
      if x.isMap then walk sk x (k :: ks) else if k = ['*'] then walk sk x ks else [] := by
  by_cases hk : k = ['*'] <;> simp only [walk, hk, if_true, if_false] <;>
    exact flatMap_congr_mem fun x _ => by cases x <;> simp [Val.isMap, walk, hk]

theorem walk_scalar (subs : Option SubKeys) (v : Val) (ks : List Str) (hne : ks ≠ [])
    (hm : v.isMap = false) (hl : v.isList = false) : walk subs v ks = [] := by
  cases ks with
  | nil => exact absurd rfl hne
  | cons k ks => rw [walk_step, stepFn_scalar _ v hm hl]; rfl

/-- stated for every frontier, so that the induction on the path goes through -/
theorem walk_front (subs : Option SubKeys) (ks : List Str) : ∀ fr : List Val,
    fr.flatMap (fun m => walk subs m ks)
      = (run (ks.map plainStep) fr).flatMap (loadLeaf subs) := by
  induction ks with
  | nil => intro fr; simp [walk_nil, run]
  | cons k ks ih =>
    intro fr
    rw [List.map_cons, run_cons, ← ih]
    simp only [walk_step, List.flatMap_assoc]

theorem walk_eq_run (subs : Option SubKeys) (m : Val) (ks : List Str) :
    walk subs m ks = (run (ks.map plainStep) [m]).flatMap (loadLeaf subs) := by
  simpa using walk_front subs ks [m]

theorem lastIsIdx_cons2 (a b : Step) (rest : List Step) :
    lastIsIdx (a :: b :: rest) = lastIsIdx (b :: rest) := by
  cases a <;> rfl

theorem lastIsIdx_append (a b : List Step) (hb : b ≠ []) : lastIsIdx (a ++ b) = lastIsIdx b := by
  cases b with
  | nil => exact absurd rfl hb
  | cons s b =>
    induction a with
    | nil => rfl
    | cons t a ih => cases a <;> exact (lastIsIdx_cons2 _ _ _).trans ih

theorem lastIsIdx_plain (ks : List Str) : lastIsIdx (ks.map plainStep) = false := by
  induction ks with
  | nil => rfl
  | cons k ks ih =>
    cases ks with
    | nil =>
      show lastIsIdx [plainStep k] = false
      unfold plainStep; split <;> rfl
    | cons k' ks' =>
      simp only [List.map_cons] at ih ⊢
      rw [lastIsIdx_cons2]; exact ih

theorem expand_notList (x : Val) (h : x.isList = false) : expand x = [x] := by
  cases x <;> simp_all [expand, Val.isList]

theorem flatMap_expand_of_notList (ws : List Val) (h : ∀ w ∈ ws, w.isList = false) :
    ws.flatMap expand = ws := by
  rw [flatMap_congr_mem (g := fun w => [w]) fun w hw => expand_notList w (h w hw)]
  simp

theorem loadLeaf_none (v : Val) : loadLeaf none v = expand v := by
  cases v <;> simp [loadLeaf, expand, passSubs]

/-- `KeySpec.members` (like `Wrapper.wLeaf`) is `expand` under another name -/
theorem members_eq_expand : KeySpec.members = expand := rfl

theorem loadLeaf_none_notList (v : Val) (h : v.isList = false) : loadLeaf none v = [v] := by
  rw [loadLeaf_none, expand_notList v h]

theorem walk_none (m : Val) (ks : List Str) :
    walk none m ks = (run (ks.map plainStep) [m]).flatMap expand := by
  rw [walk_eq_run]; congr 1; funext v; exact loadLeaf_none v

theorem hasSubKeys_nil (v : Val) : hasSubKeys v [] = true := by
  simp [hasSubKeys]

theorem loadLeaf_some (s : SubKeys) (hs : s ≠ []) (v : Val) :
    loadLeaf (some s) v = (expand v).filter (fun x => hasSubKeys x s) := by
  cases v with
  | map kvs => simp only [loadLeaf, expand, passSubs, List.filter_cons, List.filter_nil]; rfl
  | list xs => rfl
  | _ => cases s <;> first | exact absurd rfl hs | rfl

/-- what a sub-key condition can see of a value: a scalar, which no list, map or nil equals -/
def obs : Val → Option SubVal
  | .str s => some (.str s)
  | .bool b => some (.bool b)
  | .num t => some (.num t)
  | _ => none

/-- a condition reads the entries through one `lookup`, and what it finds as `obs` shows it -/
theorem subCond_congr_obs {a b : Entries} (h : ∀ k, (lookup k a).map obs = (lookup k b).map obs)
    (skey : Str) (sval : SubVal) : subCond a skey sval = subCond b skey sval := by
  unfold subCond
  have hk := h (if hasPrefix ['!'] skey then skey.drop 1 else skey)
  simp only
  generalize lookup _ a = oa at hk ⊢
  generalize lookup _ b = ob at hk ⊢
  cases oa with
  | none => cases ob with
    | none => rfl
    | some w => cases hk
  | some v => cases ob with
    | none => cases hk
    | some w =>
      simp only [Option.map_some, Option.some.injEq] at hk
      cases v <;> cases w <;> cases hk <;> cases sval <;> rfl

theorem hasSubKeys_congr_obs {a b : Entries}
    (h : ∀ k, (lookup k a).map obs = (lookup k b).map obs) (subs : SubKeys) :
    hasSubKeys (.map a) subs = hasSubKeys (.map b) subs := by
  simp only [hasSubKeys, subCond_congr_obs h]

theorem put_ne_nil (k : Str) (v : SubVal) (acc : SubKeys) : acc.put k v ≠ [] := by
  cases acc with
  | nil => simp [SubKeys.put]
  | cons e rest => obtain ⟨k', v'⟩ := e; simp only [SubKeys.put]; split <;> simp

theorem getSubKeyMap_ne_nil (sep : Str) (pf : Str → Option Str) (kv : List Str) (acc : SubKeys) :
    ∀ s, (kv ≠ [] ∨ acc ≠ []) → getSubKeyMap sep pf kv acc = .ok s → s ≠ [] := by
  fun_induction getSubKeyMap sep pf kv acc <;> intro s h0 h
  case case1 => cases h; simpa using h0
  -- an error branch, or a recursive call on a non-empty accumulator
  all_goals first
    | cases h
    | (rename_i ih; exact ih s (Or.inr (put_ne_nil _ _ _)) h)

theorem subKeyArg_some_ne_nil (sep : Str) (pf : Str → Option Str) (subkeys : List Str) (s : SubKeys) :
    subKeyArg sep pf subkeys = .ok (some s) → s ≠ [] := by
  fun_cases subKeyArg sep pf subkeys with
  | case2 hne s' hs =>
    intro h; cases h
    exact getSubKeyMap_ne_nil sep pf subkeys [] s (Or.inl fun e => hne (e ▸ rfl)) hs
  | case1 | case3 => nofun

theorem foldl_shortest : ∀ (ps : List Str) (p r : Str),
    ps.foldl (fun best q => if segCount q < segCount best then q else best) p = r →
    r ∈ p :: ps ∧ ∀ q ∈ p :: ps, segCount r ≤ segCount q
  | [], p, r, h => by cases h; simp
  | a :: ps, p, r, h => by
    obtain ⟨hm, hle⟩ := foldl_shortest ps (if segCount a < segCount p then a else p) r h
    have hp := hle _ List.mem_cons_self
    have hps : ∀ q ∈ ps, segCount r ≤ segCount q := fun q hq => hle q (List.mem_cons_of_mem _ hq)
    simp only [List.mem_cons, forall_eq_or_imp] at hm ⊢
    by_cases hlt : segCount a < segCount p <;> simp only [hlt, if_true, if_false] at hm hp
    · exact ⟨Or.inr hm, Nat.le_trans hp (Nat.le_of_lt hlt), hp, hps⟩
    · exact ⟨hm.elim Or.inl fun h => Or.inr (Or.inr h), hp, Nat.le_trans hp (Nat.le_of_not_lt hlt), hps⟩

theorem shortestOf_mem (ps : List Str) (h : ps ≠ []) : shortestOf ps ∈ ps := by
  cases ps with
  | nil => exact absurd rfl h
  | cons p ps => exact (foldl_shortest ps p _ rfl).1

theorem shortestOf_le (ps : List Str) (r : Str) (h : r ∈ ps) :
    segCount (shortestOf ps) ≤ segCount r := by
  cases ps with
  | nil => cases h
  | cons p ps => exact (foldl_shortest ps p _ rfl).2 r h

end Mxj
