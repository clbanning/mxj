/-
  Mxj.Lemmas.StreamBytes — helper lemmas for Props/C13ExtBytes: the tee adaptor pulled `k`
  times (`teeDrain`), its buffer = the bytes delivered, and the bytes delivered by `k` pulls =
  the first `k` data bytes of the schedule, for EVERY schedule.
-/
import Mxj.Lemmas.Stream
namespace Mxj.Stream
open Mxj

/-- `teeReader.ReadByte()` called until its first error, at most `k` times: the bytes
    delivered, the error, and the capture buffer (started at `w`) -/
def teeDrain : Nat → Str → Sched → Str × RdErr × Str
  | 0, w, _ => ([], .other, w)
  | f + 1, w, s => match teeReadByte w s with
      | (.ok b, rest, w') => let (bs, e, w'') := teeDrain f w' rest; (b :: bs, e, w'')
      | (.error e, _, w') => ([], e, w')

theorem teeDrain_eq : ∀ (k : Nat) (w : Str) (s : Sched),
    teeDrain k w s = ((drain k s).1, (drain k s).2, w ++ (drain k s).1) := by
  intro k
  induction k with
  | zero => intro w s; simp [teeDrain, drain]
  | succ f ih =>
    intro w s
    unfold teeDrain drain teeReadByte
    cases h : readByte s with
    | mk r rest =>
      cases r with
      | error e => simp
      | ok b => simp [ih (w ++ [b]) rest]

theorem drain_take (s : Sched) (k : Nat) : (drain k s).1 = (bytesOf (upToEnd s)).take k := by
  fun_induction drain k s with
  | case1 => simp
  | case2 f s b rest hr bs e hd ih => simpa [(readByte_ok hr).1, hd] using ih
  | case3 f s e rest hr => simp [readByte_error hr]

end Mxj.Stream
