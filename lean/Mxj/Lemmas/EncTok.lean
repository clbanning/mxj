/-
  Mxj.Lemmas.EncTok — from the encoder's trees to well-formed token streams.  `balGo_flatten`:
  inside an open element the tokens of a whole subtree leave the state of the `balanced` checker
  (Model/Balanced.lean) unchanged, so every element tree is balanced.  `ValNamed`: an executable
  predicate on the VALUE under which every tree the encoder builds is `WellNamed`
  (`encTree_wellNamed`), stable under normalisation.  `tokValues`: the values a token stream
  carries are the values of the tree.  Used by Props/C03ExtTok.lean and Props/C05ExtTok.lean.
-/
import Mxj.Lemmas.Encode
import Mxj.Lemmas.Decode
import Mxj.Lemmas.IndentCor
import Mxj.Model.Balanced
namespace Mxj.EncTok
open Mxj Mxj.Enc

theorem balGo_flattenKids (ks : List Node) : ∀ (o : Str × Str) (st : List (Str × Str)) (r : Nat)
    (rest : List Tok), balGo (o :: st) r (flattenKids ks ++ rest) = balGo (o :: st) r rest := by
  induction ks using Node.forest_ind with
  | nil => exact fun _ _ _ _ => rfl
  | elem sp nm as ks r ihk ihr =>
    intro o st r rest
    simp [flattenKids, flatten, balGo, ihk, ihr]
  | text _ r ih | comment _ r ih | procinst _ _ r ih | directive _ r ih =>
    -- inside an open element the checker passes over a token that is no tag
    exact ih

theorem balGo_flatten : ∀ (n : Node) (o : Str × Str) (st : List (Str × Str)) (r : Nat)
    (rest : List Tok), balGo (o :: st) r (flatten n ++ rest) = balGo (o :: st) r rest :=
  fun n o st r rest => by simpa [flattenKids] using balGo_flattenKids [n] o st r rest

/-- at top level a whole element tree is one root: admitted only while none has been seen, and
    counted -/
theorem balGo_root (sp name : Str) (attrs : List Attr) (kids : List Node) (r : Nat)
    (rest : List Tok) :
    balGo [] r (flatten (.elem sp name attrs kids) ++ rest) = (r == 0 && balGo [] (r + 1) rest) := by
  simp [flatten, balGo, balGo_flattenKids]

/-- the values a token stream carries, in stream order: the attribute values of its start tags
    and its character data -/
def tokValues : List Tok → List Str
  | [] => []
  | .start _ _ as :: ts => attrValues as ++ tokValues ts
  | .text s :: ts => s :: tokValues ts
  | _ :: ts => tokValues ts

theorem tokValues_append : ∀ (a b : List Tok), tokValues (a ++ b) = tokValues a ++ tokValues b
  | [], b => rfl
  | t :: ts, b => by cases t <;> simp [tokValues, tokValues_append ts b]

mutual
theorem tokValues_flatten : ∀ (n : Node), tokValues (flatten n) = nodeValues n
  | .elem sp nm as ks => by
      simp only [flatten, tokValues, tokValues_append, nodeValues, tokValues_flattenKids ks,
        List.append_nil]
  | .text _ | .comment _ | .procinst _ _ | .directive _ => rfl
theorem tokValues_flattenKids : ∀ (ks : List Node), tokValues (flattenKids ks) = nodeValuesKids ks
  | [] => rfl
  | k :: ks => by
      simp only [flattenKids, tokValues_append, nodeValuesKids, tokValues_flatten k,
        tokValues_flattenKids ks]
end

/-- a value under an attribute key: one the encoder accepts there (`encAttr`: a scalar, `attrValue`)
    and whose text is made of XML characters -/
def attrNamed (v : Val) : Bool :=
  match attrValue v with
  | some s => xmlCharsOk s
  | none => false

/-- the value under the text key: what the encoder writes for it (`leafText`, the text child of
    `textT`) is not empty (an empty text node is not `WellNamed`) and made of XML characters -/
def textNamed (v : Val) : Bool := !(leafText v).isEmpty && xmlCharsOk (leafText v)

mutual
/-- the value-level counterpart of `WellNamed` (default options): every element key is a
    (colon-free ASCII) XML name, every attribute key is the prefix followed by an XML name,
    and every string / number text holds only XML characters other than '\r' (numbers:
    non-empty) -/
def ValNamed : Val → Bool
  | .null => true
  | .bool _ => true
  | .num t => !(numText t).isEmpty && xmlCharsOk (numText t)
  | .str s => xmlCharsOk s
  | .list xs => ValNamedList xs
  | .map kvs => ValNamedEntries kvs
def ValNamedList : List Val → Bool
  | [] => true
  | x :: xs => ValNamed x && ValNamedList xs
def ValNamedEntries : Entries → Bool
  | [] => true
  | (k, v) :: rest =>
      (if isAttrK ec k then xmlNameOk (k.drop ec.attrPrefix.length) && attrNamed v
       else if k = ec.textK then textNamed v
       else xmlNameOk k && ValNamed v) && ValNamedEntries rest
end

/-- the test `ValNamedEntries` applies to each entry -/
def entryNamed (e : Str × Val) : Bool :=
  if isAttrK ec e.1 then xmlNameOk (e.1.drop ec.attrPrefix.length) && attrNamed e.2
  else if e.1 = ec.textK then textNamed e.2
  else xmlNameOk e.1 && ValNamed e.2

theorem ValNamedEntries_iff : ∀ (l : Entries),
    ValNamedEntries l = true ↔ ∀ e ∈ l, entryNamed e = true
  | [] => by simp [ValNamedEntries]
  | (k, v) :: rest => by
      simp only [ValNamedEntries, Bool.and_eq_true, ValNamedEntries_iff rest, List.mem_cons,
        forall_eq_or_imp, entryNamed]

theorem wellNamedKids_iff : ∀ (ks : List Node),
    wellNamedKids ks = true ↔ ∀ k ∈ ks, wellNamedNode k = true
  | [] => by simp [wellNamedKids]
  | k :: ks => by simp [wellNamedKids, wellNamedKids_iff ks]

theorem attrsT_named : ∀ (kvs : Entries), ValNamedEntries kvs = true →
    (attrsT ec kvs).all (fun a => a.space.isEmpty && xmlNameOk a.name && xmlCharsOk a.value) = true
  | [], _ => rfl
  | (k, v) :: rest, hv => by
      simp only [ValNamedEntries, Bool.and_eq_true] at hv
      simp only [attrsT]
      split
      · rename_i hk
        simp only [hk, if_true, Bool.and_eq_true] at hv
        cases hav : attrValue v with
        | none => simp [attrNamed, hav] at hv
        | some s =>
          have hs : xmlCharsOk s = true := by simpa [attrNamed, hav] using hv.1.2
          simp only [List.all_cons, attrT, hav, Option.getD_some, Bool.and_eq_true,
            List.isEmpty_nil, true_and]
          exact ⟨⟨hv.1.1, hs⟩, attrsT_named rest hv.2⟩
      · exact attrsT_named rest hv.2

theorem textT_named (kvs : Entries) (hv : ValNamedEntries kvs = true) :
    ∀ k ∈ textT ec kvs, wellNamedNode k = true := by
  unfold textT
  cases hl : lookup ec.textK kvs with
  | none => intro k hk; simp at hk
  | some tv =>
    intro k hk
    simp only [List.mem_singleton] at hk
    subst hk
    have := (ValNamedEntries_iff kvs).1 hv _ (mem_of_lookup hl)
    simpa [entryNamed, textK_not_attr, textNamed, wellNamedNode] using this

theorem named_leaf (key t : Str) (hk : xmlNameOk key = true) (ht : t.isEmpty = false)
    (hc : xmlCharsOk t = true) : wellNamedNode (.elem [] key [] [.text t]) = true := by
  simp [wellNamedNode, wellNamedKids, hk, ht, hc]

theorem named_empty (key : Str) (hk : xmlNameOk key = true) :
    wellNamedNode (.elem [] key [] []) = true := by
  simp [wellNamedNode, wellNamedKids, hk]

mutual
/-- names and characters of the encoder's trees; that no two text nodes are adjacent is
    `encT_adjOk` -/
theorem encT_named : ∀ (key : Str) (v : Val), xmlNameOk key = true → ValNamed v = true →
    ∀ n ∈ encT ec key v, wellNamedNode n = true
  | key, .null, hk, _ | key, .str [], hk, _ | key, .list [], hk, _ =>
      List.forall_mem_singleton.2 (named_empty key hk)
  | key, .str (c :: s), hk, hv =>
      List.forall_mem_singleton.2 (named_leaf key _ hk rfl hv)
  | key, .bool true, hk, _ | key, .bool false, hk, _ =>
      List.forall_mem_singleton.2 (named_leaf key _ hk rfl (by decide))
  | key, .num t, hk, hv => by
      simp only [ValNamed, Bool.and_eq_true, Bool.not_eq_true'] at hv
      exact List.forall_mem_singleton.2 (named_leaf key _ hk hv.1 hv.2)
  | key, .list (x :: xs), hk, hv => membersT_named key (x :: xs) hk hv
  | key, .map vv, hk, hv => by
      refine List.forall_mem_singleton.2 ?_
      simp only [wellNamedNode, List.isEmpty_nil, hk, attrsT_named vv hv, Bool.true_and,
        wellNamedKids_iff]
      intro k hkm
      exact (List.mem_append.1 hkm).elim (textT_named vv hv k) (elemsT_named vv hv k)
theorem membersT_named (key : Str) : ∀ (xs : List Val), xmlNameOk key = true →
    ValNamedList xs = true → ∀ n ∈ membersT ec key xs, wellNamedNode n = true
  | [], _, _ => fun _ h => nomatch h
  | x :: xs, hk, hv => by
      simp only [ValNamedList, Bool.and_eq_true] at hv
      exact fun n hn => (List.mem_append.1 hn).elim (encT_named key x hk hv.1 n)
        (membersT_named key xs hk hv.2 n)
theorem elemsT_named : ∀ (kvs : Entries), ValNamedEntries kvs = true →
    ∀ n ∈ elemsT ec kvs, wellNamedNode n = true
  | [], _ => fun _ h => nomatch h
  | (k, v) :: rest, hv => by
      simp only [ValNamedEntries, Bool.and_eq_true] at hv
      simp only [elemsT]
      split
      · exact elemsT_named rest hv.2
      · rename_i hk
        simp only [Bool.or_eq_true, decide_eq_true_eq, not_or, Bool.not_eq_true] at hk
        have h1 := hv.1
        simp only [hk.2, Bool.false_eq_true, if_false, hk.1, Bool.and_eq_true] at h1
        exact fun n hn => (List.mem_append.1 hn).elim (encT_named k v h1.1 h1.2 n)
          (elemsT_named rest hv.2 n)
end

theorem wellNamed_of_named_adjOk {ns : List Node} (h1 : ∀ n ∈ ns, wellNamedNode n = true)
    (h2 : AdjOk ns) : ∀ n ∈ ns, WellNamed n = true := fun n hn => by
  simp only [WellNamed, h1 n hn, (h2 n hn).2, Bool.and_self]

theorem encTree_wellNamed (key : Str) (v : Val) (ns : List Node) (hk : xmlNameOk key = true)
    (hv : ValNamed v = true) (h : encTree ec key v = .ok ns) : ∀ n ∈ ns, WellNamed n = true :=
  encTree_inv textK_not_attr h ▸
    wellNamed_of_named_adjOk (encT_named key v hk hv) (encT_adjOk ec key v)

theorem encMembers_wellNamed (key : Str) : ∀ (xs : List Val) (ns : List Node),
    xmlNameOk key = true → ValNamedList xs = true → encMembers ec key xs = .ok ns →
    ∀ n ∈ ns, WellNamed n = true := fun xs _ hk hv h =>
  encMembers_inv textK_not_attr h ▸
    wellNamed_of_named_adjOk (membersT_named key xs hk hv) (membersT_adjOk ec key xs)

theorem encElems_wellNamed : ∀ (kvs : Entries) (ns : List Node),
    ValNamedEntries kvs = true → encElems ec kvs = .ok ns → ∀ n ∈ ns, WellNamed n = true :=
  fun kvs _ hv h =>
  encElems_inv textK_not_attr h ▸
    wellNamed_of_named_adjOk (elemsT_named kvs hv) (elemsT_adjOk ec kvs)

/-! ### `ValNamed` under normalisation (the encoder walks `v.norm`: entries sorted by key) -/

theorem attrNamed_norm (v : Val) : attrNamed v.norm = attrNamed v := by
  unfold attrNamed; rw [attrValue_norm]
theorem textNamed_norm (v : Val) : textNamed v.norm = textNamed v := by
  unfold textNamed; rw [leafText_norm]

mutual
theorem ValNamed_norm : ∀ (v : Val), ValNamed v = true → ValNamed v.norm = true
  | .null, _ => rfl
  | .bool _, _ => rfl
  | .num _, h => h
  | .str _, h => h
  | .list xs, h => ValNamedList_norm xs h
  | .map kvs, h => entrywise_sortByKey ValNamedEntries_iff (ValNamedEntries_norm kvs h)
theorem ValNamedList_norm : ∀ (xs : List Val), ValNamedList xs = true →
    ValNamedList (Val.normList xs) = true
  | [], _ => rfl
  | x :: xs, h => by
      simp only [ValNamedList, Bool.and_eq_true] at h
      simp only [Val.normList, ValNamedList, ValNamed_norm x h.1, ValNamedList_norm xs h.2,
        Bool.and_self]
theorem ValNamedEntries_norm : ∀ (kvs : Entries), ValNamedEntries kvs = true →
    ValNamedEntries (Val.normEntries kvs) = true
  | [], _ => rfl
  | (k, v) :: rest, h => by
      simp only [ValNamedEntries, Bool.and_eq_true] at h
      simp only [Val.normEntries, ValNamedEntries, Bool.and_eq_true, attrNamed_norm,
        textNamed_norm]
      refine ⟨?_, ValNamedEntries_norm rest h.2⟩
      -- the same tests on the key before and after; only an element entry's value changes
      have h1 := h.1
      revert h1
      split
      · exact id
      split
      · exact id
      · simp only [Bool.and_eq_true]
        exact fun h1 => ⟨h1.1, ValNamed_norm v h1.2⟩
end

end Mxj.EncTok
