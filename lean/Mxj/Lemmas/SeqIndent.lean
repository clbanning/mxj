/-
  Mxj.Lemmas.SeqIndent (namespace `Mxj.SeqIL`) — the indented sequence encoder (`seqEncP`,
  `seqEncTreeL` of Mxj.Model.SeqIndent) against the compact one (`seqEnc`, `seqEncTree`), and the
  sequence decoder on the layout it writes.  Props/C04ExtIndent states these; Lemmas/IndentCor
  (order of map entries), Lemmas/SeqTok and Lemmas/CastSeq (runs of character data) build on them.
  The two indented encoders are instances `pieceAlg`, `layAlg` of the generic encoder of
  Lemmas/SeqEnc; every comparison of two encoders is one `Sim` between their algebras, which says
  operation by operation where they agree (`coreSim`, `paritySim`, `compactSim`, `stripSim`,
  `shapeSim`, `linkLSim`), and `Sim.enc` carries it to the runs.  The decoder part shows that
  blank character data, `normalize` and merged character data do not change what is decoded.
-/
import Mxj.Lemmas.Seq
import Mxj.Lemmas.Trim
import Mxj.Lemmas.TextRuns
import Mxj.Model.SeqIndent
namespace Mxj
namespace SeqIL
open Mxj.SeqL Mxj.Dec Mxj.SeqG

theorem outdent_indentStep (p : Pretty) : p.indentStep.outdent = p := by
  cases p
  simp [Pretty.indentStep, Pretty.outdent]

theorem shallower_deeper (p : Pretty) : p.deeper.shallower = p := rfl

/-! ### the loops of `seqEncP` are `seqAll` -/

/-- `Indent()` before a child and `Outdent()` after it, both under the same test -/
theorem step_back (b : Bool) (p : Pretty) :
    (if b = true then (if b = true then p.indentStep else p).outdent
      else if b = true then p.indentStep else p) = p := by
  cases b
  · rfl
  · exact outdent_indentStep p

/-- the loop over the children is `seqAll`, and hands back the state it was given -/
theorem seqKidsP_eq (c : SeqCfg) (esc ge di : Bool) (f : Nat) (p : Pretty)
    (kvs : List (Str × Val)) :
    seqKidsP c esc ge di f p kvs
      = (seqAll (fun e => seqEncP c esc ge di f
          (if di && !e.2.isList then p.indentStep else p) e.1 e.2) kvs).mapOk (fun a => (a, p)) := by
  induction kvs with
  | nil => simp only [seqKidsP, seqAll, Outcome.mapOk]
  | cons e rest ih =>
    obtain ⟨k, v⟩ := e
    simp only [seqKidsP, seqAll, step_back, ih]
    cases seqEncP c esc ge di f (if (di && !v.isList) = true then p.indentStep else p) k v with
    | ok a => cases seqAll _ rest <;> rfl
    | _ => rfl

theorem seqMembersP_eq (c : SeqCfg) (esc ge di : Bool) (f : Nat) (p : Pretty) (key : Str)
    (xs : List Val) :
    seqMembersP c esc ge di f p key xs
      = (seqAll (fun x => seqEncP c esc ge di f (if di then p.indentStep else p) key x)
          xs).mapOk (fun a => (a, p)) := by
  induction xs with
  | nil => simp only [seqMembersP, seqAll, Outcome.mapOk]
  | cons x xs ih =>
    simp only [seqMembersP, seqAll, step_back, ih]
    cases seqEncP c esc ge di f (if di = true then p.indentStep else p) key x with
    | ok a => cases seqAll _ xs <;> rfl
    | _ => rfl

/-- the clause for a list (`return nil`) forgets the state the loop hands back -/
theorem _root_.Mxj.Outcome.fstOk_mapOk {α β : Type} (o : Outcome α) (b : β) :
    (o.mapOk fun a => (a, b)).fstOk = o := by
  cases o <;> rfl

/-! ### the piece encoder as an instance -/

/-- `seqEncP`: every write between its padding and its newline, a child one level deeper.  In one
    place this is not the model's clause word for word: `around` writes the closing padding at `p`,
    the model at `p'.shallower`, `p'` the state its loop hands back after starting at `p.deeper`;
    they agree since the loop hands back what it was given (`seqKidsP_eq`) and
    `p.deeper.shallower = p` (`shallower_deeper`) -/
def pieceAlg (c : SeqCfg) (esc ge di : Bool) : Alg Pretty Str Piece where
  attrs := seqAttrsText c esc
  noAttrs := []
  txt := txtOf esc
  note p n := layPad di p ++ [.raw (renderSeq esc ge n.node)] ++ layEnd di p
  whole p key a t := layPad di p ++ [.raw ((bytesAlg c esc ge).whole () key a t)] ++ layEnd di p
  around p key a t kids :=
    layPad di p ++ [.raw ("<".toList ++ key ++ a ++ ">".toList ++ t)] ++ layNl di ++ kids
      ++ layPad di p ++ [.raw (closeTag key)] ++ layEnd di p
  str p key s :=
    let v := if esc then escapeChars s else s
    layPad di p ++ [.raw (ltKey c key ++ (if v.isEmpty then [] else ">".toList ++ v)
      ++ endOf { goEmpty := ge } key v.length)] ++ layEnd di p
  null p key := .ok (layPad di p ++ [.raw ("<".toList ++ key)] ++ layEnd di p)
  scalar p key t := layPad di p ++ [.raw (ltKey c key ++ ">".toList ++ t ++ closeTag key)]
    ++ layEnd di p
  kid p isList := if di && !isList then p.deeper.indentStep else p.deeper
  member p := if di then p.indentStep else p

theorem seqEncP_eq (c : SeqCfg) (esc ge di : Bool) : ∀ (f : Nat) (p : Pretty) (key : Str) (v : Val),
    seqEncP c esc ge di f p key v = enc (pieceAlg c esc ge di) c f p key v := by
  intro f
  induction f with
  | zero => intro p key v; simp only [seqEncP, enc]
  | succ f ih =>
    -- as an equation between functions the hypothesis rewrites under the binders of the loops
    have ih : seqEncP c esc ge di f = enc (pieceAlg c esc ge di) c f :=
      funext fun p => funext fun key => funext (ih p key)
    intro p key v
    cases v with
    | null | str _ | num _ => exact (seqEncP.eq_def ..).trans rfl
    | bool b => cases b <;> exact (seqEncP.eq_def ..).trans rfl
    | list xs =>
      rw [seqEncP, seqMembersP_eq, Outcome.fstOk_mapOk, enc, ih]
      rfl
    | map val =>
      rw [enc, ← ih]
      -- `seqEncP` tests `t.isEmpty` outside `.ok` and writes no empty text
      simp only [pieceAlg, bytesAlg, List.append_nil, List.isEmpty_nil, if_true,
        apply_ite fun s => Outcome.ok (layPad di p ++ [Piece.raw s] ++ layEnd di p)]
      rw [seqEncP, seqKidsP_eq]
      generalize seqAll _ _ = ko
      -- as in `seqEncTree_eq`, once the outcome of the children is known
      cases ko <;> set_option smartUnfolding false in rfl

/-! ### layout pieces only -/

theorem core_append (a b : List Piece) : Piece.core (a ++ b) = Piece.core a ++ Piece.core b := by
  induction a with
  | nil => rfl
  | cons x a ih => cases x <;> simp only [List.cons_append, Piece.core, ih, List.append_assoc]

theorem flat_append (a b : List Piece) : Piece.flat (a ++ b) = Piece.flat a ++ Piece.flat b := by
  induction a with
  | nil => rfl
  | cons x a ih => cases x <;> simp only [List.cons_append, Piece.flat, ih, List.append_assoc]

@[simp] theorem core_layPad (di : Bool) (p : Pretty) : Piece.core (layPad di p) = [] := by
  cases di <;> rfl
@[simp] theorem core_layNl (di : Bool) : Piece.core (layNl di) = [] := by cases di <;> rfl
@[simp] theorem core_layEnd (di : Bool) (p : Pretty) : Piece.core (layEnd di p) = [] := by
  unfold layEnd; split <;> rfl
@[simp] theorem layPad_false (p : Pretty) : layPad false p = [] := rfl
@[simp] theorem layNl_false : layNl false = [] := rfl
@[simp] theorem layEnd_false (p : Pretty) : layEnd false p = [] := rfl

/-- one write between its padding and its newline -/
theorem core_wrap (di : Bool) (p : Pretty) (s : Str) :
    Piece.core (layPad di p ++ [.raw s] ++ layEnd di p) = s := by
  simp only [core_append, core_layPad, core_layEnd, Piece.core, List.nil_append, List.append_nil]

theorem flat_wrap_false (p : Pretty) (s : Str) :
    Piece.flat (layPad false p ++ [.raw s] ++ layEnd false p) = s := by
  simp only [layPad_false, layEnd_false, Piece.flat, List.nil_append, List.append_nil]

/-- an element around its children -/
theorem core_frame (di : Bool) (p : Pretty) (o cl : Str) (kids : List Piece) :
    Piece.core (layPad di p ++ [.raw o] ++ layNl di ++ kids ++ layPad di p ++ [.raw cl] ++ layEnd di p)
      = o ++ Piece.core kids ++ cl := by
  simp only [core_append, core_layPad, core_layNl, core_layEnd, Piece.core, List.nil_append,
    List.append_nil]

theorem flat_frame_false (p : Pretty) (o cl : Str) (kids : List Piece) :
    Piece.flat (layPad false p ++ [.raw o] ++ layNl false ++ kids ++ layPad false p ++ [.raw cl]
        ++ layEnd false p)
      = o ++ Piece.flat kids ++ cl := by
  simp only [layPad_false, layNl_false, layEnd_false, flat_append, Piece.flat, List.nil_append,
    List.append_nil]
/-- one write, indented and compact -/
theorem wrap_core_flat (p p' : Pretty) (s : Str) :
    Piece.core (layPad true p ++ [.raw s] ++ layEnd true p)
      = Piece.flat (layPad false p' ++ [.raw s] ++ layEnd false p') :=
  (core_wrap true p s).trans (flat_wrap_false p' s).symm

theorem coreSim (c : SeqCfg) (esc ge : Bool) :
    Sim c (pieceAlg c esc ge true) (pieceAlg c esc ge false) (fun _ _ => True) (fun _ _ => True)
      Eq id (fun a b => Piece.core a = Piece.flat b) where
  app h h' := by rw [core_append, flat_append, h, h']
  note _ _ := wrap_core_flat ..
  whole _ _ _ ha := ha ▸ wrap_core_flat ..
  around _ _ _ ha hk := by
    subst ha
    exact (core_frame ..).trans ((congrArg (_ ++ · ++ _) hk).trans (flat_frame_false ..).symm)
  str _ _ _ := wrap_core_flat ..
  null _ _ := wrap_core_flat ..
  bool _ _ _ _ := wrap_core_flat ..
  num _ _ _ _ := wrap_core_flat ..

/-- the indented output without its layout pieces is the compact output -/
theorem encP_core (c : SeqCfg) (esc ge : Bool) (f : Nat) (p p' : Pretty) (key : Str) (v : Val) :
    (seqEncP c esc ge true f p key v).mapOk Piece.core
      = (seqEncP c esc ge false f p' key v).mapOk Piece.flat := by
  rw [seqEncP_eq, seqEncP_eq]
  exact (rel_graph2 ..).1 ((coreSim c esc ge).enc trivial trivial)

/-! ### the compact mode against `seqEnc` -/

theorem noteOkList_iff (c : SeqCfg) (key : Str) (xs : List Val) :
    noteOkList c key xs = true ↔ ∀ x ∈ xs, noteOk c key x = true := by
  induction xs with
  | nil => simp [noteOkList]
  | cons x xs ih => rw [noteOkList, Bool.and_eq_true, ih, List.forall_mem_cons]
theorem noteKeyB_false {c : SeqCfg} {key : Str} (h : ¬ isNoteKey c key) :
    noteKeyB c key = false := by
  simpa [noteKeyB, isNoteKey, not_or, and_assoc] using h

theorem noteOkEntries_iff (c : SeqCfg) (l : Entries) :
    noteOkEntries c l = true ↔ ∀ e ∈ l, dropK c e.1 = true ∨ noteOk c e.1 e.2 = true := by
  induction l with
  | nil => simp [noteOkEntries]
  | cons e r ih =>
    obtain ⟨k, v⟩ := e
    rw [noteOkEntries, Bool.and_eq_true, Bool.or_eq_true, ih, List.forall_mem_cons]
    -- the three tests of the clause are `dropK`
    rfl

/-- `noteOk` passes to the children of an element -/
theorem noteOk_unroll {c : SeqCfg} {key : Str} {val : Entries}
    (hd : noteOk c key (.map val) = true) (hk : ¬ isNoteKey c key) :
    ∀ e ∈ unrollEntries c val, noteOk c e.1 e.2 = true := by
  rw [noteOk, noteKeyB_false hk] at hd
  exact unroll_all c (Q := fun k v => noteOk c k v = true) (fun k xs => (noteOkList_iff c k xs).1)
    fun e he hdk => ((noteOkEntries_iff c val).1 hd e he).resolve_left
      fun h1 => Bool.false_ne_true (hdk.symm.trans h1)

/-- every mode fails as the compact encoder does: the outputs agree once they are forgotten -/
theorem paritySim (c : SeqCfg) (esc ge di : Bool) :
    Sim c (pieceAlg c esc ge di) (bytesAlg c esc ge) (fun _ _ => True) (fun _ _ => True)
      Eq id (fun _ _ => () = ()) where
  app _ _ := rfl
  note _ _ := rfl
  whole _ _ _ _ := rfl
  around _ _ _ _ _ := rfl
  str _ _ _ := rfl
  null _ _ := rfl
  bool _ _ _ _ := rfl
  num _ _ _ _ := rfl

/-- a scalar that is not under a note key is written with its `<key` -/
theorem ltKey_of_not (c : SeqCfg) (key : Str) (h : (!noteKeyB c key) = true) :
    ltKey c key = "<".toList ++ key := by
  simp [ltKey, show noteKeyB c key = false by simpa using h]

theorem compactSim (c : SeqCfg) (esc ge : Bool) :
    Sim c (pieceAlg c esc ge false) (bytesAlg c esc ge) (fun key v => noteOk c key v = true)
      (fun _ _ => True) Eq id (fun a b => Piece.flat a = b) where
  app h h' := by rw [flat_append, h, h']
  kids := noteOk_unroll
  members hd := (noteOkList_iff c _ _).1 hd
  note _ _ := flat_wrap_false ..
  whole _ _ _ ha := ha ▸ flat_wrap_false ..
  around _ _ _ ha hk := by
    subst ha hk
    exact flat_frame_false ..
  str _ _ hd := (flat_wrap_false ..).trans (by rw [ltKey_of_not c _ hd]; rfl)
  null _ _ := flat_wrap_false ..
  bool _ _ _ hd := (flat_wrap_false ..).trans (by rw [ltKey_of_not c _ hd]; rfl)
  num _ _ _ hd := (flat_wrap_false ..).trans (by rw [ltKey_of_not c _ hd]; rfl)

/-- the compact mode of `seqEncP` against `seqEnc`: the same bytes when no scalar sits under a
    comment / directive / processing-instruction key -/
theorem encP_rel (c : SeqCfg) (esc ge : Bool) (f : Nat) (p : Pretty) (key : Str) (v : Val)
    (hd : noteOk c key v = true) :
    (seqEncP c esc ge false f p key v).mapOk Piece.flat = seqEnc c esc ge f key v := by
  rw [seqEncP_eq, seqEnc_eq c esc ge f ()]
  exact (rel_graph ..).1 ((compactSim c esc ge).enc trivial hd)

/-! ### the layout-tree encoder as an instance; dropping the layout -/

def _root_.Mxj.SeqG.Note.lnode : Note → LNode
  | .comment s => .comment s
  | .directive s => .directive s
  | .procinst t i => .procinst t i

def layAlg (c : SeqCfg) : Alg Pretty (List Attr) LNode where
  attrs := seqAttrNodes c
  noAttrs := []
  txt := fmtV
  note p n := [.lay p.padding, n.lnode] ++ nlL p
  whole p key as t := [.lay p.padding, .elem key as (textKidL t)] ++ nlL p
  around p key as t kids :=
    [.lay p.padding, .elem key as (textKidL t ++ [.lay ['\n']] ++ kids ++ [.lay p.padding])]
      ++ nlL p
  str p key s := [.lay p.padding, .elem key [] (textKidL s)] ++ nlL p
  null _ _ := .err .other
  scalar p key t := [.lay p.padding, .elem key [] [.text t]] ++ nlL p
  kid p isList := if isList then p.deeper else p.deeper.indentStep
  member p := p.indentStep

theorem seqKidsTreeL_eq (c : SeqCfg) (f : Nat) (p : Pretty) (l : List (Str × Val)) :
    seqKidsTreeL c f p l
      = seqAll (fun e => seqEncTreeL c f (if e.2.isList then p else p.indentStep) e.1 e.2) l := by
  induction l with
  | nil => simp only [seqKidsTreeL, seqAll]
  | cons e rest ih =>
    obtain ⟨k, v⟩ := e
    rw [seqKidsTreeL, seqAll, ih]
    set_option smartUnfolding false in rfl

theorem seqMembersTreeL_eq (c : SeqCfg) (f : Nat) (p : Pretty) (key : Str) (xs : List Val) :
    seqMembersTreeL c f p key xs = seqAll (fun x => seqEncTreeL c f p.indentStep key x) xs := by
  induction xs with
  | nil => simp only [seqMembersTreeL, seqAll]
  | cons x xs ih =>
    rw [seqMembersTreeL, seqAll, ih]
    set_option smartUnfolding false in rfl

theorem seqEncTreeL_eq (c : SeqCfg) : ∀ (f : Nat) (p : Pretty) (key : Str) (v : Val),
    seqEncTreeL c f p key v = enc (layAlg c) c f p key v := by
  intro f
  induction f with
  | zero => intro p key v; simp only [seqEncTreeL, enc]
  | succ f ih =>
    have ih : seqEncTreeL c f = enc (layAlg c) c f :=
      funext fun p => funext fun key => funext (ih p key)
    intro p key v
    cases v with
    | null | str _ | num _ => simp only [seqEncTreeL, enc]; rfl
    | bool b => cases b <;> simp only [seqEncTreeL, enc] <;> rfl
    | list xs => rw [seqEncTreeL, seqMembersTreeL_eq, enc, ih]; rfl
    | map val =>
      rw [enc, ← ih, seqEncTreeL, seqKidsTreeL_eq]
      -- as in `seqEncTree_eq`
      set_option smartUnfolding false in rfl

theorem stripKids_append (a b : List LNode) :
    LNode.stripKids (a ++ b) = LNode.stripKids a ++ LNode.stripKids b := by
  induction a with
  | nil => rfl
  | cons x a ih => simp only [List.cons_append, LNode.stripKids, ih, List.append_assoc]

@[simp] theorem stripKids_nlL (p : Pretty) : LNode.stripKids (nlL p) = [] := by
  unfold nlL; split <;> rfl

@[simp] theorem stripKids_textKidL (t : Str) : LNode.stripKids (textKidL t) = textKid t := by
  unfold textKidL textKid; split <;> rfl

/-- one node between its padding and its newline -/
theorem stripKids_wrap (p : Pretty) (x : LNode) :
    LNode.stripKids ([.lay p.padding, x] ++ nlL p) = LNode.strip x := by
  simp only [stripKids_append, LNode.stripKids, LNode.strip, stripKids_nlL, List.nil_append,
    List.append_nil]

/-- an element between its padding and its newline -/
theorem strip_elem (p : Pretty) (key : Str) (as : List Attr) {ks : List LNode} {ks' : List Node}
    (h : LNode.stripKids ks = ks') :
    LNode.stripKids ([.lay p.padding, .elem key as ks] ++ nlL p) = [.elem [] key as ks'] := by
  rw [stripKids_wrap, LNode.strip, h]

theorem stripSim (c : SeqCfg) : Sim c (layAlg c) (treeAlg c) (fun _ _ => True) (fun _ _ => True)
    Eq id (fun a b => LNode.stripKids a = b) where
  app h h' := by rw [stripKids_append, h, h']
  note n _ := (stripKids_wrap _ _).trans (by cases n <;> rfl)
  whole key t _ ha := ha ▸ strip_elem _ key _ (stripKids_textKidL t)
  around key t _ ha hk := ha ▸ strip_elem _ key _ (by
    simp only [stripKids_append, stripKids_textKidL, LNode.stripKids, LNode.strip, List.append_nil,
      hk]; rfl)
  str s _ _ := strip_elem _ _ [] (stripKids_textKidL s)
  null _ _ := rfl
  bool _ t _ _ := stripKids_wrap _ _
  num _ t _ _ := stripKids_wrap _ _

/-- dropping the layout nodes gives the compact encoder's tree, exactly -/
theorem encTreeL_strip (c : SeqCfg) (f : Nat) (p : Pretty) (key : Str) (v : Val) :
    (seqEncTreeL c f p key v).mapOk LNode.stripKids = seqEncTree c f key v := by
  rw [seqEncTreeL_eq, seqEncTree_eq c f ()]
  exact (rel_graph ..).1 ((stripSim c).enc trivial trivial)

/-! ### shape of the layout tree -/

/-- no text node among these siblings (layout allowed) -/
def noTextTop : List LNode → Bool
  | [] => true
  | .text _ :: _ => false
  | _ :: r => noTextTop r

/-- text only as the first child -/
def topShape : List LNode → Bool
  | .text _ :: r => noTextTop r
  | ks => noTextTop ks

mutual
def shapeL : LNode → Bool
  | .elem _ _ ks => topShape ks && shapeKidsL ks
  | _ => true
def shapeKidsL : List LNode → Bool
  | [] => true
  | k :: r => shapeL k && shapeKidsL r
end

theorem noTextTop_append (a b : List LNode) : noTextTop (a ++ b) = (noTextTop a && noTextTop b) := by
  induction a with
  | nil => rfl
  | cons x a ih => cases x <;> simp [noTextTop, ih]

theorem shapeKidsL_append (a b : List LNode) :
    shapeKidsL (a ++ b) = (shapeKidsL a && shapeKidsL b) := by
  induction a with
  | nil => rfl
  | cons x a ih => simp [shapeKidsL, ih, Bool.and_assoc]

theorem allLays_append (P : Str → Bool) (a b : List LNode) :
    LNode.allLays P (a ++ b) = (LNode.allLays P a && LNode.allLays P b) := by
  induction a with
  | nil => simp [LNode.allLays]
  | cons x a ih => cases x <;> simp [LNode.allLays, ih, Bool.and_assoc]

/-- the characters of the padding and of the indent string satisfy `P` -/
def GoodP (P : Char → Bool) (p : Pretty) : Prop :=
  (∀ ch ∈ p.padding, P ch = true) ∧ (∀ ch ∈ p.indent, P ch = true)

theorem GoodP.indentStep {P : Char → Bool} {p : Pretty} (h : GoodP P p) : GoodP P p.indentStep :=
  ⟨fun ch hc => (List.mem_append.1 hc).elim (h.1 ch) (h.2 ch), h.2⟩

theorem GoodP.deeper {P : Char → Bool} {p : Pretty} (h : GoodP P p) : GoodP P p.deeper := h

/-- no text node at the top, every element below well-shaped (text as first child only), every
    layout string made of `P` characters -/
def OutOk (P : Char → Bool) (out : List LNode) : Prop :=
  noTextTop out = true ∧ shapeKidsL out = true ∧ LNode.allLays (fun s => s.all P) out = true

theorem OutOk.nil (P : Char → Bool) : OutOk P [] := ⟨rfl, rfl, by simp only [LNode.allLays]⟩

theorem OutOk.append {P : Char → Bool} {a b : List LNode} (ha : OutOk P a) (hb : OutOk P b) :
    OutOk P (a ++ b) := by
  refine ⟨?_, ?_, ?_⟩
  · rw [noTextTop_append, ha.1, hb.1]; rfl
  · rw [shapeKidsL_append, ha.2.1, hb.2.1]; rfl
  · rw [allLays_append, ha.2.2, hb.2.2]; rfl

theorem OutOk.lay {P : Char → Bool} {s : Str} (hs : ∀ ch ∈ s, P ch = true) : OutOk P [.lay s] :=
  ⟨rfl, rfl, by simp only [LNode.allLays, Bool.and_true]; exact List.all_eq_true.2 hs⟩

theorem OutOk.nl {P : Char → Bool} (hnl : P '\n' = true) (p : Pretty) : OutOk P (nlL p) := by
  unfold nlL
  split
  · exact OutOk.lay fun ch h => by rw [List.mem_singleton.1 h]; exact hnl
  · exact OutOk.nil P

/-- one node between its padding and its newline -/
theorem OutOk.wrap {P : Char → Bool} (hnl : P '\n' = true) {p : Pretty} (hp : GoodP P p)
    {x : LNode} (hx : OutOk P [x]) : OutOk P ([.lay p.padding, x] ++ nlL p) :=
  ((OutOk.lay hp.1).append hx).append (OutOk.nl hnl p)

/-- padding, an element whose children are (`e`) text at most in front of well-shaped others,
    newline -/
theorem OutOk.elem {P : Char → Bool} (hnl : P '\n' = true) {p : Pretty} (hp : GoodP P p) (key : Str)
    (as : List Attr) (t : Str) {r ks : List LNode} (hr : OutOk P r) (e : textKidL t ++ r = ks) :
    OutOk P ([.lay p.padding, .elem key as ks] ++ nlL p) := by
  subst e
  have hks : topShape (textKidL t ++ r) = true ∧ shapeKidsL (textKidL t ++ r) = true
      ∧ LNode.allLays (fun s => s.all P) (textKidL t ++ r) = true := by
    unfold textKidL
    split
    · refine ⟨?_, hr.2.1, hr.2.2⟩
      cases r with
      | nil => rfl
      | cons x _ => cases x <;> first | exact hr.1 | cases hr.1
    · exact ⟨hr.1, hr.2.1, by simp only [List.singleton_append, LNode.allLays]; exact hr.2.2⟩
  exact OutOk.wrap hnl hp ⟨rfl, by simp only [shapeKidsL, shapeL, hks.1, hks.2.1, Bool.and_self],
    by simp only [LNode.allLays, hks.2.2, Bool.and_self]⟩

/- An invariant of ONE encoder's output is a simulation of its algebra with itself whose relation
   looks at the left side only (`R := fun a _ => OutOk P a`); `Rp` makes the two positions equal
   and carries the invariant of the position (`GoodP`).  `Sim.enc` then is the induction. -/
theorem shapeSim (c : SeqCfg) (P : Char → Bool) (hnl : P '\n' = true) :
    Sim c (layAlg c) (layAlg c) (fun _ _ => True) (fun p p' => p = p' ∧ GoodP P p) Eq id
      (fun a _ => OutOk P a) where
  nil := OutOk.nil P
  app := OutOk.append
  note n hp := OutOk.wrap hnl hp.2 (by
    cases n <;> exact ⟨rfl, rfl, by simp only [Note.lnode, LNode.allLays]⟩)
  whole key t hp _ := OutOk.elem hnl hp.2 key _ t (OutOk.nil P) (List.append_nil _)
  around key t hp _ hk := OutOk.elem hnl hp.2 key _ t
    ((OutOk.lay fun ch h => by rw [List.mem_singleton.1 h]; exact hnl).append
      (hk.append (OutOk.lay hp.2.1))) (by simp only [List.append_assoc])
  str s hp _ := OutOk.elem hnl hp.2 _ [] s (OutOk.nil P) (List.append_nil _)
  null _ _ := rfl
  bool _ t hp _ := OutOk.wrap hnl hp.2 ⟨rfl, rfl, by simp only [LNode.allLays, Bool.and_self]⟩
  num _ t hp _ := OutOk.wrap hnl hp.2 ⟨rfl, rfl, by simp only [LNode.allLays, Bool.and_self]⟩
  kid b hp := ⟨hp.1 ▸ rfl, by
    cases b
    · exact hp.2.deeper.indentStep
    · exact hp.2.deeper⟩
  member hp := ⟨hp.1 ▸ rfl, hp.2.indentStep⟩

/-- the output of the tree encoder: no text node at the top, text only as the first child of
    every element, and every layout string made of newline / padding / indent characters -/
theorem encTreeL_shape (c : SeqCfg) (P : Char → Bool) (hnl : P '\n' = true) {f : Nat} {p : Pretty}
    {key : Str} {v : Val} {out : List LNode} (hp : GoodP P p)
    (h : seqEncTreeL c f p key v = .ok out) : OutOk P out := by
  have := (shapeSim c P hnl).enc (f := f) (key := key) (v := v) ⟨rfl, hp⟩ trivial
  rwa [← seqEncTreeL_eq, h] at this

/-! ### bytes = rendering of the layout tree -/

theorem renderLKids_append (esc ge : Bool) (a b : List LNode) :
    renderLKids esc ge (a ++ b) = renderLKids esc ge a ++ renderLKids esc ge b := by
  induction a with
  | nil => rfl
  | cons x a ih => simp only [List.cons_append, renderLKids, ih, List.append_assoc]

theorem flat_layEnd (esc ge : Bool) (p : Pretty) :
    Piece.flat (layEnd true p) = renderLKids esc ge (nlL p) := by
  unfold layEnd nlL
  by_cases h : p.cnt > p.start <;> simp [h, Piece.flat, renderLKids, renderL]

theorem renderLKids_textKidL (esc ge : Bool) (s : Str) :
    renderLKids esc ge (textKidL s) = escB esc s := by
  unfold textKidL
  split
  · rename_i h
    obtain rfl := List.isEmpty_iff.1 h
    cases esc <;> simp [renderLKids, escB, escapeChars_nil]
  · simp [renderLKids, renderL, escB]

/-- one write against one node, each between its padding and its newline -/
theorem link_wrap (esc ge : Bool) (p : Pretty) {s : Str} {x : LNode} (h : renderL esc ge x = s) :
    renderLKids esc ge ([.lay p.padding, x] ++ nlL p)
      = Piece.flat (layPad true p ++ [.raw s] ++ layEnd true p) := by
  simp [layPad, Piece.flat, flat_layEnd esc ge, renderLKids, renderL, h]

theorem textKidL_isEmpty (t : Str) : (textKidL t).isEmpty = t.isEmpty := by
  cases t <;> rfl
/-- an element around its children, written and rendered -/
theorem link_frame (esc ge : Bool) (p : Pretty) (key : Str) (as : List Attr) (t : Str)
    {ks : List LNode} {ps : List Piece} (hk : renderLKids esc ge ks = Piece.flat ps) :
    renderLKids esc ge ([.lay p.padding,
        .elem key as (textKidL t ++ [.lay ['\n']] ++ ks ++ [.lay p.padding])] ++ nlL p)
      = Piece.flat (layPad true p
          ++ [.raw ("<".toList ++ key ++ renderSeqAttrs esc as ++ ">".toList ++ escB esc t)]
          ++ layNl true ++ ps ++ layPad true p ++ [.raw (closeTag key)] ++ layEnd true p) := by
  simp [layPad, layNl, flat_append, Piece.flat, flat_layEnd esc ge, ← hk,
    renderLKids_append, renderLKids, renderL, renderLKids_textKidL]

/-- the pieces of the indented encoder flatten to the rendering of the layout tree; as for the
    compact pair (`linkSim`) on values whose leaves are strings, and with no string under a
    comment / directive / processing-instruction key (there `seqEncP` writes no `<key`) -/
theorem linkLSim (c : SeqCfg) (esc ge : Bool) (hts : c.textK ≠ c.seqK) :
    Sim c (layAlg c) (pieceAlg c esc ge true)
      (fun key v => seqPlain c v = true ∧ noteOk c key v = true) Eq
      (fun as a => renderSeqAttrs esc as = a) (escB esc)
      (fun ns ps => renderLKids esc ge ns = Piece.flat ps) where
  app h h' := by rw [renderLKids_append, flat_append, h, h']
  kids hd hk e he := ⟨plain_unroll c _ hd.1 e he, noteOk_unroll hd.2 hk e he⟩
  members hd x hx := ⟨(seqPlain_list_iff c _).1 hd.1 x hx, (noteOkList_iff c _ _).1 hd.2 x hx⟩
  attrs hd h := attrs_link c esc hts hd.1 h
  txt hd h := txtOf_plain c esc (plain_of_lookup hts hd.1 h)
  gnil := escB_nil esc
  note n hp := hp ▸ link_wrap esc ge _ (by cases n <;> rfl)
  whole key t hp ha := by
    subst hp ha
    refine link_wrap esc ge _ ?_
    simp only [bytesAlg, renderL, renderLKids_textKidL, escB_isEmpty, textKidL_isEmpty]
    split <;> simp only [List.append_assoc]
  around key t hp ha hk := by
    subst hp ha
    exact link_frame esc ge _ key _ t hk
  str s hp hd := by
    subst hp
    have he := escB_isEmpty esc s
    simp only [escB] at he
    refine link_wrap esc ge _ ?_
    rw [ltKey_of_not c _ hd.2, List.append_assoc, endOf_eq]
    simp only [renderL, renderSeqAttrs, List.append_nil, renderLKids_textKidL, textKidL_isEmpty,
      escB, he]
  null _ hd := by cases hd.1
  bool _ _ _ hd := by cases hd.1
  num _ _ _ hd := by cases hd.1
  kid b hp := by subst hp; cases b <;> rfl
  member hp := by subst hp; rfl

/-- the indented bytes are the rendering of the layout tree (any `goEmpty`), for values
    whose leaves are strings and with no string under a comment / directive / PI key -/
theorem encP_linkL (c : SeqCfg) (esc ge : Bool) (hts : c.textK ≠ c.seqK) (f : Nat) (p : Pretty)
    (key : Str) (v : Val) (hv : seqPlain c v = true) (hn : noteOk c key v = true) :
    (seqEncP c esc ge true f p key v).mapOk Piece.flat
      = (seqEncTreeL c f p key v).mapOk (renderLKids esc ge) := by
  rw [seqEncP_eq, seqEncTreeL_eq]
  exact ((rel_graph2 ..).1 ((linkLSim c esc ge hts).enc rfl ⟨hv, hn⟩)).symm

/-! ### the decoder does not see `normalize` -/

mutual
/-- text only as the first child, at every level -/
def tfAll (c : SeqCfg) : Node → Bool
  | .elem _ _ _ ks => textFirst c ks && tfAllKids c ks
  | _ => true
def tfAllKids (c : SeqCfg) : List Node → Bool
  | [] => true
  | k :: r => tfAll c k && tfAllKids c r
end

/-- The two folds run in step with different pending character data (`normalize` drops blank
    text, so one side may hold a pending blank run the other never saw); `Quiet` says neither can
    still change the entries.  Either no text of `ks` counts, or one stands first and nothing is
    pending. -/
theorem kids_normalize_gen (c : SeqCfg) (S : Strconv) (hts : c.textK ≠ c.seqK) : ∀ (ks : List Node),
    tfAllKids c ks = true → ∀ (na : Entries) (seq : Nat) (pend pend' : Option (Str × Bool)),
      Quiet c S na pend → Quiet c S na pend' →
      noText c ks = true ∨ textFirst c ks = true ∧ pend = none ∧ pend' = none →
      (SeqFold.kids' c S (na, seq, pend') (normalizeKidsC c ks)).1
        = (SeqFold.kids' c S (na, seq, pend) ks).1 := by
  intro ks
  induction ks using Node.forest_ind with
  | nil => exact fun _ _ _ _ _ _ _ _ => rfl
  | text b r ih =>
    intro hd na seq pend pend' hq hq' h
    cases hb : isBlankText c b with
    | true =>
      have ht : noText c r = true := h.elim (fun ht => (Bool.and_eq_true_iff.1 ht).2) (·.1)
      obtain ⟨p2, h1, h2⟩ := onText_quiet c S na seq pend b hq hb
      simp only [normalizeKidsC, show (seqTrim c b).isEmpty = true from hb, if_true, SeqFold.kids', h1]
      exact ih hd na seq p2 pend' h2 hq' (.inl ht)
    | false =>
      -- a text that counts stands first: both sides store it, under the same text
      obtain ⟨h1, rfl, rfl⟩ := h.resolve_left (by rw [noText, hb]; exact Bool.false_ne_true)
      have hb' : isBlankText c (seqTrim c b) = false :=
        (congrArg List.isEmpty (seqTrim_idem c b)).trans hb
      simp only [normalizeKidsC, show (seqTrim c b).isEmpty = false from hb, Bool.false_eq_true,
        if_false, SeqFold.kids']
      rw [onText_first_gen c S _ _ b hb, onText_first_gen c S _ _ _ hb', runText_seqTrim]
      exact ih hd _ _ _ _ (quiet_after_text c S hts _ _ b _ rfl)
        (quiet_after_text c S hts _ _ _ _ (by rw [runText_seqTrim])) (.inl h1)
  | elem sp n as ks r ihk ihr =>
    intro hd na seq pend pend' _ _ h
    simp only [tfAllKids, tfAll, Bool.and_eq_true] at hd
    simp only [normalizeKidsC, normalizeC, SeqFold.kids', SeqFold.value,
      ihk hd.1.2 _ 0 none none trivial trivial (.inr ⟨hd.1.1, rfl, rfl⟩)]
    exact ihr hd.2 _ _ none none trivial trivial (.inl (h.elim id (·.1)))
  | comment _ r ih | procinst _ _ r ih | directive _ r ih =>
    intro hd na seq pend pend' _ _ h
    simp only [normalizeKidsC, normalizeC, SeqFold.kids']
    exact ih hd _ _ none none trivial trivial (.inl (h.elim id (·.1)))

theorem kids_normalize (c : SeqCfg) (S : Strconv) (hts : c.textK ≠ c.seqK) : ∀ (ks : List Node),
    noText c ks = true → tfAllKids c ks = true →
    ∀ (na : Entries) (seq : Nat) (pend pend' : Option (Str × Bool)),
      Quiet c S na pend → Quiet c S na pend' →
      (SeqFold.kids' c S (na, seq, pend') (normalizeKidsC c ks)).1
        = (SeqFold.kids' c S (na, seq, pend) ks).1 :=
  fun ks ht hd na seq pend pend' hq hq' =>
    kids_normalize_gen c S hts ks hd na seq pend pend' hq hq' (.inl ht)

theorem value_normalize (c : SeqCfg) (S : Strconv) (hts : c.textK ≠ c.seqK) (t : Node)
    (h : tfAll c t = true) : SeqFold.value c S (normalizeC c t) = SeqFold.value c S t := by
  cases t with
  | elem sp n as ks =>
    simp only [tfAll, Bool.and_eq_true] at h
    simp only [normalizeC, SeqFold.value,
      kids_normalize_gen c S hts ks h.2 _ 0 none none trivial trivial (.inr ⟨h.1, rfl, rfl⟩)]
  | _ => rfl


/-! ### `normalize`, `unqualify`, and the shape of trees -/

theorem noText_unqualifyKids (c : SeqCfg) (ks : List Node) :
    noText c (unqualifyKids ks) = noText c ks := by
  induction ks with
  | nil => rfl
  | cons k r ih => cases k <;> simp [unqualifyKids, unqualify, noText, ih]

theorem textFirst_unqualifyKids (c : SeqCfg) (ks : List Node) :
    textFirst c (unqualifyKids ks) = textFirst c ks := by
  cases ks with
  | nil => rfl
  | cons k r =>
    cases k <;> simp [unqualifyKids, unqualify, textFirst, noText, noText_unqualifyKids c r]

theorem tfAllKids_unqualify (c : SeqCfg) : ∀ (ks : List Node),
    tfAllKids c (unqualifyKids ks) = tfAllKids c ks := by
  intro ks
  induction ks using Node.forest_ind with
  | nil => rfl
  | elem sp n as ks r ihk ihr =>
    simp only [unqualifyKids, unqualify, tfAllKids, tfAll, textFirst_unqualifyKids, ihk, ihr]
  | text _ r ih | comment _ r ih | procinst _ _ r ih | directive _ r ih => exact ih

theorem tfAll_unqualify (c : SeqCfg) (t : Node) : tfAll c (unqualify t) = tfAll c t := by
  cases t with
  | elem sp n as ks =>
    simp only [unqualify, tfAll, textFirst_unqualifyKids, tfAllKids_unqualify c ks]
  | _ => rfl

theorem normalizeKids_unqualify (c : SeqCfg) : ∀ (ks : List Node),
    normalizeKidsC c (unqualifyKids ks) = unqualifyKids (normalizeKidsC c ks) := by
  intro ks
  induction ks using Node.forest_ind with
  | nil => rfl
  | text s r ih =>
    simp only [unqualifyKids, unqualify, normalizeKidsC, ih]
    split <;> simp [unqualifyKids, unqualify]
  | elem sp n as ks r ihk ihr =>
    simp only [unqualifyKids, unqualify, normalizeKidsC, normalizeC, ihk, ihr]
  | comment _ r ih | procinst _ _ r ih | directive _ r ih =>
    simp only [unqualifyKids, unqualify, normalizeKidsC, normalizeC, ih]

theorem normalize_unqualify (c : SeqCfg) (t : Node) :
    normalizeC c (unqualify t) = unqualify (normalizeC c t) := by
  cases t with
  | elem sp n as ks => simp only [unqualify, normalizeC, normalizeKids_unqualify c ks]
  | _ => rfl

theorem normalizeKids_idem (c : SeqCfg) : ∀ (ks : List Node),
    normalizeKidsC c (normalizeKidsC c ks) = normalizeKidsC c ks := by
  intro ks
  induction ks using Node.forest_ind with
  | nil => rfl
  | text s r ih =>
    simp only [normalizeKidsC]
    split
    · exact ih
    · rename_i h
      simp only [normalizeKidsC, seqTrim_idem, h, Bool.false_eq_true, if_false, ih]
  | elem sp n as ks r ihk ihr => simp only [normalizeKidsC, normalizeC, ihk, ihr]
  | comment _ r ih | procinst _ _ r ih | directive _ r ih =>
    simp only [normalizeKidsC, normalizeC, ih]

theorem normalize_idem (c : SeqCfg) : ∀ (t : Node), normalizeC c (normalizeC c t) = normalizeC c t
  | .elem sp n as ks => by simp only [normalizeC, normalizeKids_idem c ks]
  | .text s => congrArg Node.text (seqTrim_idem c s)
  | .comment _ | .directive _ | .procinst _ _ => rfl

theorem tfAllKids_of_domain (c : SeqCfg) : ∀ (ks : List Node), seqDomainKids c ks = true →
    tfAllKids c ks = true := by
  intro ks
  induction ks using Node.forest_ind with
  | nil => exact fun _ => rfl
  | elem sp n as ks r ihk ihr =>
    intro h
    simp only [seqDomainKids, Bool.and_eq_true] at h
    have dp := seqDomain_parts h.1
    simp only [tfAllKids, tfAll, dp.tf, ihk dp.kids, ihr h.2, Bool.and_self]
  | text _ r ih | comment _ r ih | procinst _ _ r ih | directive _ r ih => exact ih

theorem tfAll_of_domain (c : SeqCfg) (t : Node) (h : seqDomain c t = true) : tfAll c t = true := by
  cases t with
  | elem sp n as ks =>
    have dp := seqDomain_parts h
    simp only [tfAll, dp.tf, tfAllKids_of_domain c ks dp.kids, Bool.and_self]
  | _ => rfl

/-! ### layout trees against `noText` / `textFirst` / `tfAll` -/

/-- made of characters the decoder trims -/
def blankS (c : SeqCfg) (s : Str) : Bool := s.all (fun ch => (trimSet c.dec).contains ch)

theorem isBlank_of_blankS (c : SeqCfg) (s : Str) (h : blankS c s = true) : isBlankText c s = true := by
  have : trimChars (trimSet c.dec) s = [] :=
    (trimChars_eq_nil_iff _ _).2 (by simpa [blankS, List.all_eq_true] using h)
  simp [isBlankText, seqTrim, this]

theorem noText_append (c : SeqCfg) : ∀ (a b : List Node), noText c (a ++ b) = (noText c a && noText c b) := by
  intro a b
  induction a with
  | nil => rfl
  | cons k a ih => cases k <;> simp [noText, ih, Bool.and_assoc]

theorem textFirst_of_noText (c : SeqCfg) (l : List Node) (h : noText c l = true) :
    textFirst c l = true := by
  cases l with
  | nil => rfl
  | cons k r =>
    cases k with
    | text s => exact (Bool.and_eq_true_iff.1 h).2
    | _ => exact h

theorem noText_toNodes (c : SeqCfg) (ks : List LNode) (h : noTextTop ks = true)
    (hl : LNode.allLays (blankS c) ks = true) : noText c (LNode.toNodes ks) = true := by
  induction ks with
  | nil => rfl
  | cons k r ih =>
    have hl := Bool.and_eq_true_iff.1 ((allLays_append (blankS c) [k] r).symm.trans hl)
    cases k with
    | text _ => cases h
    | lay s =>
      simp only [LNode.allLays, Bool.and_true] at hl
      exact Bool.and_eq_true_iff.2 ⟨isBlank_of_blankS c s hl.1, ih h hl.2⟩
    | _ => exact ih h hl.2

theorem noText_stripKids (c : SeqCfg) (ks : List LNode) (h : noTextTop ks = true) :
    noText c (LNode.stripKids ks) = true := by
  induction ks with
  | nil => rfl
  | cons k r ih =>
    cases k with
    | text _ => cases h
    | _ => exact ih h

theorem textFirst_toNodes (c : SeqCfg) (ks : List LNode) (h : topShape ks = true)
    (hl : LNode.allLays (blankS c) ks = true) : textFirst c (LNode.toNodes ks) = true := by
  cases ks with
  | nil => rfl
  | cons k r =>
    cases k with
    | text s => exact noText_toNodes c r h (by simpa only [LNode.allLays] using hl)
    | _ => exact textFirst_of_noText c _ (noText_toNodes c _ h hl)

theorem textFirst_stripKids (c : SeqCfg) (ks : List LNode) (h : topShape ks = true) :
    textFirst c (LNode.stripKids ks) = true := by
  cases ks with
  | nil => rfl
  | cons k r =>
    cases k with
    | text s => exact noText_stripKids c r h
    | _ => exact textFirst_of_noText c _ (noText_stripKids c _ h)

/-- induction over a layout forest: an element brings its children and its right siblings -/
theorem forest_ind {P : List LNode → Prop} (nil : P [])
    (elem : ∀ n as ks r, P ks → P r → P (.elem n as ks :: r))
    (text : ∀ s r, P r → P (.text s :: r)) (comment : ∀ s r, P r → P (.comment s :: r))
    (directive : ∀ s r, P r → P (.directive s :: r))
    (procinst : ∀ t i r, P r → P (.procinst t i :: r)) (lay : ∀ s r, P r → P (.lay s :: r))
    (ks : List LNode) : P ks :=
  LNode.rec_1 (motive_1 := fun k => ∀ r, P r → P (k :: r)) (motive_2 := P)
    (fun n as ks ihk r ihr => elem n as ks r ihk ihr) text comment directive procinst lay nil
    (fun _ r ihk ihr => ihk r ihr) ks

theorem tfAllKids_toNodes (c : SeqCfg) : ∀ (ks : List LNode), shapeKidsL ks = true →
    LNode.allLays (blankS c) ks = true → tfAllKids c (LNode.toNodes ks) = true := by
  intro ks
  induction ks using forest_ind with
  | nil => exact fun _ _ => rfl
  | elem n as ks r ihk ihr =>
    intro h hl
    simp only [shapeKidsL, shapeL, Bool.and_eq_true] at h
    simp only [LNode.allLays, Bool.and_eq_true] at hl
    simp only [LNode.toNodes, LNode.toNode, tfAllKids, tfAll, textFirst_toNodes c ks h.1.1 hl.1,
      ihk h.1.2 hl.1, ihr h.2 hl.2, Bool.and_self]
  | lay s r ih =>
    intro h hl
    simp only [LNode.allLays, Bool.and_eq_true] at hl
    exact ih h hl.2
  | text s r ih | comment s r ih | directive s r ih | procinst t i r ih =>
    intro h hl
    simp only [LNode.allLays] at hl
    exact ih h hl

theorem tfAllKids_stripKids (c : SeqCfg) : ∀ (ks : List LNode), shapeKidsL ks = true →
    tfAllKids c (LNode.stripKids ks) = true := by
  intro ks
  induction ks using forest_ind with
  | nil => exact fun _ => rfl
  | elem n as ks r ihk ihr =>
    intro h
    simp only [shapeKidsL, shapeL, Bool.and_eq_true] at h
    simp only [LNode.stripKids, LNode.strip, List.singleton_append, tfAllKids, tfAll,
      textFirst_stripKids c ks h.1.1, ihk h.1.2, ihr h.2, Bool.and_self]
  | lay s r ih | text s r ih | comment s r ih | directive s r ih | procinst t i r ih => exact ih

theorem normalizeKids_append_notext (c : SeqCfg) : ∀ (a b : List Node),
    normalizeKidsC c (a ++ b) = normalizeKidsC c a ++ normalizeKidsC c b := by
  intro a b
  induction a with
  | nil => rfl
  | cons k a ih =>
    cases k with
    | text s =>
      simp only [List.cons_append, normalizeKidsC, ih]
      split <;> simp
    | _ => simp only [List.cons_append, normalizeKidsC, ih]

/-- blank layout disappears under `normalize`: layout-as-character-data and no layout at
    all have the same normal form -/
theorem normalizeKids_toNodes (c : SeqCfg) : ∀ (ks : List LNode),
    LNode.allLays (blankS c) ks = true →
    normalizeKidsC c (LNode.toNodes ks) = normalizeKidsC c (LNode.stripKids ks) := by
  intro ks
  induction ks using forest_ind with
  | nil => exact fun _ => rfl
  | elem n as ks r ihk ihr =>
    intro hl
    simp only [LNode.allLays, Bool.and_eq_true] at hl
    simp only [LNode.toNodes, LNode.toNode, LNode.stripKids, LNode.strip, List.singleton_append,
      normalizeKidsC, normalizeC, ihk hl.1, ihr hl.2]
  | lay s r ih =>
    intro hl
    simp only [LNode.allLays, Bool.and_eq_true] at hl
    exact (if_pos (isBlank_of_blankS c s hl.1)).trans (ih hl.2)
  | text s r ih | comment s r ih | directive s r ih | procinst t i r ih =>
    intro hl
    simp only [LNode.allLays] at hl
    simp only [LNode.toNodes, LNode.toNode, LNode.stripKids, LNode.strip, List.singleton_append,
      normalizeKidsC, normalizeC, ih hl]

theorem value_toNode (c : SeqCfg) (S : Strconv) (hts : c.textK ≠ c.seqK) (n : Str) (as : List Attr)
    (ks : List LNode) (hs : shapeL (.elem n as ks) = true)
    (hl : LNode.allLays (blankS c) ks = true) :
    SeqFold.value c S (unqualify (LNode.toNode (.elem n as ks)))
      = SeqFold.value c S (unqualify (.elem [] n as (LNode.stripKids ks))) := by
  simp only [shapeL, Bool.and_eq_true] at hs
  have t1 : tfAll c (unqualify (LNode.toNode (.elem n as ks))) = true := by
    simp only [tfAll_unqualify, LNode.toNode, tfAll, textFirst_toNodes c ks hs.1 hl,
      tfAllKids_toNodes c ks hs.2 hl, Bool.and_self]
  have t2 : tfAll c (unqualify (.elem [] n as (LNode.stripKids ks))) = true := by
    simp only [tfAll_unqualify, tfAll, textFirst_stripKids c ks hs.1, tfAllKids_stripKids c ks hs.2,
      Bool.and_self]
  rw [← value_normalize c S hts _ t1, ← value_normalize c S hts _ t2, normalize_unqualify,
    normalize_unqualify]
  simp only [LNode.toNode, normalizeC, normalizeKids_toNodes c ks hl]


/-! ### the token stream of the indented output -/

theorem text_tokens (ss : List Str) : ∀ t ∈ flattenKids (ss.map .text), isText t = true := by
  intro t ht
  induction ss with
  | nil => simp [flattenKids] at ht
  | cons s ss ih =>
    simp only [List.map_cons, flattenKids, flatten, List.singleton_append, List.mem_cons] at ht
    rcases ht with rfl | ht
    · rfl
    · exact ih ht

theorem allLays_mono {P Q : Str → Bool} (hPQ : ∀ s, P s = true → Q s = true) : ∀ (l : List LNode),
    LNode.allLays P l = true → LNode.allLays Q l = true := by
  intro l
  induction l using forest_ind with
  | nil => simp only [LNode.allLays, imp_self]
  | elem n as ks r ihk ihr =>
    simp only [LNode.allLays, Bool.and_eq_true]
    exact fun h => ⟨ihk h.1, ihr h.2⟩
  | lay s r ih =>
    simp only [LNode.allLays, Bool.and_eq_true]
    exact fun h => ⟨hPQ s h.1, ih h.2⟩
  | text s r ih | comment s r ih | directive s r ih | procinst t i r ih =>
    simp only [LNode.allLays]
    exact ih

/-- the nodes of a layout forest whose layout-free part is one element: layout (character data)
    up to the element, whose value the layout inside it does not change -/
theorem layout_split (c : SeqCfg) (S : Strconv) (hts : c.textK ≠ c.seqK)
    (outL : List LNode) (n : Str) (as : List Attr) (ks0 : List Node)
    (h2 : shapeKidsL outL = true) (h3 : LNode.allLays (blankS c) outL = true)
    (hs : LNode.stripKids outL = [.elem [] n as ks0]) :
    ∃ (sa : List Str) (ks Y : List Node),
      unqualifyKids (LNode.toNodes outL)
        = sa.map .text ++ .elem (splitQual n).1 (splitQual n).2 (as.map unqualAttr) ks :: Y
      ∧ SeqFold.value c S (.elem (splitQual n).1 (splitQual n).2 (as.map unqualAttr) ks)
        = SeqFold.value c S (unqualify (.elem [] n as ks0)) := by
  induction outL with
  | nil => cases hs
  | cons x r ih =>
    cases x with
    | lay s =>
      simp only [shapeKidsL, shapeL, Bool.true_and] at h2
      simp only [LNode.allLays, Bool.and_eq_true] at h3
      obtain ⟨sa, ks, Y, e, hv⟩ := ih h2 h3.2 hs
      exact ⟨s :: sa, ks, Y, by simp only [LNode.toNodes, LNode.toNode, unqualifyKids, unqualify, e,
        List.map_cons, List.cons_append], hv⟩
    | elem n' as' ks =>
      simp only [LNode.stripKids, LNode.strip, List.singleton_append, List.cons.injEq,
        Node.elem.injEq, true_and] at hs
      obtain ⟨⟨rfl, rfl, rfl⟩, -⟩ := hs
      simp only [shapeKidsL, LNode.allLays, Bool.and_eq_true] at h2 h3
      exact ⟨[], _, unqualifyKids (LNode.toNodes r), rfl,
        value_toNode c S hts n' as' ks h2.1 h3.1⟩
    | _ => cases hs

/-- decoding the token stream of a layout forest whose layout-free part is one element: the
    layout tokens (character data the decoder trims to nothing) do not show -/
theorem tokens_decode (c : SeqCfg) (S : Strconv) (fin : StreamEnd) (hts : c.textK ≠ c.seqK)
    (outL : List LNode) (n : Str) (as : List Attr) (ks0 : List Node)
    (h1 : noTextTop outL = true) (h2 : shapeKidsL outL = true)
    (h3 : LNode.allLays (blankS c) outL = true)
    (hs : LNode.stripKids outL = [.elem [] n as ks0]) :
    newMapXmlSeq c S (flattenKids (unqualifyKids (LNode.toNodes outL))) fin
      = .ok (.doc (SeqFold.doc c S (unqualify (.elem [] n as ks0)))) := by
  -- `h1` is not used: `hs` already excludes a text node at the top
  obtain ⟨sa, ks, Y, e, hv⟩ := layout_split c S hts outL n as ks0 h2 h3 hs
  rw [e, flattenKids_append, flattenKids, ← List.append_assoc,
    newMapXmlSeq_tree c S fin _ _ (text_tokens sa)]
  simp only [SeqFold.doc, unqualify, hv]

/-! ### decoded values: no scalar under a note key -/

theorem noteKeyB_of_not_hash (c : SeqCfg) (k : Str) (h : k ∉ hashKeys c) : noteKeyB c k = false :=
  noteKeyB_false (not_noteKey h)

theorem noteOk_value (c : SeqCfg) (S : Strconv) (hc : CfgOk c) (t : Node)
    (hd : seqDomain c t = true) (key : Str) (hk : noteKeyB c key = false) :
    noteOk c key (SeqFold.value c S t) = true := by
  refine (decoded_ind (P := fun k v => noteOk c k v = true) (E := fun v => ∀ key,
    noteKeyB c key = false → noteOk c key v = true ∧ ∀ n, noteOk c key (seqChild c n v) = true)
    ⟨?_, ?_, ?_, ?_⟩ t hd key hk).1
  · intro k _ s n; simp [noteVal, noteOk, noteOkEntries]
  · intro t i n; simp [piVal, noteOk, noteKeyB]
  · intro sp name attrs kids hd hit key hk
    have h := decodedEntries_forall (Q := fun e => dropK c e.1 = true ∨ noteOk c e.1 e.2 = true)
      hc hd (.inl (by simp [dropK])) (fun _ => .inl (by simp [dropK]))
      (fun _ => .inl (by simp [dropK])) (fun k hk xs => by simp [hk, noteOk, noteOkList_iff])
      (fun e he => .inr (hit e he))
    rw [value_eq_finish]
    rcases finish_child (decodedEntries c S attrs kids) with ⟨_, e1⟩ | e1
    · simp [e1, seqChild, noteOk, noteOkEntries, hk]
    · simp only [e1, seqChild, noteOk, hk, Bool.false_or]
      exact ⟨(noteOkEntries_iff c _).2 h, fun n => (noteOkEntries_iff c _).2
        (forall_mem_insert (.inl (by simp [dropK])) h)⟩
  · intro sp name attrs kids n hd h
    exact (h _ (noteKeyB_of_not_hash c _ (seqDomain_key hd))).2 n


/-! ### the top level -/

/-- failure parity of the worker, either mode, every input -/
theorem encP_parity (c : SeqCfg) (esc ge di : Bool) (f : Nat) (p : Pretty) (key : Str) (v : Val) :
    (seqEncP c esc ge di f p key v).mapOk (fun _ => ())
      = (seqEnc c esc ge f key v).mapOk (fun _ => ()) := by
  rw [seqEncP_eq, seqEnc_eq c esc ge f ()]
  exact (rel_graph2 (fun _ => ()) (fun _ => ()) ..).1
    ((paritySim c esc ge di).enc trivial trivial)

theorem mapSeqXml_rootI (c : SeqCfg) (esc ge : Bool) (m : Entries) (h : seqRootAgree m = true) :
    mapSeqXml c esc ge m
      = seqEnc c esc ge (2 * Val.depth (.map m) + 2) (seqRootI m).1 (seqRootI m).2 := by
  cases m with
  | nil => rfl
  | cons e rest =>
    obtain ⟨k, v⟩ := e
    cases rest with
    | nil =>
      cases v with
      | list xs =>
        have : allMaps xs = false := by simpa [seqRootAgree] using h
        simp [mapSeqXml, seqRootI, this]
      | _ => rfl
    | cons e2 rest => cases v <;> rfl

/-- `XmlIndent` too takes the one entry of a MapSeq as the root when its value is no list (as a
    decoded document's is: `value_not_list`) -/
theorem seqRootI_single (key : Str) {v : Val} (hv : v.isList = false) :
    seqRootI [(key, v)] = (key, v) := by
  cases v <;> first | rfl | cases hv

theorem goodP_init (P : Char → Bool) (pfx ind : Str) (h1 : ∀ ch ∈ pfx, P ch = true)
    (h2 : ∀ ch ∈ ind, P ch = true) : GoodP P (Pretty.init pfx ind) := ⟨h1, h2⟩

/-- the tree-level round trip: any state, any fuel above the height -/
theorem treeL_roundtrip (c : SeqCfg) (S : Strconv) (hc : CfgOk c) {sp name : Str}
    {attrs : List Attr} {kids : List Node} (hd : seqDomain c (.elem sp name attrs kids) = true)
    (p : Pretty) (f : Nat) (hf : (Node.elem sp name attrs kids).height + 1 ≤ f) :
    ∃ outL, seqEncTreeL c f p (qualName c sp name) (SeqFold.value c S (.elem sp name attrs kids))
        = .ok outL
      ∧ LNode.stripKids outL = [qualify c (normalizeC c (.elem sp name attrs kids))] :=
  Outcome.mapOk_eq_ok ((encTreeL_strip c f p _ _).trans (enc_tree c S hc hd (enc_kids c S hc kids (seqDomain_parts hd).kids) f hf).1)

/-- decode, `XmlIndent`: the bytes are the rendering of a layout tree whose layout-free part is
    the normalised document -/
theorem mapSeqXmlIndent_roundtrip (c : SeqCfg) (S : Strconv) (hc : CfgOk c) (esc ge : Bool)
    (pfx ind : Str) {sp name : Str} {attrs : List Attr} {kids : List Node}
    (hd : seqDomain c (.elem sp name attrs kids) = true) :
    ∃ outL,
      seqEncTreeL c (2 * Val.depth (.map [(qualName c sp name,
          SeqFold.value c S (.elem sp name attrs kids))]) + 2) (Pretty.init pfx ind)
          (qualName c sp name) (SeqFold.value c S (.elem sp name attrs kids)) = .ok outL
      ∧ mapSeqXmlIndent c esc ge pfx ind
          [(qualName c sp name, SeqFold.value c S (.elem sp name attrs kids))]
        = .ok (renderLKids esc ge outL)
      ∧ LNode.stripKids outL = [qualify c (normalizeC c (.elem sp name attrs kids))] := by
  obtain ⟨outL, h1, h2⟩ := treeL_roundtrip c S hc hd (Pretty.init pfx ind) _
    (fuel_suffices c S hc hd (qualName c sp name))
  refine ⟨outL, h1, ?_, h2⟩
  unfold mapSeqXmlIndent mapSeqXmlIndentP
  rw [seqRootI_single _ (value_not_list ..), encP_linkL c esc ge hc.ts _ _ _ _ (plain_value c S hc _ hd)
    (noteOk_value c S hc _ hd _ (noteKeyB_of_not_hash c _ (seqDomain_key hd))), h1]
  rfl


/-! ### adjacent character data is one run: the decoder does not see `mergeText` -/

/-- `m[k]=a; m[k']=n; m[k]=b` is `m[k]=b; m[k']=n` -/
theorem insert_swap (k k' : Str) (hk : k ≠ k') (a b n : Val) (l : Entries) :
    insert k b (insert k' n (insert k a l)) = insert k' n (insert k b l) := by
  induction l with
  | nil => simp [insert, Ne.symm hk]
  | cons e rest ih =>
    obtain ⟨q, v⟩ := e
    by_cases e1 : k = q
    · subst e1
      simp [insert, Ne.symm hk]
    · by_cases e2 : k' = q
      · subst e2
        simp [insert, e1, insert_insert]
      · simp [insert, e1, e2, ih]

/-- two CharData tokens in a row are processed like their concatenation -/
theorem onText_merge (c : SeqCfg) (S : Strconv) (hts : c.textK ≠ c.seqK) (na : Entries) (seq : Nat)
    (pend : Option (Str × Bool)) (a b : Str) :
    SeqFold.onText c S (SeqFold.onText c S na seq pend a).1 (SeqFold.onText c S na seq pend a).2.1
        (SeqFold.onText c S na seq pend a).2.2 b
      = SeqFold.onText c S na seq pend (a ++ b) := by
  -- no pending character data is an empty run that has no number yet
  obtain ⟨⟨raw, numbered⟩, hp⟩ : ∃ pr, ∀ s, SeqFold.onText c S na seq pend s
      = SeqFold.onText c S na seq (some pr) s := by
    cases pend with
    | none => exact ⟨([], false), fun _ => rfl⟩
    | some pr => exact ⟨pr, fun _ => rfl⟩
  rw [hp a, hp (a ++ b)]
  cases h1 : (Conv.textOf c.dec (raw ++ a)).isEmpty with
  | true =>
    simp only [Conv.textOf] at h1
    simp [SeqFold.onText, h1, List.append_assoc]
  | false =>
    -- a run that has a text still has one when it goes on
    have h2 := Conv.textOf_append_nonempty c.dec (raw ++ a) b h1
    simp only [Conv.textOf, List.append_assoc] at h1 h2
    cases numbered with
    | true => simp [SeqFold.onText, h1, h2, List.append_assoc, insert_insert]
    | false =>
      simp [SeqFold.onText, h1, h2, List.append_assoc, insert_swap c.textK c.seqK hts]

theorem kids_merge (c : SeqCfg) (S : Strconv) (hts : c.textK ≠ c.seqK) : ∀ (ks : List Node)
    (st : Entries × Nat × Option (Str × Bool)),
    SeqFold.kids' c S st (mergeKids ks) = SeqFold.kids' c S st ks := by
  intro ks
  induction ks using Node.forest_ind with
  | nil => exact fun _ => rfl
  | text a rest ih =>
    intro (na, seq, pend)
    simp only [mergeKids, SeqFold.kids']
    rw [← ih]
    split
    next b r h => rw [h]; simp only [SeqFold.kids', onText_merge c S hts]
    next => simp only [SeqFold.kids']
  | elem sp n as ks rest ihk ih =>
    intro (na, seq, pend)
    simp only [mergeKids, mergeText, SeqFold.kids', SeqFold.value, ihk, ih]
  | comment _ rest ih | procinst _ _ rest ih | directive _ rest ih =>
    intro (na, seq, pend)
    simp only [mergeKids, mergeText, SeqFold.kids', ih]

theorem value_merge (c : SeqCfg) (S : Strconv) (hts : c.textK ≠ c.seqK) (t : Node) :
    SeqFold.value c S (mergeText t) = SeqFold.value c S t := by
  cases t with
  | elem sp n as ks => simp only [mergeText, SeqFold.value, kids_merge c S hts ks]
  | _ => rfl

/-- merging leaves character data up to an element character data, and goes on behind the
    element as if it stood first -/
theorem mergeKids_texts (sp n : Str) (as : List Attr) (ks Y : List Node) (ss : List Str) :
    ∃ ts : List Str, mergeKids (ss.map .text ++ .elem sp n as ks :: Y)
      = ts.map .text ++ .elem sp n as (mergeKids ks) :: mergeKids Y := by
  induction ss with
  | nil => exact ⟨[], by simp only [List.map_nil, List.nil_append, mergeKids, mergeText]⟩
  | cons s ss ih =>
    obtain ⟨ts, h⟩ := ih
    simp only [List.map_cons, List.cons_append, mergeKids, h]
    cases ts with
    | nil => exact ⟨[s], rfl⟩
    | cons t ts => exact ⟨(s ++ t) :: ts, rfl⟩

/-- the token stream a tokenizer reports for the indented output (adjacent character data
    merged) decodes to the value of the layout-free element -/
theorem tokens_decode_merged (c : SeqCfg) (S : Strconv) (fin : StreamEnd) (hts : c.textK ≠ c.seqK)
    {outL : List LNode} {n : Str} {as : List Attr} {ks0 : List Node}
    (h2 : shapeKidsL outL = true) (h3 : LNode.allLays (blankS c) outL = true)
    (hs : LNode.stripKids outL = [.elem [] n as ks0]) :
    newMapXmlSeq c S (flattenKids (mergeKids (unqualifyKids (LNode.toNodes outL)))) fin
      = .ok (.doc (SeqFold.doc c S (unqualify (.elem [] n as ks0)))) := by
  obtain ⟨sa, ks, Y, e, hv⟩ := layout_split c S hts outL n as ks0 h2 h3 hs
  obtain ⟨ta, hta⟩ := mergeKids_texts (splitQual n).1 (splitQual n).2 (as.map unqualAttr) ks Y sa
  have hm := value_merge c S hts (.elem (splitQual n).1 (splitQual n).2 (as.map unqualAttr) ks)
  simp only [mergeText] at hm
  rw [e, hta, flattenKids_append, flattenKids, ← List.append_assoc,
    newMapXmlSeq_tree c S fin _ _ (text_tokens ta)]
  simp only [SeqFold.doc, unqualify, hm, hv]

/-! ### the decoder on the indented output -/

theorem doc_roundtrip (c : SeqCfg) (S : Strconv) (hts : c.textK ≠ c.seqK) (hs : c.snake = false)
    {sp name : Str} {attrs : List Attr} {kids : List Node}
    (hd : seqDomain c (.elem sp name attrs kids) = true)
    (hn : plainNames (.elem sp name attrs kids) = true) :
    SeqFold.doc c S (unqualify (qualify c (normalizeC c (.elem sp name attrs kids))))
      = SeqFold.doc c S (.elem sp name attrs kids) := by
  rw [unqualify_qualify c hs _ (plainNames_normalize c _ hn)]
  have hv := value_normalize c S hts _ (tfAll_of_domain c _ hd)
  simp only [normalizeC] at hv ⊢
  simp only [SeqFold.doc, hv]

theorem newline_trimmed (c : SeqCfg) : (trimSet c.dec).contains '\n' = true := by
  unfold trimSet; split <;> decide

/-- the decoder on the token stream of the indented output, whenever the compact tree is a single
    element and padding and indent are made of characters the decoder trims -/
theorem encTreeL_decode (c : SeqCfg) (S : Strconv) (fin : StreamEnd) (hts : c.textK ≠ c.seqK)
    {f : Nat} {p : Pretty} {key : Str} {v : Val} {outL : List LNode} {n : Str} {as : List Attr}
    {ks0 : List Node} (hp : GoodP (fun ch => (trimSet c.dec).contains ch) p)
    (hI : seqEncTreeL c f p key v = .ok outL)
    (hC : seqEncTree c f key v = .ok [.elem [] n as ks0]) :
    newMapXmlSeq c S (flattenKids (mergeKids (unqualifyKids (LNode.toNodes outL)))) fin
      = .ok (.doc (SeqFold.doc c S (unqualify (.elem [] n as ks0)))) := by
  have hsh := encTreeL_shape c _ (newline_trimmed c) hp hI
  have hst := encTreeL_strip c f p key v
  rw [hI, hC] at hst
  exact tokens_decode_merged c S fin hts hsh.2.1 hsh.2.2 (Outcome.ok.inj hst)

/-- … and when that element is the normalised, qualified form of an in-domain document, the
    result is the document's own value -/
theorem roundtrip_decode (c : SeqCfg) (S : Strconv) (fin : StreamEnd) (hts : c.textK ≠ c.seqK)
    (hs : c.snake = false) {sp name : Str} {attrs : List Attr} {kids : List Node}
    (hd : seqDomain c (.elem sp name attrs kids) = true)
    (hn : plainNames (.elem sp name attrs kids) = true) {f : Nat} {p : Pretty} {key : Str} {v : Val}
    {outL : List LNode} (hp : GoodP (fun ch => (trimSet c.dec).contains ch) p)
    (hI : seqEncTreeL c f p key v = .ok outL)
    (h2 : LNode.stripKids outL = [qualify c (normalizeC c (.elem sp name attrs kids))]) :
    newMapXmlSeq c S (flattenKids (mergeKids (unqualifyKids (LNode.toNodes outL)))) fin
      = .ok (.doc (SeqFold.doc c S (.elem sp name attrs kids))) := by
  have hsh := encTreeL_shape c _ (newline_trimmed c) hp hI
  rw [← doc_roundtrip c S hts hs hd hn]
  exact tokens_decode_merged c S fin hts hsh.2.1 hsh.2.2 h2

end SeqIL
end Mxj
