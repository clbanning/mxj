/-
  Mxj.Lemmas.NewMap — facts about the model of `Map.NewMap` (`Mxj.Model.NewMap`):
  `addNewVal` along a fresh path (get / frame / invariant),
  the pair parser of the loop as a spec-level function, and the loop as a fold.

  Everything lives in `Mxj.NM` so that helper names cannot clash with other lemma files.
-/
import Mxj.Model.NewMap
import Mxj.Lemmas.Mutate
namespace Mxj.NM

variable {nv : Val}

theorem lookup_nil (k : Str) : lookup k [] = none := rfl

/-! ### incomparable paths -/

/-- neither is a prefix of the other -/
def incomparable (p q : List Str) : Prop := ¬ p <+: q ∧ ¬ q <+: p

instance (p q : List Str) : Decidable (incomparable p q) := by
  unfold incomparable; exact inferInstance

theorem incomparable_symm {p q : List Str} (h : incomparable p q) : incomparable q p :=
  ⟨h.2, h.1⟩

theorem incomparable_comm (p q : List Str) : incomparable p q ↔ incomparable q p :=
  ⟨incomparable_symm, incomparable_symm⟩

theorem not_incomparable_nil_left (q : List Str) : ¬ incomparable [] q :=
  fun h => h.1 List.nil_prefix

theorem not_incomparable_nil_right (p : List Str) : ¬ incomparable p [] :=
  fun h => h.2 List.nil_prefix

theorem not_incomparable_self (p : List Str) : ¬ incomparable p p :=
  fun h => h.1 (List.prefix_refl p)

theorem incomparable_cons_cons (k j : Str) (p q : List Str) :
    incomparable (k :: p) (j :: q) ↔ k ≠ j ∨ incomparable p q :=
  incomp_cons_cons k j p q

/-- incomparable paths share a (possibly empty) run of keys and then differ in a key: induction
    along the shared run, below which both paths go on -/
theorem incomparable_induction {motive : List Str → List Str → Prop}
    (differ : ∀ k j p q, j ≠ k → motive (k :: p) (j :: q))
    (shared : ∀ k k' p j q, motive (k' :: p) (j :: q) → motive (k :: k' :: p) (k :: j :: q)) :
    ∀ p q, incomparable p q → motive p q
  | [], q, h => absurd h (not_incomparable_nil_left q)
  | _ :: _, [], h => absurd h (not_incomparable_nil_right _)
  | k :: p, j :: q, h => by
    by_cases hjk : j = k
    · subst hjk
      have h' := ((incomparable_cons_cons j j p q).1 h).resolve_left (fun h => h rfl)
      have ih := incomparable_induction differ shared p q h'
      match p, q with
      | [], _ => exact absurd h' (not_incomparable_nil_left _)
      | _ :: _, [] => exact absurd h' (not_incomparable_nil_right _)
      | k' :: p, j' :: q => exact shared j k' p j' q ih
    · exact differ k j p q hjk

/-! ### building into a fresh map -/

/-- the entries holding nothing but `v` at the path `p` -/
def mkPath (v : Val) : List Str → Entries
  | [] => []
  | [k] => [(k, v)]
  | k :: k' :: ks => [(k, .map (mkPath v (k' :: ks)))]

theorem addNewVal_nil_eq_mkPath : ∀ p : List Str, addNewVal nv [] p = mkPath nv p
  | [] => by simp [addNewVal, mkPath]
  | [k] => by simp [addNewVal, mkPath, storeNew, lookup, insert]
  | k :: k' :: ks => by
      have ih := addNewVal_nil_eq_mkPath (k' :: ks)
      simp only [addNewVal, lookup, mkPath, insert, ih]

/-- along `p` the map `n` has nothing (or nil), or maps only — what "no new path equals or
    extends another" gives -/
def clearAlong : Entries → List Str → Bool
  | _, [] => true
  | n, [k] => match lookup k n with
      | none => true
      | some .null => true
      | _ => false
  | n, k :: k' :: ks => match lookup k n with
      | none => true
      | some .null => true
      | some (.map mm) => clearAlong mm (k' :: ks)
      | _ => false

theorem clearAlong_nil : ∀ p : List Str, clearAlong [] p = true
  | [] => by simp [clearAlong]
  | [k] => by simp [clearAlong, lookup]
  | k :: k' :: ks => by simp [clearAlong, lookup]

/-! ### `addNewVal` along a clear path -/

/-- along a path that is clear beyond its first key, `addNewVal` continues in the map found under
    that key, or in a fresh one; either is clear along the rest -/
theorem addNewVal_clear_step (n : Entries) (k k' j : Str) (ks q : List Str)
    (hc : clearAlong n (k :: j :: q) = true) :
    ∃ mm, addNewVal nv n (k :: k' :: ks) = insert k (.map (addNewVal nv mm (k' :: ks))) n ∧
      clearAlong mm (j :: q) = true := by
  cases hl : lookup k n with
  | none => exact ⟨[], by simp only [addNewVal, hl], clearAlong_nil _⟩
  | some v =>
    cases v with
    | null => exact ⟨[], by simp only [addNewVal, hl], clearAlong_nil _⟩
    | map mm => exact ⟨mm, by simp only [addNewVal, hl], by simpa only [clearAlong, hl] using hc⟩
    | _ => simp [clearAlong, hl] at hc

theorem addNewVal_get : ∀ (p : List Str) (n : Entries), p ≠ [] →
    clearAlong n p = true → getPath (.map (addNewVal nv n p)) p = some nv
  | [], _, hp, _ => absurd rfl hp
  | [k], n, _, hc => by
      cases hl : lookup k n with
      | none => simp [addNewVal, storeNew, hl, getPath_insert_self, getPath_nil]
      | some v =>
        cases v <;> simp [clearAlong, hl] at hc
        simp [addNewVal, storeNew, hl, getPath_insert_self, getPath_nil]
  | k :: k' :: ks, n, _, hc => by
      obtain ⟨mm, e, hc'⟩ := addNewVal_clear_step n k k' k' ks ks hc
      rw [e, getPath_insert_self]
      exact addNewVal_get (k' :: ks) mm (by simp) hc'

/-- `addNewVal` only writes under the first key of the path -/
theorem addNewVal_eq_insert (n : Entries) (k : Str) (ks : List Str) :
    ∃ w, addNewVal nv n (k :: ks) = insert k w n := by
  cases ks with
  | nil => simp only [addNewVal, storeNew]; split <;> exact ⟨_, rfl⟩
  | cons k' ks =>
    simp only [addNewVal]
    split
    · exact ⟨_, rfl⟩
    · exact ⟨_, rfl⟩
    · exact ⟨_, rfl⟩
    · split <;> exact ⟨_, rfl⟩
    · exact ⟨_, rfl⟩

/-- frame: every path incomparable with the new path keeps its value.  (No `clearAlong`
    hypothesis is needed: whatever `addNewVal` does below the first differing key, the
    other path either leaves `p` at a map that is rebuilt around it, or both sides are
    `none`.) -/
theorem addNewVal_frame : ∀ p q : List Str, incomparable p q → ∀ n : Entries,
    getPath (.map (addNewVal nv n p)) q = getPath (.map n) q :=
  incomparable_induction
    (fun k j p q hjk n => by
      obtain ⟨w, e⟩ := addNewVal_eq_insert (nv := nv) n k p
      rw [e, getPath_insert_ne n k j w q hjk])
    (fun k k' ks j more ih n => by
      rw [getPath_map_cons n]
      simp only [addNewVal]
      split
      next hl => rw [getPath_insert_self, ih, hl, getPath_empty _ (by simp)]; rfl
      next hl => rw [getPath_insert_self, ih, hl, getPath_empty _ (by simp)]; rfl
      next mm hl => rw [getPath_insert_self, ih, hl]; rfl
      next a hl => rw [hl]; split <;> rw [getPath_insert_self] <;> rfl
      next v _ hv _ hl =>
        rw [getPath_insert_self, hl]
        cases v <;> first | rfl | exact absurd rfl (hv _))

/-- `clearAlong` looks at the map only through `lookup` of the first key -/
theorem clearAlong_congr (n n' : Entries) (k : Str) (ks : List Str)
    (h : lookup k n' = lookup k n) : clearAlong n' (k :: ks) = clearAlong n (k :: ks) := by
  cases ks with
  | nil => simp only [clearAlong, h]
  | cons k₂ ks => simp only [clearAlong, h]

theorem clearAlong_insert_map (n mm : Entries) (k k' : Str) (ks : List Str) :
    clearAlong (insert k (.map mm) n) (k :: k' :: ks) = clearAlong mm (k' :: ks) := by
  simp only [clearAlong, lookup_insert_self]

/-- the loop invariant is preserved: adding along `p` keeps every incomparable path `q`
    clear.  (`clearAlong n p` is not needed: where `p` and `q` share a prefix, clearness
    along `q` already forces the `none`/nil/map cases of `addNewVal`.) -/
theorem clearAlong_addNewVal : ∀ p q : List Str, incomparable p q → ∀ n : Entries,
    clearAlong n q = true → clearAlong (addNewVal nv n p) q = true :=
  incomparable_induction
    (fun k j p q hjk n hq => by
      obtain ⟨w, e⟩ := addNewVal_eq_insert (nv := nv) n k p
      rw [e, clearAlong_congr n _ j q (lookup_insert_ne j k w hjk n)]; exact hq)
    (fun k k' ks j more ih n hq => by
      obtain ⟨mm, e, hc'⟩ := addNewVal_clear_step n k k' j ks more hq
      rw [e, clearAlong_insert_map]
      exact ih mm hc')

/-- a non-empty new key has a non-empty path -/
theorem newKeyPath_ne_nil (nw : Str) (h : nw ≠ []) : newKeyPath nw ≠ [] := fun e =>
  (dropTrailingEmpty_eq_nil e).elim (splitGo1_ne_nil '.' nw [])
    fun h1 => h (splitOn_singleton '.' nw [] h1).1.symm

/-! ### the pair parser -/

/-- the pair parser of the loop, as a spec-level function -/
def pairOf (v : Str) : Option (Str × Str) :=
  match splitOn [':'] v with
  | [a] => some (a, a)
  | [a, b] => some (a, b)
  | _ => none

def validPair (v : Str) : Bool :=
  match pairOf v with
  | some (o, nw) => !nw.contains '*' && !nw.contains '[' && !(o.isEmpty || nw.isEmpty)
  | none => false

/-- more than one ':', an empty old or new part, or a new part containing '*' or '[' -/
def malformed (v : Str) : Prop :=
  v.count ':' > 1 ∨
  (∃ a b, splitOn [':'] v = [a, b] ∧ (a = [] ∨ b = [] ∨ '*' ∈ b ∨ '[' ∈ b)) ∨
  (∃ a, splitOn [':'] v = [a] ∧ ('*' ∈ a ∨ '[' ∈ a))

theorem validPair_some (v : Str) : validPair v = true →
    ∃ o nw, pairOf v = some (o, nw) ∧ o ≠ [] ∧ nw ≠ [] ∧ '*' ∉ nw ∧ '[' ∉ nw := by
  fun_cases validPair v with
  | case1 o nw hp =>
    intro h
    have h' : ('*' ∉ nw ∧ '[' ∉ nw) ∧ o ≠ [] ∧ nw ≠ [] := by simpa using h
    exact ⟨o, nw, hp, h'.2.1, h'.2.2, h'.1.1, h'.1.2⟩
  | case2 => nofun

theorem validPair_of_pairOf (v o nw : Str) (h : validPair v = true) (hp : pairOf v = some (o, nw)) :
    o ≠ [] ∧ nw ≠ [] ∧ '*' ∉ nw ∧ '[' ∉ nw := by
  obtain ⟨o', nw', hp', hs⟩ := validPair_some v h
  rw [hp] at hp'; cases hp'; exact hs

theorem validPair_false_iff (v : Str) (hv : v ≠ []) : validPair v = false ↔ malformed v := by
  have hlen := splitOn_length ':' v
  unfold malformed validPair pairOf
  -- by the number of parts, which decides the disjunct of `malformed`; the test fails when one of
  -- its conjuncts does (`Bool.and_eq_false_iff`)
  generalize hs : splitOn [':'] v = parts at hlen ⊢
  rcases parts with _ | ⟨a, _ | ⟨b, _ | ⟨c, t⟩⟩⟩
  · simp at hlen
  · obtain ⟨rfl, hc⟩ := splitOn_singleton ':' v a hs
    simp [List.count_eq_zero.2 hc, hv, -Bool.and_eq_false_imp, Bool.and_eq_false_iff]
  · have hc1 : v.count ':' = 1 := by simpa using hlen.symm
    simpa [hc1, -Bool.and_eq_false_imp, Bool.and_eq_false_iff, and_assoc] using or_comm.trans or_assoc
  · have : v.count ':' > 1 := by simp at hlen; omega
    simp [this]

/-! ### the loop -/

section Loop
variable (vfp : Str → Except ErrKind (List Val))

theorem newMapLoop_nil (n : Entries) : newMapLoop vfp [] n = (n, none) := rfl

theorem newMapLoop_empty_pair (rest : List Str) (n : Entries) :
    newMapLoop vfp ([] :: rest) n = newMapLoop vfp rest n := by
  simp [newMapLoop]

/-- three refusals in a row are one test -/
theorem ite_chain {α : Type} (a b c : Bool) (x y : α) :
    (if a = true then y else if b = true then y else if c = true then y else x) =
      if (!a && !b && !c) = true then x else y := by
  cases a <;> cases b <;> cases c <;> rfl

/-- one step of the loop on a non-empty pair string -/
theorem newMapLoop_cons (v : Str) (rest : List Str) (n : Entries) (hv : v ≠ []) :
    newMapLoop vfp (v :: rest) n =
      if validPair v = true then
        match pairOf v with
        | some (o, nw) =>
          (match vfp o with
            | .error e => (n, some e)
            | .ok [] => newMapLoop vfp rest n
            | .ok vs => newMapLoop vfp rest (addNewVal (singleOrList vs) n (newKeyPath nw)))
        | none => (n, some .keypair)
      else (n, some .keypair) := by
  rw [newMapLoop]
  simp only [List.isEmpty_eq_false_iff.2 hv, Bool.false_eq_true, if_false]
  unfold validPair pairOf
  -- by the number of parts: none, `[a]`, `[a, b]`, more
  rcases splitOn [':'] v with _ | ⟨a, _ | ⟨b, _ | ⟨c, t⟩⟩⟩
  case cons.nil | cons.cons.nil => exact ite_chain ..
  all_goals rfl

/-- the loop over a concatenation: run the first part; continue unless it failed -/
theorem newMapLoop_append (pre post : List Str) : ∀ n : Entries,
    newMapLoop vfp (pre ++ post) n =
      match newMapLoop vfp pre n with
      | (n', none) => newMapLoop vfp post n'
      | r => r := by
  induction pre with
  | nil => intro n; simp [newMapLoop_nil]
  | cons v pre ih =>
    intro n
    by_cases hv : v = []
    · subst hv
      rw [List.cons_append, newMapLoop_empty_pair, newMapLoop_empty_pair]; exact ih n
    · -- both sides run the same step on `v`; where it goes on, the induction hypothesis applies
      rw [List.cons_append, newMapLoop_cons vfp v _ n hv, newMapLoop_cons vfp v pre n hv]
      split
      · split
        · split
          · rfl
          · exact ih n
          · exact ih _
        · rfl
      · rfl

/-! ### the loop on valid input is a fold over the contributing pairs -/

/-- the contributions of the pairs: new path and value to store, in order; pairs that are
    empty, unparsable, or whose old path fails or yields nothing contribute nothing -/
def contrib : List Str → List (List Str × Val)
  | [] => []
  | v :: rest =>
    if v.isEmpty then contrib rest
    else match pairOf v with
      | some (o, nw) =>
        (match vfp o with
          | .ok (x :: xs) => (newKeyPath nw, singleOrList (x :: xs)) :: contrib rest
          | _ => contrib rest)
      | none => contrib rest

def contribPaths (pairs : List Str) : List (List Str) := (contrib vfp pairs).map (·.1)

/-- each pair contributes by itself -/
theorem contrib_eq_flatMap : ∀ pairs : List Str,
    contrib vfp pairs = pairs.flatMap fun v => contrib vfp [v]
  | [] => rfl
  | v :: rest => by
    rw [List.flatMap_cons, ← contrib_eq_flatMap rest]
    simp only [contrib]
    split
    · rfl
    · split
      · split <;> rfl
      · rfl

theorem mem_contrib_one (v : Str) (p : List Str) (val : Val) :
    (p, val) ∈ contrib vfp [v] ↔
      v ≠ [] ∧ ∃ o nw vs, pairOf v = some (o, nw) ∧ vfp o = .ok vs ∧ vs ≠ [] ∧
        p = newKeyPath nw ∧ val = singleOrList vs := by
  constructor
  · -- of the branches of `contrib`, only `.ok (x :: xs)` has a member
    intro h
    simp only [contrib] at h
    split at h
    · cases h
    · next hv =>
      split at h
      · next o nw hp =>
        split at h
        · next x xs he =>
          cases List.mem_singleton.1 h
          exact ⟨by simpa using hv, o, nw, _, hp, he, by simp, rfl, rfl⟩
        · cases h
      · cases h
  · rintro ⟨hv, o, nw, vs, hp, he, hvs, rfl, rfl⟩
    cases vs with
    | nil => exact absurd rfl hvs
    | cons x xs => simp [contrib, hv, hp, he]

theorem mem_contrib (pairs : List Str) (p : List Str) (val : Val) :
    (p, val) ∈ contrib vfp pairs ↔
      ∃ v ∈ pairs, v ≠ [] ∧ ∃ o nw vs, pairOf v = some (o, nw) ∧ vfp o = .ok vs ∧ vs ≠ [] ∧
        p = newKeyPath nw ∧ val = singleOrList vs := by
  rw [contrib_eq_flatMap, List.mem_flatMap]
  simp only [mem_contrib_one]

theorem mem_contribPaths (pairs : List Str) (p : List Str) :
    p ∈ contribPaths vfp pairs ↔
      ∃ v ∈ pairs, v ≠ [] ∧ ∃ o nw vs, pairOf v = some (o, nw) ∧ vfp o = .ok vs ∧ vs ≠ [] ∧
        p = newKeyPath nw := by
  unfold contribPaths
  rw [List.mem_map]
  constructor
  · rintro ⟨⟨p', val⟩, hm, rfl⟩
    obtain ⟨v, hvm, hv, o, nw, vs, h1, h2, h3, h4, -⟩ := (mem_contrib vfp pairs p' val).1 hm
    exact ⟨v, hvm, hv, o, nw, vs, h1, h2, h3, h4⟩
  · rintro ⟨v, hvm, hv, o, nw, vs, h1, h2, h3, h4⟩
    exact ⟨(p, singleOrList vs),
      (mem_contrib vfp pairs p _).2 ⟨v, hvm, hv, o, nw, vs, h1, h2, h3, h4, rfl⟩, rfl⟩

def addAll (n : Entries) (cs : List (List Str × Val)) : Entries :=
  cs.foldl (fun n c => addNewVal c.2 n c.1) n

theorem addAll_nil (n : Entries) : addAll n [] = n := rfl

theorem addAll_cons (n : Entries) (c : List Str × Val) (cs : List (List Str × Val)) :
    addAll n (c :: cs) = addAll (addNewVal c.2 n c.1) cs := rfl

/-- on valid input whose old paths all evaluate, the loop cannot fail and is the fold -/
theorem newMapLoop_eq_addAll : ∀ (pairs : List Str) (n : Entries),
    (∀ v ∈ pairs, v ≠ [] → validPair v = true) →
    (∀ v ∈ pairs, v ≠ [] → ∀ o nw, pairOf v = some (o, nw) → ∃ vs, vfp o = .ok vs) →
    newMapLoop vfp pairs n = (addAll n (contrib vfp pairs), none) := by
  intro pairs
  induction pairs with
  | nil => intro n _ _; simp [newMapLoop_nil, contrib, addAll_nil]
  | cons v rest ih =>
    intro n hvalid hok
    obtain ⟨hval, hvalid'⟩ := List.forall_mem_cons.1 hvalid
    obtain ⟨hokv, hok'⟩ := List.forall_mem_cons.1 hok
    by_cases hv : v = []
    · subst hv
      rw [newMapLoop_empty_pair, ih n hvalid' hok']; simp only [contrib, List.isEmpty_nil, if_true]
    · have hval := hval hv
      obtain ⟨o, nw, hp, -⟩ := validPair_some v hval
      obtain ⟨vs, he⟩ := hokv hv o nw hp
      rw [newMapLoop_cons vfp v rest n hv]
      simp only [contrib, List.isEmpty_eq_false_iff.2 hv, Bool.false_eq_true, if_false, hval, if_true,
        hp, he]
      cases vs with
      | nil => exact ih n hvalid' hok'
      | cons x xs => exact ih _ hvalid' hok'

end Loop

/-! ### the fold: frame and content -/

/-- paths incomparable with every inserted path keep their value (no side conditions) -/
theorem addAll_frame (q : List Str) : ∀ (cs : List (List Str × Val)) (n : Entries),
    (∀ p ∈ cs.map (·.1), incomparable p q) →
    getPath (.map (addAll n cs)) q = getPath (.map n) q := by
  intro cs
  induction cs with
  | nil => intro n _; rfl
  | cons c cs ih =>
    intro n h
    obtain ⟨hc, h'⟩ := List.forall_mem_cons.1 h
    rw [addAll_cons, ih _ h']
    exact addNewVal_frame c.1 q hc n

/-- pairwise incomparable non-empty paths, all clear in the start map: every inserted value
    is found at its path afterwards -/
theorem addAll_get : ∀ (cs : List (List Str × Val)) (n : Entries),
    (∀ p ∈ cs.map (·.1), p ≠ []) →
    List.Pairwise incomparable (cs.map (·.1)) →
    (∀ p ∈ cs.map (·.1), clearAlong n p = true) →
    ∀ c ∈ cs, getPath (.map (addAll n cs)) c.1 = some c.2 := by
  intro cs
  induction cs with
  | nil => intro n _ _ _ c hc; simp at hc
  | cons c₀ cs ih =>
    intro n hne hpw hclear c hc
    obtain ⟨hinc, hpw'⟩ := List.pairwise_cons.1 hpw
    obtain ⟨hne₀, hne'⟩ := List.forall_mem_cons.1 hne
    obtain ⟨hclear₀, hclear'⟩ := List.forall_mem_cons.1 hclear
    rw [addAll_cons]
    rcases List.mem_cons.1 hc with rfl | hc
    · rw [addAll_frame c.1 cs _ (fun p hp => incomparable_symm (hinc p hp))]
      exact addNewVal_get c.1 n hne₀ hclear₀
    · exact ih _ hne' hpw'
        (fun p hp => clearAlong_addNewVal c₀.1 p (hinc p hp) n (hclear' p hp)) c hc

end Mxj.NM
