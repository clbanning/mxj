/-
  Mxj.Lemmas.Trim — `strings.Trim` (`trimChars` of Mxj.Model.Xml): a text that neither begins nor ends
  with a cut character is trimmed already (`trimChars_of_stops`), hence idempotence; blank tails; when
  nothing is left.
-/
import Mxj.Model.Xml
import Mxj.Lemmas.Str
namespace Mxj

theorem dropWhile_eq_nil_iff {α : Type} (p : α → Bool) : ∀ (l : List α),
    l.dropWhile p = [] ↔ ∀ x ∈ l, p x = true
  | [] => by simp
  | a :: l => by
      by_cases h : p a = true
      · simp [List.dropWhile_cons_of_pos h, h, dropWhile_eq_nil_iff p l]
      · simp [List.dropWhile_cons_of_neg h, h]

theorem trimChars_of_stops (cut : List Char) (s : Str) (h : Tokz.stops (cut.contains ·) s = true)
    (h' : Tokz.stops (cut.contains ·) s.reverse = true) : trimChars cut s = s := by
  unfold trimChars
  rw [dropWhile_of_stops h, dropWhile_of_stops h', List.reverse_reverse]

theorem trimChars_of_none (cut : List Char) (s : Str) (h : ∀ c ∈ s, cut.contains c = false) :
    trimChars cut s = s := by
  have stops : ∀ l : Str, (∀ c ∈ l, c ∈ s) → Tokz.stops (cut.contains ·) l = true
    | [], _ => rfl
    | c :: _, hl => by simpa [Tokz.stops] using h c (hl c (List.mem_cons_self ..))
  exact trimChars_of_stops cut s (stops s fun _ => id) (stops _ fun _ => List.mem_reverse.1)

theorem trimChars_idem (cut : List Char) (s : Str) : trimChars cut (trimChars cut s) = trimChars cut s := by
  refine trimChars_of_stops cut _ ?_ ?_ <;> unfold trimChars
  · -- trimming on the right leaves the head of `s.dropWhile p`, which is not a `p`, in front
    have hd := stops_dropWhile (cut.contains ·) s
    generalize s.dropWhile _ = d at hd
    cases d with
    | nil => rfl
    | cons x d =>
      rw [List.reverse_cons, List.dropWhile_append]
      split
      · rwa [dropWhile_of_stops (s := [x]) hd]
      · rwa [List.reverse_append]
  · rw [List.reverse_reverse]; exact stops_dropWhile _ _

/-- blank character data behind a run does not change what the run trims to -/
theorem trimChars_append_right (cut : List Char) (raw b : Str) (hb : ∀ ch ∈ b, cut.contains ch = true) :
    trimChars cut (raw ++ b) = trimChars cut raw := by
  unfold trimChars
  rw [List.dropWhile_append]
  split
  · next h => rw [List.isEmpty_iff.1 h, (dropWhile_eq_nil_iff _ _).2 hb]
  · rw [List.reverse_append, List.dropWhile_append_of_pos fun a ha => hb a (List.mem_reverse.1 ha)]

theorem trimChars_ws (cut : List Char) (w r w' : Str) (hw : ∀ c ∈ w, cut.contains c = true)
    (hw' : ∀ c ∈ w', cut.contains c = true) :
    trimChars cut (w ++ r ++ w') = trimChars cut r := by
  rw [trimChars_append_right cut (w ++ r) w' hw']
  unfold trimChars
  rw [List.dropWhile_append_of_pos hw]

theorem trimChars_eq_nil_iff (cut : List Char) (s : Str) :
    trimChars cut s = [] ↔ ∀ ch ∈ s, cut.contains ch = true := by
  unfold trimChars
  rw [List.reverse_eq_nil_iff, dropWhile_eq_nil_iff]
  simp only [List.mem_reverse]
  -- every character of `s.dropWhile p` is a `p`: nothing is left of it, as `dropWhile p` leaves it as it is
  rw [← dropWhile_eq_nil_iff, dropWhile_of_stops (stops_dropWhile _ s), dropWhile_eq_nil_iff]

end Mxj
