/-
  Mxj.Lemmas.JsonIndent — the JSON text grammar of Mxj.Model.Json (`value` / `elements` /
  `members`) skips the layout that the indented encoder of Mxj.Model.Forms (`encNI`,
  `mapJsonIndent`: the model of `Map.JsonIndent`, i.e. of `json.Indent`) inserts, whenever prefix
  and indent consist of JSON white space only (`WsOnly`).

  `encNI` is the open-layout encoder `encL` of Mxj.Lemmas.Json at `nlIndent pfx ind` and " "
  (`encNI_eq`), so round trip and fuel bound are instances of the `encL` theorems of that file.
  HTML-freedom of the safe encoding is proved here, again once for `encL` (`noHtml_encL`: a layout
  without '<', '>', '&' brings none in), with the compact (`noHtml_encN`) and the indented encoder
  (`noHtml_encNI`) as its instances.
-/
import Mxj.Lemmas.Json
import Mxj.Model.Forms
namespace Mxj.Json
open Mxj Mxj.Forms

theorem wsOnly_nlIndent {pfx ind : Str} (hp : WsOnly pfx = true) (hi : WsOnly ind = true) :
    ∀ d, WsOnly (nlIndent pfx ind d) = true
  | 0 => by rw [nlIndent, wsOnly_cons]; exact ⟨by decide, hp⟩
  | d + 1 => by rw [nlIndent, wsOnly_append]; exact ⟨wsOnly_nlIndent hp hi d, hi⟩

theorem wsLayout_nlIndent {pfx ind : Str} (hp : WsOnly pfx = true) (hi : WsOnly ind = true) :
    WsLayout (nlIndent pfx ind) [' '] :=
  ⟨wsOnly_nlIndent hp hi, by decide⟩

mutual
theorem encNI_eq (html : Bool) (pfx ind : Str) : ∀ (d : Nat) (v : Val),
    encNI html pfx ind d v = encL html (nlIndent pfx ind) [' '] d v
  | d, .list [] => rfl
  | d, .list (x :: xs) => by simp [encNI, encL, encListI_eq html pfx ind (d + 1) (x :: xs)]
  | d, .map [] => rfl
  | d, .map (e :: kvs) => by simp [encNI, encL, encEntriesI_eq html pfx ind (d + 1) (e :: kvs)]
  | _, .null => rfl
  | _, .bool _ => rfl
  | _, .num _ => rfl
  | _, .str _ => rfl
theorem encListI_eq (html : Bool) (pfx ind : Str) : ∀ (d : Nat) (xs : List Val),
    encListI html pfx ind d xs = encListL html (nlIndent pfx ind) [' '] d xs
  | _, [] => rfl
  | d, [x] => by rw [encListI, encListL, encNI_eq html pfx ind d x]
  | d, x :: y :: r => by
      simp [encListI, encListL, encNI_eq html pfx ind d x, encListI_eq html pfx ind d (y :: r)]
theorem encEntriesI_eq (html : Bool) (pfx ind : Str) : ∀ (d : Nat) (kvs : Entries),
    encEntriesI html pfx ind d kvs = encEntriesL html (nlIndent pfx ind) [' '] d kvs
  | _, [] => rfl
  | d, [(k, v)] => by simp [encEntriesI, encEntriesL, encNI_eq html pfx ind d v]
  | d, (k, v) :: e :: r => by
      simp [encEntriesI, encEntriesL, encNI_eq html pfx ind d v, encEntriesI_eq html pfx ind d (e :: r)]
end

theorem rtI_value (v : Val) (html : Bool) (pfx ind : Str) (d : Nat) (rest : Str) (f : Nat)
    (hp : WsOnly pfx = true) (hi : WsOnly ind = true) (hv : JsonShaped v = true)
    (hr : ∀ t, v = .num t → numEnd rest = true) (hf : sz v ≤ f) :
    value f (encNI html pfx ind d v ++ rest) = some (v, rest) := by
  rw [encNI_eq]
  exact rtL_value html (wsLayout_nlIndent hp hi) v d rest f hv hr hf

theorem rtI_elements : ∀ (xs : List Val) (html : Bool) (pfx ind : Str) (d : Nat) (w2 rest : Str)
    (f : Nat) (acc : List Val),
    WsOnly pfx = true → WsOnly ind = true → xs ≠ [] → WsOnly w2 = true →
    JsonShapedList xs = true → szList xs ≤ f →
    elements f (encListI html pfx ind d xs ++ (w2 ++ ']' :: rest)) acc
      = some (.list (acc.reverse ++ xs), rest) := by
  intro xs html pfx ind d w2 rest f acc hp hi hne hw hv hf
  rw [encListI_eq]
  exact rtL_elements html (wsLayout_nlIndent hp hi) xs d w2 rest f acc hne hw hv hf

theorem rtI_members : ∀ (kvs : Entries) (html : Bool) (pfx ind : Str) (d : Nat) (w2 rest : Str)
    (f : Nat) (acc : Entries),
    WsOnly pfx = true → WsOnly ind = true → kvs ≠ [] → WsOnly w2 = true →
    JsonShapedEntries kvs = true → distinctKeys (acc ++ kvs) = true → szEntries kvs ≤ f →
    members f (encEntriesI html pfx ind d kvs ++ (w2 ++ '}' :: rest)) acc
      = some (.map (acc ++ kvs), rest) := by
  intro kvs html pfx ind d w2 rest f acc hp hi hne hw hv hd hf
  rw [encEntriesI_eq]
  exact rtL_members html (wsLayout_nlIndent hp hi) kvs d w2 rest f acc hne hw hv hd hf

theorem szListI_le_length : ∀ (html : Bool) (pfx ind : Str) (d : Nat) (xs : List Val),
    JsonShapedList xs = true → szList xs ≤ (encListI html pfx ind d xs).length + 1 := by
  intro html pfx ind d xs hv
  rw [encListI_eq]
  exact szListL_le_length html _ _ d xs hv

theorem szEntriesI_le_length : ∀ (html : Bool) (pfx ind : Str) (d : Nat) (kvs : Entries),
    JsonShapedEntries kvs = true → szEntries kvs ≤ (encEntriesI html pfx ind d kvs).length + 1 := by
  intro html pfx ind d kvs hv
  rw [encEntriesI_eq]
  exact szEntriesL_le_length html _ _ d kvs hv

theorem newMapJson_mapJsonIndent (safe : Bool) (pfx ind : Str) (m : Entries)
    (hp : WsOnly pfx = true) (hi : WsOnly ind = true) (hm : JsonShaped (.map m) = true) :
    newMapJson (mapJsonIndent safe pfx ind (.map m)) = some (Val.norm (.map m)) := by
  unfold mapJsonIndent
  split
  -- the compact text when prefix and indent are empty, else the layout `nlIndent pfx ind` and " "
  · exact newMapJson_mapJson safe m hm
  · have := newMapJson_encL (wsLayout_nlIndent hp hi) safe m hm []
    rwa [List.append_nil, ← encNI_eq] at this

/-- a text made of a class of characters that has none of '<', '>', '&' (white space, the
    characters of a number) -/
theorem noHtml_of_all {p : Char → Bool} (hp : p '<' = false ∧ p '>' = false ∧ p '&' = false)
    {s : Str} (h : ∀ c ∈ s, p c = true) : NoHtml s := by
  intro c hc
  have hc := h c hc
  refine ⟨?_, ?_, ?_⟩ <;> (rintro rfl; simp [hp] at hc)

theorem noHtml_of_wsOnly {w : Str} (h : WsOnly w = true) : NoHtml w :=
  noHtml_of_all (by decide) (List.all_eq_true.1 h)

theorem noHtml_numberLit {s t r : Str} (h : numberLit s = some (t, r)) : NoHtml t :=
  noHtml_of_all (by decide) (numberLit_numCh h)

mutual
theorem noHtml_encL {nl : Nat → Str} {sp : Str} (hnl : ∀ d, NoHtml (nl d)) (hsp : NoHtml sp) :
    ∀ (d : Nat) (v : Val), JsonShaped v = true → NoHtml (encL true nl sp d v)
  | _, .null, _ | _, .bool true, _ | _, .bool false, _ | _, .list [], _ | _, .map [], _ => by
      -- a closed text
      show NoHtml (encN true _)
      intro c hc; revert c; decide +kernel
  | _, .num t, hv => noHtml_numberLit (jsonShaped_num hv).2
  | _, .str s, _ => noHtml_quote s
  | d, .list (x :: xs), hv => by
      rw [encL]
      exact noHtml_cons (by decide) (noHtml_append (hnl (d + 1))
        (noHtml_append (noHtml_encListL hnl hsp (d + 1) (x :: xs) hv)
          (noHtml_append (hnl d) (noHtml_cons (by decide) noHtml_nil))))
  | d, .map (e :: kvs), hv => by
      rw [encL]
      exact noHtml_cons (by decide) (noHtml_append (hnl (d + 1))
        (noHtml_append (noHtml_encEntriesL hnl hsp (d + 1) (e :: kvs) (jsonShaped_map hv).1)
          (noHtml_append (hnl d) (noHtml_cons (by decide) noHtml_nil))))
theorem noHtml_encListL {nl : Nat → Str} {sp : Str} (hnl : ∀ d, NoHtml (nl d)) (hsp : NoHtml sp) :
    ∀ (d : Nat) (xs : List Val), JsonShapedList xs = true → NoHtml (encListL true nl sp d xs)
  | _, [], _ => noHtml_nil
  | d, [x], hv => by
      rw [encListL]; exact noHtml_encL hnl hsp d x (jsonShapedList_cons hv).1
  | d, x :: y :: r, hv => by
      rw [encListL]
      exact noHtml_append (noHtml_encL hnl hsp d x (jsonShapedList_cons hv).1)
        (noHtml_cons (by decide) (noHtml_append (hnl d)
          (noHtml_encListL hnl hsp d (y :: r) (jsonShapedList_cons hv).2)))
theorem noHtml_encEntriesL {nl : Nat → Str} {sp : Str} (hnl : ∀ d, NoHtml (nl d))
    (hsp : NoHtml sp) : ∀ (d : Nat) (kvs : Entries), JsonShapedEntries kvs = true →
    NoHtml (encEntriesL true nl sp d kvs)
  | _, [], _ => noHtml_nil
  | d, [(k, v)], hv => by
      rw [encEntriesL]
      exact noHtml_append (noHtml_quote k) (noHtml_cons (by decide)
        (noHtml_append hsp (noHtml_encL hnl hsp d v (jsonShapedEntries_cons hv).1)))
  | d, (k, v) :: (k2, v2) :: r, hv => by
      rw [encEntriesL]
      exact noHtml_append (noHtml_quote k) (noHtml_cons (by decide) (noHtml_append hsp
        (noHtml_append (noHtml_encL hnl hsp d v (jsonShapedEntries_cons hv).1)
          (noHtml_cons (by decide) (noHtml_append (hnl d)
            (noHtml_encEntriesL hnl hsp d ((k2, v2) :: r) (jsonShapedEntries_cons hv).2))))))
end
theorem noHtml_encN (v : Val) (hv : JsonShaped v = true) : NoHtml (encN true v) := by
  rw [encN_eq true 0 v]
  exact noHtml_encL (fun _ => noHtml_nil) noHtml_nil 0 v hv

theorem noHtml_encList : ∀ xs : List Val, JsonShapedList xs = true → NoHtml (encList true xs) := by
  intro xs hv
  rw [encList_eq true 0 xs]
  exact noHtml_encListL (fun _ => noHtml_nil) noHtml_nil 0 xs hv

theorem noHtml_encEntries : ∀ kvs : Entries, JsonShapedEntries kvs = true →
    NoHtml (encEntries true kvs) := by
  intro kvs hv
  rw [encEntries_eq true 0 kvs]
  exact noHtml_encEntriesL (fun _ => noHtml_nil) noHtml_nil 0 kvs hv

theorem noHtml_nlIndent {pfx ind : Str} (hp : NoHtml pfx) (hi : NoHtml ind) :
    ∀ d, NoHtml (nlIndent pfx ind d)
  | 0 => by rw [nlIndent]; exact noHtml_cons (by decide) hp
  | d + 1 => by rw [nlIndent]; exact noHtml_append (noHtml_nlIndent hp hi d) hi

theorem noHtml_encNI (pfx ind : Str) (d : Nat) (v : Val) (hp : NoHtml pfx) (hi : NoHtml ind)
    (hv : JsonShaped v = true) : NoHtml (encNI true pfx ind d v) := by
  rw [encNI_eq]
  exact noHtml_encL (noHtml_nlIndent hp hi) (noHtml_cons (by decide) noHtml_nil) d v hv

theorem noHtml_encListI : ∀ (pfx ind : Str) (d : Nat) (xs : List Val), NoHtml pfx → NoHtml ind →
    JsonShapedList xs = true → NoHtml (encListI true pfx ind d xs) := by
  intro pfx ind d xs hp hi hv
  rw [encListI_eq]
  exact noHtml_encListL (noHtml_nlIndent hp hi) (noHtml_cons (by decide) noHtml_nil) d xs hv

theorem noHtml_encEntriesI : ∀ (pfx ind : Str) (d : Nat) (kvs : Entries), NoHtml pfx → NoHtml ind →
    JsonShapedEntries kvs = true → NoHtml (encEntriesI true pfx ind d kvs) := by
  intro pfx ind d kvs hp hi hv
  rw [encEntriesI_eq]
  exact noHtml_encEntriesL (noHtml_nlIndent hp hi) (noHtml_cons (by decide) noHtml_nil) d kvs
    hv

theorem noHtml_mapJsonIndent (pfx ind : Str) (m : Val) (hp : NoHtml pfx) (hi : NoHtml ind)
    (hm : JsonShaped m = true) : NoHtml (mapJsonIndent true pfx ind m) := by
  have hn := jsonShaped_norm _ hm
  unfold mapJsonIndent
  split
  · exact noHtml_encN _ hn
  · exact noHtml_encNI pfx ind 0 _ hp hi hn

end Mxj.Json
