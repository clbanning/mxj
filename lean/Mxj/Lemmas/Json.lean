/-
  Mxj.Lemmas.Json — the JSON encoder/decoder model of Mxj.Model.Json.
  Strings: the three forms in which `quoteChar` writes a character (`quoteChar_cases`), each read
  back by `strBody`; `NoHtml`; `unquote`.  Numbers: `numberLit` stage by stage (`NumStage`,
  `SignStage`), what it accepts `value` reads as that number.  Values: the domain `JsonShaped`
  (well-formed number literals, distinct keys) and the fuel `sz`; white space (`WsOnly`) is
  invisible to the grammar; the grammar reads back what the encoder writes, proved once for an
  encoder with its layout left open (`encL`, `WsLayout`: `rtL_*`), with the decoder's own fuel
  (`firstValue_encL`); `JsonShaped` is kept by `norm`.  `NewMapJson` as a function of the first
  value (`newMapJson_spec`), on encoded Maps and arrays.  The wrapper text and the byte rewrite
  of two repaired defects (`wrapObj`, `rewriteUnsafe`), kept as documentation.
-/
import Mxj.Model.Json
import Mxj.Lemmas.Norm
import Mxj.Lemmas.Str
namespace Mxj.Json
open Mxj

theorem hexVal_lower : ∀ d, d < 16 → hex4.hexDigitVal' (hexDigitLower d) = some d := by decide

theorem hex4_digits (n : Nat) (hn : n < 65536) (rest : Str) :
    hex4 (hexDigitLower (n / 4096 % 16) :: hexDigitLower (n / 256 % 16) ::
          hexDigitLower (n / 16 % 16) :: hexDigitLower (n % 16) :: rest) = some (n, rest) := by
  simp only [hex4, hexVal_lower _ (Nat.mod_lt _ (by decide : 16 > 0))]
  congr 2
  omega

theorem strBody_u4 (n : Nat) (hn : n < 0xD800) (f : Nat) (rest acc : Str) :
    strBody (f + 1) (u4 n ++ rest) acc = strBody f rest (Char.ofNat n :: acc) := by
  have h1 : ¬ (0xD800 ≤ n) := by omega
  have h2 : ¬ (0xDC00 ≤ n) := by omega
  simp only [u4, List.cons_append, List.nil_append]
  rw [strBody.eq_4]
  simp only [hex4_digits n (by omega) rest]
  simp [h1, h2]

theorem hexDigitLower_not_html : ∀ d, d < 16 →
    hexDigitLower d ≠ '<' ∧ hexDigitLower d ≠ '>' ∧ hexDigitLower d ≠ '&' := by decide

/-- the two-character escapes of encoding/json: the character and the letter behind the backslash -/
def shortEsc : List (Char × Char) :=
  [('"', '"'), ('\\', '\\'), ('\n', 'n'), ('\r', 'r'), ('\t', 't'), ('\x08', 'b'), ('\x0c', 'f')]

/-- the three forms in which encoding/json writes a character, read off the branches of
    `quoteChar`: a two-character escape, a `\u` escape below the surrogates, the character itself -/
theorem quoteChar_cases (html : Bool) (c : Char) :
    (∃ p ∈ shortEsc, p.1 = c ∧ quoteChar html c = ['\\', p.2]) ∨
    (c.toNat < 0xD800 ∧ quoteChar html c = u4 c.toNat) ∨
    (c ≠ '"' ∧ c ≠ '\\' ∧ ¬ c.toNat < 0x20 ∧ (html = true → c ≠ '<' ∧ c ≠ '>' ∧ c ≠ '&') ∧
      quoteChar html c = [c]) := by
  fun_cases quoteChar html c
  case case1 h | case2 h | case3 h | case4 h | case5 h | case6 h | case7 h =>
    exact .inl ⟨(c, _), by subst h; decide, rfl, rfl⟩
  case case8 h => exact .inr (.inl ⟨by omega, rfl⟩)
  case case9 h =>
    refine .inr (.inl ⟨?_, rfl⟩)
    simp only [Bool.and_eq_true, Bool.or_eq_true, decide_eq_true_eq] at h
    rcases h.2 with (h | h) | h <;> subst h <;> decide
  case case10 h =>
    simp only [Bool.or_eq_true, decide_eq_true_eq] at h
    exact .inr (.inl ⟨by omega, rfl⟩)
  case case11 h1 h2 _ _ _ _ _ hc hh _ =>
    refine .inr (.inr ⟨h1, h2, hc, fun hhtml => ?_, rfl⟩)
    simpa [hhtml, not_or, and_assoc] using hh

theorem strBody_shortEsc (f : Nat) (rest acc : Str) : ∀ p ∈ shortEsc,
    strBody (f + 1) ('\\' :: p.2 :: rest) acc = strBody f rest (p.1 :: acc) := by
  intro p hp
  simp only [shortEsc, List.mem_cons, List.not_mem_nil, or_false] at hp
  rcases hp with rfl | rfl | rfl | rfl | rfl | rfl | rfl <;> rfl

theorem strBody_plain {f : Nat} {c : Char} {rest acc : Str} (h1 : c ≠ '"') (h2 : c ≠ '\\') :
    strBody (f + 1) (c :: rest) acc
      = if c.toNat < 0x20 then none else strBody f rest (c :: acc) :=
  strBody.eq_6 _ _ _ _ h1 (fun _ _ e _ => h2 e) (fun e _ => h2 e)

theorem strBody_quoteChar (html : Bool) (c : Char) (f : Nat) (rest acc : Str) :
    strBody (f + 1) (quoteChar html c ++ rest) acc = strBody f rest (c :: acc) := by
  rcases quoteChar_cases html c with ⟨p, hp, rfl, h⟩ | ⟨hc, h⟩ | ⟨h1, h2, h3, _, h⟩
  · rw [h]; exact strBody_shortEsc f rest acc p hp
  · rw [h, strBody_u4 _ hc, Char.ofNat_toNat]
  · rw [h, List.singleton_append, strBody_plain h1 h2, if_neg h3]

theorem quoteChar_length_pos (html : Bool) (c : Char) : 0 < (quoteChar html c).length := by
  rcases quoteChar_cases html c with ⟨_, _, _, h⟩ | ⟨_, h⟩ | ⟨_, _, _, _, h⟩
  all_goals rw [h]; exact Nat.succ_pos _

theorem length_le_flatMap_quoteChar (html : Bool) (s : Str) :
    s.length ≤ (s.flatMap (quoteChar html)).length := by
  induction s with
  | nil => simp
  | cons c s ih =>
    have := quoteChar_length_pos html c
    simp only [List.flatMap_cons, List.length_append, List.length_cons]
    omega

theorem strBody_flatMap (html : Bool) (s : Str) : ∀ (n : Nat) (rest acc : Str), s.length < n →
    strBody n (s.flatMap (quoteChar html) ++ '"' :: rest) acc = some (acc.reverse ++ s, rest) := by
  induction s with
  | nil =>
    intro n rest acc hn
    cases n with
    | zero => simp at hn
    | succ f => simp [strBody]
  | cons c s ih =>
    intro n rest acc hn
    cases n with
    | zero => simp at hn
    | succ f =>
      simp only [List.flatMap_cons, List.append_assoc]
      rw [strBody_quoteChar, ih f rest (c :: acc) (by simp at hn; omega)]
      simp

/-- with the fuel `value` and `members` give the string reader: length of the remaining text + 1 -/
theorem strBody_quote (html : Bool) (s rest : Str) :
    strBody ((s.flatMap (quoteChar html) ++ '"' :: rest).length + 1)
      (s.flatMap (quoteChar html) ++ '"' :: rest) [] = some (s, rest) := by
  rw [strBody_flatMap html s _ rest [] (by
    have := length_le_flatMap_quoteChar html s
    simp only [List.length_append, List.length_cons]; omega)]
  rfl

def NoHtml (s : Str) : Prop := ∀ c ∈ s, c ≠ '<' ∧ c ≠ '>' ∧ c ≠ '&'

theorem noHtml_nil : NoHtml [] := by intro c hc; cases hc

theorem noHtml_append {a b : Str} (ha : NoHtml a) (hb : NoHtml b) : NoHtml (a ++ b) :=
  List.forall_mem_append.2 ⟨ha, hb⟩

theorem noHtml_cons {c : Char} {s : Str} (hc : c ≠ '<' ∧ c ≠ '>' ∧ c ≠ '&') (hs : NoHtml s) :
    NoHtml (c :: s) :=
  List.forall_mem_cons.2 ⟨hc, hs⟩

theorem noHtml_u4 (n : Nat) : NoHtml (u4 n) := by
  have hd := fun k => hexDigitLower_not_html (k % 16) (Nat.mod_lt k (by decide))
  simp only [NoHtml, u4, List.mem_cons, List.not_mem_nil, or_false, forall_eq_or_imp, forall_eq]
  exact ⟨by decide, by decide, hd _, hd _, hd _, hd _⟩

theorem noHtml_quoteChar (x : Char) : NoHtml (quoteChar true x) := by
  rcases quoteChar_cases true x with ⟨p, hp, _, h⟩ | ⟨_, h⟩ | ⟨_, _, _, hx, h⟩ <;> rw [h]
  · exact (by decide : ∀ p ∈ shortEsc, ∀ c ∈ ['\\', p.2], c ≠ '<' ∧ c ≠ '>' ∧ c ≠ '&') p hp
  · exact noHtml_u4 _
  · exact List.forall_mem_singleton.2 (hx rfl)

theorem noHtml_quote (s : Str) : NoHtml (quote true s) :=
  noHtml_append (noHtml_cons (by decide) (List.forall_mem_flatMap.2 fun x _ => noHtml_quoteChar x))
    (noHtml_cons (by decide) noHtml_nil)

theorem quoteChar_default_html (c : Char) (hc : c = '<' ∨ c = '>' ∨ c = '&') :
    quoteChar false c = [c] := by
  rcases hc with h | h | h <;> subst h <;> decide

-- the `let`s of `numberLit`, word for word, as functions of their own (`numberLit_eq`); `numExpSign`
-- is the sign `let` inside the exponent
def numSign (s : Str) : Str × Str := match s with | '-' :: r => (['-'], r) | r => ([], r)
def numInt (s1 : Str) : Option (Str × Str) := match s1 with
    | '0' :: r => some (['0'], r)
    | _ => match digits1 s1 with
      | some (ds, r) => some (ds, r)
      | none => none
def numFrac (s2 : Str) : Option (Str × Str) := match s2 with
      | '.' :: r => match digits1 r with
          | some (ds, r') => some ('.' :: ds, r')
          | none => none
      | r => some ([], r)
def numExpSign (r : Str) : Str × Str := match r with
                | '+' :: r' => (['+'], r')
                | '-' :: r' => (['-'], r')
                | r' => ([], r')
def numExp (s3 : Str) : Option (Str × Str) := match s3 with
        | e :: r => if e = 'e' || e = 'E' then
              match digits1 (numExpSign r).2 with
              | some (ds, r2) => some (e :: (numExpSign r).1 ++ ds, r2)
              | none => none
            else some ([], s3)
        | [] => some ([], [])

theorem numberLit_eq (s : Str) : numberLit s =
    match numInt (numSign s).2 with
    | none => none
    | some (ip, s2) => match numFrac s2 with
      | none => none
      | some (fp, s3) => match numExp s3 with
        | none => none
        | some (ep, s4) => some ((numSign s).1 ++ ip ++ fp ++ ep, s4) := by
  unfold numberLit numSign numInt numFrac numExp numExpSign
  rfl

/-- `rest` cannot extend a number literal -/
def numEnd : Str → Bool
  | [] => true
  | c :: _ => !(isDigit c || c == '.' || c == 'e' || c == 'E')

theorem numEnd_cons {c : Char} {r : Str} (h : numEnd (c :: r) = true) :
    isDigit c = false ∧ c ≠ '.' ∧ c ≠ 'e' ∧ c ≠ 'E' := by
  simpa [numEnd, not_or, and_assoc] using h

def isNumCh (c : Char) : Bool :=
  isDigit c || c == '-' || c == '+' || c == '.' || c == 'e' || c == 'E'

/-- the tail condition for a value read with rest `r`: only a rest that is empty exposes it -/
def tailOk (r t : Str) : Bool := !r.isEmpty || numEnd t

/-- a stage of the number grammar splits its input into what it recognises, made of number
    characters, and a rest; it does the same with `t` appended unless the rest is empty and `t`
    could extend the literal -/
def NumStage (g : Str → Option (Str × Str)) : Prop := ∀ {x p r}, g x = some (p, r) →
  x = p ++ r ∧ (∀ c ∈ p, isNumCh c = true) ∧
    ∀ t, tailOk r t = true → g (x ++ t) = some (p, r ++ t)

theorem digits1_stage : NumStage digits1 := by
  intro x d r h
  simp only [digits1] at h
  split at h
  · cases h
  next hne =>
  cases h
  refine ⟨List.takeWhile_append_dropWhile.symm,
    fun c hc => by simp [isNumCh, List.all_eq_true.1 List.all_takeWhile c hc], fun t ht => ?_⟩
  -- digits up to the end of `x`: the tail does not go on with one
  obtain ⟨h1, h2⟩ := span_append isDigit x t <| (Decidable.em _).symm.imp_right fun hr => by
    rw [hr] at ht
    cases t with
    | nil => rfl
    | cons c t => simp [Tokz.stops, (numEnd_cons (r := t) ht).1]
  simp only [digits1, h1, h2]
  rw [if_neg hne]

theorem numInt_of_ne {s : Str} (h : s.head? ≠ some '0') : numInt s = digits1 s := by
  unfold numInt
  split
  · exact absurd rfl h
  · cases digits1 s <;> rfl

theorem numInt_stage : NumStage numInt := by
  intro x p r h
  by_cases h0 : x.head? = some '0'
  · obtain ⟨tl, rfl⟩ := List.head?_eq_some_iff.1 h0
    cases h
    exact ⟨rfl, by decide, fun t _ => rfl⟩
  · rw [numInt_of_ne h0] at h
    obtain ⟨h1, h2, h3⟩ := digits1_stage h
    refine ⟨h1, h2, fun t ht => ?_⟩
    rw [numInt_of_ne, h3 t ht]
    cases x with
    | nil => cases h
    | cons c tl => exact h0

theorem numFrac_stage : NumStage numFrac := by
  intro x p r h
  revert h
  fun_cases numFrac x <;> intro h
  case case1 r0 ds r' hd =>
    cases h
    obtain ⟨h1, h2, h3⟩ := digits1_stage hd
    refine ⟨congrArg _ h1, List.forall_mem_cons.2 ⟨by decide, h2⟩, fun t ht => ?_⟩
    simp only [List.cons_append, numFrac, h3 t ht]
  case case2 => cases h
  -- no fraction: none appears when `t` is appended, since `t` cannot start with the point
  case case3 hne =>
    cases h
    refine ⟨rfl, by simp, fun t ht => ?_⟩
    unfold numFrac
    split
    · next r0 heq =>
      cases x with
      | cons a x => cases heq; exact (hne _ rfl).elim
      | nil => subst heq; exact ((numEnd_cons (c := '.') (r := r0) ht).2.1 rfl).elim
    · rfl

/-- a sign reader splits a NON-EMPTY input into a sign it recognises (number characters) and the
    rest, whatever follows; at empty input a tail could bring a sign, so a sign reader is no
    `NumStage` on its own -/
def SignStage (sg : Str → Str × Str) : Prop := ∀ {x : Str}, x ≠ [] →
  x = (sg x).1 ++ (sg x).2 ∧ (∀ a ∈ (sg x).1, isNumCh a = true) ∧
    ∀ t, sg (x ++ t) = ((sg x).1, (sg x).2 ++ t)

theorem numExpSign_stage : SignStage numExpSign := by
  intro x hx
  fun_cases numExpSign x
  case case1 => exact ⟨rfl, (by decide : ∀ a ∈ ['+'], isNumCh a = true), fun _ => rfl⟩
  case case2 => exact ⟨rfl, (by decide : ∀ a ∈ ['-'], isNumCh a = true), fun _ => rfl⟩
  case case3 h1 h2 =>
    refine ⟨rfl, by simp, fun t => ?_⟩
    cases x with
    | nil => exact absurd rfl hx
    | cons a x =>
      unfold numExpSign
      split
      · next e => cases e; exact (h1 _ rfl).elim
      · next e => cases e; exact (h2 _ rfl).elim
      · rfl

theorem numExp_stage : NumStage numExp := by
  intro x p r h
  revert h
  fun_cases numExp x <;> intro h
  case case1 e tl hE ds r2 hg =>
    cases h
    obtain ⟨s1, s2, s3⟩ := numExpSign_stage (x := tl) (by rintro rfl; cases hg)
    obtain ⟨h1, h2, h3⟩ := digits1_stage hg
    refine ⟨?_, ?_, fun t ht => ?_⟩
    · show e :: tl = e :: ((numExpSign tl).1 ++ ds ++ r)
      rw [List.append_assoc, ← h1, ← s1]
    · refine List.forall_mem_cons.2 ⟨?_, List.forall_mem_append.2 ⟨s2, h2⟩⟩
      simp only [Bool.or_eq_true, decide_eq_true_eq] at hE
      rcases hE with rfl | rfl <;> decide
    · rw [List.cons_append, numExp, if_pos hE, s3 t, h3 t ht]
  case case2 => cases h
  case case3 e tl hE =>
    cases h
    exact ⟨rfl, by simp, fun t _ => by simp only [List.cons_append, numExp, hE]; rfl⟩
  -- no exponent and nothing left: `t` cannot start with `e` or `E`
  case case4 =>
    cases h
    refine ⟨rfl, by simp, fun t ht => ?_⟩
    cases t with
    | nil => rfl
    | cons a t' =>
      have ha := numEnd_cons (r := t') ht
      simp [numExp, ha.2.2.1, ha.2.2.2]

theorem numSign_of_ne {c : Char} (h : c ≠ '-') (s : Str) : numSign (c :: s) = ([], c :: s) := by
  unfold numSign
  split
  · next e => cases e; exact absurd rfl h
  · rfl

theorem numSign_stage : SignStage numSign := by
  intro x hx
  fun_cases numSign x
  case case1 => exact ⟨rfl, (by decide : ∀ a ∈ ['-'], isNumCh a = true), fun _ => rfl⟩
  case case2 hne =>
    refine ⟨rfl, by simp, fun t => ?_⟩
    cases x with
    | nil => exact absurd rfl hx
    | cons a x => exact numSign_of_ne (fun e => hne x (e ▸ rfl)) _

/-- the tail condition passes up the stages: where the rest `r` of a later stage is not empty,
    neither is the rest `s = p ++ r` of the stage before it -/
theorem tailOk_of_append {p r s t : Str} (h : s = p ++ r) (ht : tailOk r t = true) :
    tailOk s t = true := by
  cases s with
  | cons a s => rfl
  | nil => rw [(List.append_eq_nil_iff.1 h.symm).2] at ht; exact ht

theorem numberLit_stage : NumStage numberLit := by
  intro x lit r h
  rw [numberLit_eq] at h
  obtain ⟨g1, g2, g3⟩ := numSign_stage (x := x) (by rintro rfl; cases h)
  split at h
  · cases h
  next ip s2 hi =>
  split at h
  · cases h
  next fp s3 hf =>
  split at h
  · cases h
  next ep s4 he =>
  cases h
  obtain ⟨i1, i2, i3⟩ := numInt_stage hi
  obtain ⟨f1, f2, f3⟩ := numFrac_stage hf
  obtain ⟨e1, e2, e3⟩ := numExp_stage he
  refine ⟨?_, ?_, fun t ht => ?_⟩
  · rw [List.append_assoc, List.append_assoc, List.append_assoc, ← e1, ← f1, ← i1, ← g1]
  · exact List.forall_mem_append.2
      ⟨List.forall_mem_append.2 ⟨List.forall_mem_append.2 ⟨g2, i2⟩, f2⟩, e2⟩
  · have t3 := tailOk_of_append e1 ht
    simp only [numberLit_eq, g3 t, i3 t (tailOk_of_append f1 t3), f3 t t3, e3 t ht]

theorem numberLit_numCh {x lit r : Str} (hx : numberLit x = some (lit, r)) :
    ∀ c ∈ lit, isNumCh c = true :=
  (numberLit_stage hx).2.1

theorem numberLit_tail {x lit r : Str} (hx : numberLit x = some (lit, r)) (t : Str)
    (h : tailOk r t = true) : numberLit (x ++ t) = some (lit, r ++ t) :=
  (numberLit_stage hx).2.2 t h

theorem numberLit_head {x lit r : Str} (hx : numberLit x = some (lit, r)) :
    ∃ c tl, x = c :: tl ∧ (c = '-' ∨ isDigit c = true) := by
  rw [numberLit_eq] at hx
  cases x with
  | nil => cases hx
  | cons c tl =>
    refine ⟨c, tl, rfl, ?_⟩
    by_cases hc : c = '-'
    · exact .inl hc
    cases hd : isDigit c with
    | true => exact .inr rfl
    | false =>
      -- neither sign nor digit: the integer part finds no digit
      have h0 : c ≠ '0' := by rintro rfl; cases hd
      rw [numSign_of_ne hc, numInt_of_ne (by simpa using h0), digits1,
        List.takeWhile_cons_of_neg (by simp [hd])] at hx
      cases hx

def NumOk (lit : Str) : Bool := numberLit lit == some (lit, [])

theorem NumOk_iff (lit : Str) : NumOk lit = true ↔ numberLit lit = some (lit, []) := by
  simp [NumOk]

theorem skipWs_cons_of {c : Char} {r : Str} (h : isWs c = false) : skipWs (c :: r) = c :: r := by
  simp [skipWs, List.dropWhile, h]

theorem skipWs_head (s : Str) (c : Char) (r : Str) (h : skipWs s = c :: r) : isWs c = false := by
  simpa [Tokz.stops] using (h ▸ stops_dropWhile isWs s : Tokz.stops isWs (c :: r) = true)

theorem skipWs_idem (s : Str) : skipWs (skipWs s) = skipWs s :=
  dropWhile_of_stops (stops_dropWhile isWs s)

theorem value_brace (f : Nat) (r : Str) :
    value (f + 1) ('{' :: r) = (match skipWs r with
        | '}' :: r' => some (.map [], r')
        | r' => members f r' []) := by
  rw [value, skipWs_cons_of (by decide)]; rfl

theorem value_bracket (f : Nat) (r : Str) :
    value (f + 1) ('[' :: r) = (match skipWs r with
        | ']' :: r' => some (.list [], r')
        | r' => elements f r' []) := by
  rw [value, skipWs_cons_of (by decide)]; rfl

theorem value_quote (f : Nat) (r : Str) :
    value (f + 1) ('"' :: r) = (strBody (r.length + 1) r []).map fun (t, r') => (.str t, r') := by
  rw [value, skipWs_cons_of (by decide)]; rfl

theorem value_skipWs (f : Nat) (s : Str) : value f (skipWs s) = value f s := by
  cases f with
  | zero => rfl
  | succ f => rw [value, value, skipWs_idem]

theorem elements_skipWs (f : Nat) (s : Str) (acc : List Val) :
    elements f (skipWs s) acc = elements f s acc := by
  cases f with
  | zero => rfl
  | succ f => rw [elements, elements, value_skipWs]

theorem members_skipWs (f : Nat) (s : Str) (acc : Entries) :
    members f (skipWs s) acc = members f s acc := by
  cases f with
  | zero => rfl
  | succ f => rw [members, members, skipWs_idem]

theorem elements_close_none (f : Nat) (r : Str) (acc : List Val) : elements f (']' :: r) acc = none := by
  cases f with
  | zero => rfl
  | succ f =>
    cases f with
    | zero => rfl
    | succ f => rfl

theorem members_close_none (f : Nat) (r : Str) (acc : Entries) : members f ('}' :: r) acc = none := by
  cases f with
  | zero => rfl
  | succ f => rfl

/-- an opening bracket before a text that `elements` accepts is a list: the empty-list branch of
    `value` cannot interfere, since `elements` refuses a text that starts with `]` -/
theorem value_bracket_elements {f : Nat} {s : Str} {p : Val × Str} (h : elements f s [] = some p) :
    value (f + 1) ('[' :: s) = some p := by
  rw [← elements_skipWs] at h
  rw [value_bracket]
  split
  · next r' heq => rw [heq, elements_close_none] at h; cases h
  · exact h

theorem value_brace_members {f : Nat} {s : Str} {p : Val × Str} (h : members f s [] = some p) :
    value (f + 1) ('{' :: s) = some p := by
  rw [← members_skipWs] at h
  rw [value_brace]
  split
  · next r' heq => rw [heq, members_close_none] at h; cases h
  · exact h

theorem value_null (f : Nat) (r : Str) :
    value (f + 1) ("null".toList ++ r) = some (.null, r) := by
  rw [value]; rfl
theorem value_true (f : Nat) (r : Str) :
    value (f + 1) ("true".toList ++ r) = some (.bool true, r) := by
  rw [value]; rfl
theorem value_false (f : Nat) (r : Str) :
    value (f + 1) ("false".toList ++ r) = some (.bool false, r) := by
  rw [value]; rfl

theorem quote_append (html : Bool) (s rest : Str) :
    quote html s ++ rest = '"' :: (s.flatMap (quoteChar html) ++ '"' :: rest) := by
  simp [quote]

theorem value_str (html : Bool) (s rest : Str) (f : Nat) :
    value (f + 1) (quote html s ++ rest) = some (.str s, rest) := by
  rw [quote_append, value_quote, strBody_quote]
  rfl

theorem isWs_cases {c : Char} (h : isWs c = true) : c = ' ' ∨ c = '\t' ∨ c = '\n' ∨ c = '\r' := by
  simpa [isWs, or_assoc] using h

/-- a minus sign or a digit is none of the characters `value` dispatches on: the text goes to the
    number reader -/
theorem value_numHead (f : Nat) (c : Char) (tl : Str) (hc : c = '-' ∨ isDigit c = true) :
    value (f + 1) (c :: tl)
      = (numberLit (c :: tl)).map fun (t, r') => (.num ("jn:".toList ++ t), r') := by
  have hw : isWs c = false := by
    cases hw : isWs c with
    | false => rfl
    | true => rcases isWs_cases hw with rfl | rfl | rfl | rfl <;> revert hc <;> decide
  rw [value, skipWs_cons_of hw]
  split
  -- h_7: the default branch of the `match` on the first character; the other six name a character
  case h_7 => rfl
  all_goals (next heq => cases heq; exact absurd hc (by decide))

theorem value_of_numberLit {x t r : Str} (h : numberLit x = some (t, r)) (f : Nat) :
    value (f + 1) x = some (.num ("jn:".toList ++ t), r) := by
  obtain ⟨c, tl, rfl, hc⟩ := numberLit_head h
  rw [value_numHead f c tl hc, h]
  rfl

mutual
/-- every number is `"jn:" ++ lit` with a well-formed literal; maps have distinct keys -/
def JsonShaped : Val → Bool
  | .num t => t == "jn:".toList ++ numLit t && NumOk (numLit t)
  | .list xs => JsonShapedList xs
  | .map kvs => JsonShapedEntries kvs && distinctKeys kvs
  | _ => true
def JsonShapedList : List Val → Bool
  | [] => true
  | x :: xs => JsonShaped x && JsonShapedList xs
def JsonShapedEntries : Entries → Bool
  | [] => true
  | (_, v) :: rest => JsonShaped v && JsonShapedEntries rest
end

mutual
/-- fuel that suffices to decode the encoding of a value: `value` passes one unit less to
    `elements` / `members`, which spend one per member and pass one less to `value` -/
def sz : Val → Nat
  | .list xs => 1 + szList xs
  | .map kvs => 1 + szEntries kvs
  | _ => 1
def szList : List Val → Nat
  | [] => 0
  | x :: xs => 1 + sz x + szList xs
def szEntries : Entries → Nat
  | [] => 0
  | (_, v) :: rest => 1 + sz v + szEntries rest
end

theorem sz_pos (v : Val) : 0 < sz v := by
  cases v <;> simp [sz] <;> omega

theorem jsonShaped_num {t : Str} (h : JsonShaped (.num t) = true) :
    t = "jn:".toList ++ numLit t ∧ numberLit (numLit t) = some (numLit t, []) := by
  simpa [JsonShaped, NumOk_iff] using h

theorem jsonShapedList_cons {x : Val} {xs : List Val} (h : JsonShapedList (x :: xs) = true) :
    JsonShaped x = true ∧ JsonShapedList xs = true := Bool.and_eq_true_iff.1 h

theorem jsonShapedEntries_cons {k : Str} {v : Val} {kvs : Entries}
    (h : JsonShapedEntries ((k, v) :: kvs) = true) :
    JsonShaped v = true ∧ JsonShapedEntries kvs = true := Bool.and_eq_true_iff.1 h

theorem jsonShaped_map {kvs : Entries} (h : JsonShaped (.map kvs) = true) :
    JsonShapedEntries kvs = true ∧ distinctKeys kvs = true := Bool.and_eq_true_iff.1 h

theorem members_step (f : Nat) (html : Bool) (k : Str) (tail : Str) (acc : Entries) :
    members (f + 1) (quote html k ++ ':' :: tail) acc =
      (match value f tail with
        | none => none
        | some (v, r3) => match skipWs r3 with
          | ',' :: r4 => members f r4 (insert k v acc)
          | '}' :: r4 => some (.map (insert k v acc), r4)
          | _ => none) := by
  rw [members, quote_append, skipWs_cons_of (by decide)]
  -- `simp only []`: reduce the `match` on what the `rw` before it has turned into a constructor
  simp only []
  rw [strBody_quote]
  simp only []
  rw [skipWs_cons_of (by decide)]
  rfl

theorem elements_step {f : Nat} {s r : Str} {v : Val} (acc : List Val)
    (h : value f s = some (v, r)) :
    elements (f + 1) s acc =
      (match skipWs r with
        | ',' :: r' => elements f r' (v :: acc)
        | ']' :: r' => some (.list (v :: acc).reverse, r')
        | _ => none) := by
  rw [elements, h]; rfl

theorem numLit_jn (lit : Str) : numLit ("jn:".toList ++ lit) = lit := by
  simp [numLit, List.dropWhile]

def WsOnly (s : Str) : Bool := s.all isWs

theorem wsOnly_nil : WsOnly [] = true := rfl

theorem wsOnly_cons (c : Char) (s : Str) :
    WsOnly (c :: s) = true ↔ isWs c = true ∧ WsOnly s = true := by
  simp [WsOnly]

theorem wsOnly_append (a b : Str) :
    WsOnly (a ++ b) = true ↔ WsOnly a = true ∧ WsOnly b = true := by
  simp only [WsOnly, List.all_append, Bool.and_eq_true]

theorem skipWs_ws_append {w : Str} (s : Str) (h : WsOnly w = true) : skipWs (w ++ s) = skipWs s :=
  List.dropWhile_append_of_pos (List.all_eq_true.1 h)

theorem skipWs_ws_cons {w : Str} {c : Char} (r : Str) (hw : WsOnly w = true) (hc : isWs c = false) :
    skipWs (w ++ c :: r) = c :: r := by
  rw [skipWs_ws_append _ hw, skipWs_cons_of hc]

theorem value_ws {w : Str} {f : Nat} {s : Str} (hw : WsOnly w = true) :
    value f (w ++ s) = value f s := by
  rw [← value_skipWs, skipWs_ws_append s hw, value_skipWs]

theorem elements_ws {w : Str} {f : Nat} {s : Str} {acc : List Val} (hw : WsOnly w = true) :
    elements f (w ++ s) acc = elements f s acc := by
  rw [← elements_skipWs, skipWs_ws_append s hw, elements_skipWs]

theorem members_ws {w : Str} {f : Nat} {s : Str} {acc : Entries} (hw : WsOnly w = true) :
    members f (w ++ s) acc = members f s acc := by
  rw [← members_skipWs, skipWs_ws_append s hw, members_skipWs]

theorem numEnd_ws_append {w : Str} {c : Char} {r : Str} (hw : WsOnly w = true)
    (h : numEnd (c :: r) = true) : numEnd (w ++ c :: r) = true := by
  cases w with
  | nil => exact h
  | cons a w =>
    have ha := ((wsOnly_cons a w).1 hw).1
    rcases isWs_cases ha with h1 | h1 | h1 | h1 <;> subst h1 <;> rfl

mutual
/-- the encoder with its layout left open: `nl d` is the line break at depth `d` (behind an opening
    bracket and a comma one level down, before the closing bracket), `sp` follows a colon; empty
    containers have none.  `encN` is the case of no layout, `encNI` that of `nlIndent` and " ". -/
def encL (html : Bool) (nl : Nat → Str) (sp : Str) : Nat → Val → Str
  | d, .list (x :: xs) =>
      '[' :: (nl (d + 1) ++ (encListL html nl sp (d + 1) (x :: xs) ++ (nl d ++ [']'])))
  | d, .map (e :: kvs) =>
      '{' :: (nl (d + 1) ++ (encEntriesL html nl sp (d + 1) (e :: kvs) ++ (nl d ++ ['}'])))
  | _, v => encN html v
def encListL (html : Bool) (nl : Nat → Str) (sp : Str) : Nat → List Val → Str
  | _, [] => []
  | d, [x] => encL html nl sp d x
  | d, x :: y :: rest => encL html nl sp d x ++ ',' :: (nl d ++ encListL html nl sp d (y :: rest))
def encEntriesL (html : Bool) (nl : Nat → Str) (sp : Str) : Nat → Entries → Str
  | _, [] => []
  | d, [(k, v)] => quote html k ++ ':' :: (sp ++ encL html nl sp d v)
  | d, (k, v) :: e :: rest =>
      quote html k ++ ':' :: (sp ++ (encL html nl sp d v ++ ',' :: (nl d ++ encEntriesL html nl sp d (e :: rest))))
end

mutual
theorem encN_eq (html : Bool) : ∀ (d : Nat) (v : Val), encN html v = encL html (fun _ => []) [] d v
  | d, .list [] => rfl
  | d, .list (x :: xs) => by simp [encN, encL, encList_eq html (d + 1) (x :: xs)]
  | d, .map [] => rfl
  | d, .map (e :: kvs) => by simp [encN, encL, encEntries_eq html (d + 1) (e :: kvs)]
  | _, .null => rfl
  | _, .bool _ => rfl
  | _, .num _ => rfl
  | _, .str _ => rfl
theorem encList_eq (html : Bool) : ∀ (d : Nat) (xs : List Val),
    encList html xs = encListL html (fun _ => []) [] d xs
  | _, [] => rfl
  | d, [x] => by rw [encList, encListL, encN_eq html d x]
  | d, x :: y :: r => by simp [encList, encListL, encN_eq html d x, encList_eq html d (y :: r)]
theorem encEntries_eq (html : Bool) : ∀ (d : Nat) (kvs : Entries),
    encEntries html kvs = encEntriesL html (fun _ => []) [] d kvs
  | _, [] => rfl
  | d, [(k, v)] => by simp [encEntries, encEntriesL, encN_eq html d v]
  | d, (k, v) :: e :: r => by
      simp [encEntries, encEntriesL, encN_eq html d v, encEntries_eq html d (e :: r)]
end

theorem not_mem_keys_of_distinct {acc : Entries} {k : Str} {v : Val} {r : Entries}
    (h : distinctKeys (acc ++ (k, v) :: r) = true) : k ∉ keys acc := by
  rw [distinctKeys_iff_nodup, keys_append, keys_cons] at h
  exact fun hk => (List.nodup_append.1 h).2.2 k hk k (List.mem_cons_self ..) rfl

/-- a layout of JSON white space: the line breaks `nl d` and the text `sp` behind a colon -/
def WsLayout (nl : Nat → Str) (sp : Str) : Prop := (∀ d, WsOnly (nl d) = true) ∧ WsOnly sp = true

/-- the compact encoder `encN` is the layout without any white space (`encN_eq`) -/
theorem wsLayout_compact : WsLayout (fun _ => []) [] := ⟨fun _ => rfl, rfl⟩

mutual
/-- `rest` matters only behind a number, the one token a tail can extend -/
theorem rtL_value (html : Bool) {nl : Nat → Str} {sp : Str} (hl : WsLayout nl sp) :
    ∀ (v : Val) (d : Nat) (rest : Str) (f : Nat), JsonShaped v = true →
    (∀ t, v = .num t → numEnd rest = true) → sz v ≤ f →
    value f (encL html nl sp d v ++ rest) = some (v, rest)
  | v, _, _, 0, _, _, hf => absurd hf (Nat.not_le_of_gt (sz_pos v))
  | .null, _, rest, f + 1, _, _, _ => value_null f rest
  | .bool true, _, rest, f + 1, _, _, _ => value_true f rest
  | .bool false, _, rest, f + 1, _, _, _ => value_false f rest
  | .num t, _, rest, f + 1, hv, hr, _ => by
      show value (f + 1) (numLit t ++ rest) = some (.num t, rest)
      have ht : tailOk [] rest = true := hr t rfl
      rw [value_of_numberLit (numberLit_tail (jsonShaped_num hv).2 rest ht) f,
        ← (jsonShaped_num hv).1]
      rfl
  | .str s, _, rest, f + 1, _, _, _ => value_str html s rest f
  | .list [], _, rest, f + 1, _, _, _ => rfl
  | .list (x :: xs), d, rest, f + 1, hv, _, hf => by
      rw [encL]
      simp only [List.cons_append, List.append_assoc, List.nil_append]
      exact value_bracket_elements ((elements_ws (hl.1 (d + 1))).trans
        (rtL_elements html hl (x :: xs) (d + 1) (nl d) rest f [] (by simp) (hl.1 d) hv
          (by simp only [sz] at hf; omega)))
  | .map [], _, rest, f + 1, _, _, _ => rfl
  | .map ((k, v) :: kvs), d, rest, f + 1, hv, _, hf => by
      rw [encL]
      simp only [List.cons_append, List.append_assoc, List.nil_append]
      exact value_brace_members ((members_ws (hl.1 (d + 1))).trans
        (rtL_members html hl ((k, v) :: kvs) (d + 1) (nl d) rest f [] (by simp) (hl.1 d)
          (jsonShaped_map hv).1 (jsonShaped_map hv).2 (by simp only [sz] at hf; omega)))
/-- `w2` is the white space before the closing bracket, `acc` what the loop has collected -/
theorem rtL_elements (html : Bool) {nl : Nat → Str} {sp : Str} (hl : WsLayout nl sp) :
    ∀ (xs : List Val) (d : Nat) (w2 rest : Str) (f : Nat) (acc : List Val),
    xs ≠ [] → WsOnly w2 = true → JsonShapedList xs = true → szList xs ≤ f →
    elements f (encListL html nl sp d xs ++ (w2 ++ ']' :: rest)) acc
      = some (.list (acc.reverse ++ xs), rest)
  | [], _, _, _, _, _, hne, _, _, _ => absurd rfl hne
  | x :: xs, _, _, _, 0, _, _, _, _, hf => by simp [szList] at hf
  | [x], d, w2, rest, f + 1, acc, _, hw, hv, hf => by
      rw [encListL, elements_step acc (rtL_value html hl x d (w2 ++ ']' :: rest) f
        (jsonShapedList_cons hv).1
        (fun _ _ => numEnd_ws_append hw rfl) (by simp only [szList] at hf; omega)),
        skipWs_ws_cons rest hw (by decide)]
      simp
  | x :: y :: r, d, w2, rest, f + 1, acc, _, hw, hv, hf => by
      obtain ⟨hx, hr⟩ := jsonShapedList_cons hv
      rw [encListL]
      simp only [List.append_assoc, List.cons_append]
      rw [elements_step acc (rtL_value html hl x d _ f hx (fun _ _ => rfl)
          (by simp only [szList] at hf; omega)), skipWs_cons_of (by decide)]
      simp only []
      rw [elements_ws (hl.1 d),
        rtL_elements html hl (y :: r) d w2 rest f (x :: acc) (by simp) hw hr
          (by simp only [szList] at hf ⊢; omega)]
      simp
/-- every `insert k v acc` of the parser is an append, since `k` is new to `acc`
    (`distinctKeys (acc ++ kvs)`): hence the result `acc ++ kvs` -/
theorem rtL_members (html : Bool) {nl : Nat → Str} {sp : Str} (hl : WsLayout nl sp) :
    ∀ (kvs : Entries) (d : Nat) (w2 rest : Str) (f : Nat) (acc : Entries),
    kvs ≠ [] → WsOnly w2 = true → JsonShapedEntries kvs = true →
    distinctKeys (acc ++ kvs) = true → szEntries kvs ≤ f →
    members f (encEntriesL html nl sp d kvs ++ (w2 ++ '}' :: rest)) acc
      = some (.map (acc ++ kvs), rest)
  | [], _, _, _, _, _, hne, _, _, _, _ => absurd rfl hne
  | (k, v) :: kvs, _, _, _, 0, _, _, _, _, _, hf => by simp [szEntries] at hf
  | [(k, v)], d, w2, rest, f + 1, acc, _, hw, hv, hd, hf => by
      rw [encEntriesL]
      simp only [List.append_assoc, List.cons_append]
      rw [members_step, value_ws hl.2, rtL_value html hl v d (w2 ++ '}' :: rest) f
          (jsonShapedEntries_cons hv).1
          (fun _ _ => numEnd_ws_append hw rfl) (by simp only [szEntries] at hf; omega)]
      simp only []
      rw [skipWs_ws_cons rest hw (by decide),
        insert_of_not_mem (not_mem_keys_of_distinct hd)]
      rfl
  | (k, v) :: (k2, v2) :: r, d, w2, rest, f + 1, acc, _, hw, hv, hd, hf => by
      obtain ⟨hx, hr⟩ := jsonShapedEntries_cons hv
      rw [encEntriesL]
      simp only [List.append_assoc, List.cons_append]
      rw [members_step, value_ws hl.2, rtL_value html hl v d _ f hx (fun _ _ => rfl)
          (by simp only [szEntries] at hf; omega)]
      simp only []
      rw [skipWs_cons_of (by decide)]
      simp only []
      rw [members_ws (hl.1 d),
        insert_of_not_mem (not_mem_keys_of_distinct hd),
        rtL_members html hl ((k2, v2) :: r) d w2 rest f (acc ++ [(k, v)]) (by simp) hw hr
          (by simpa using hd)
          (by simp only [szEntries] at hf ⊢; omega)]
      simp
end

theorem rt_value (v : Val) (html : Bool) (rest : Str) (f : Nat) (hv : JsonShaped v = true)
    (hr : ∀ t, v = .num t → numEnd rest = true) (hf : sz v ≤ f) :
    value f (encN html v ++ rest) = some (v, rest) := by
  rw [encN_eq html 0 v]
  exact rtL_value html wsLayout_compact v 0 rest f hv hr hf

theorem rt_elements : ∀ (xs : List Val) (html : Bool) (rest : Str) (f : Nat) (acc : List Val),
    xs ≠ [] → JsonShapedList xs = true → szList xs ≤ f →
    elements f (encList html xs ++ ']' :: rest) acc = some (.list (acc.reverse ++ xs), rest) := by
  intro xs html rest f acc hne hv hf
  rw [encList_eq html 0 xs]
  exact rtL_elements html wsLayout_compact xs 0 [] rest f acc hne rfl hv hf

theorem rt_members : ∀ (kvs : Entries) (html : Bool) (rest : Str) (f : Nat) (acc : Entries),
    kvs ≠ [] → JsonShapedEntries kvs = true → distinctKeys (acc ++ kvs) = true →
    szEntries kvs ≤ f →
    members f (encEntries html kvs ++ '}' :: rest) acc = some (.map (acc ++ kvs), rest) := by
  intro kvs html rest f acc hne hv hd hf
  rw [encEntries_eq html 0 kvs]
  exact rtL_members html wsLayout_compact kvs 0 [] rest f acc hne rfl hv hd hf

theorem numberLit_ne_nil (lit : Str) (h : numberLit lit = some (lit, [])) : 0 < lit.length := by
  obtain ⟨c, tl, rfl, _⟩ := numberLit_head h
  simp

mutual
theorem szL_le_length (html : Bool) (nl : Nat → Str) (sp : Str) : ∀ (d : Nat) (v : Val),
    JsonShaped v = true → sz v ≤ (encL html nl sp d v).length
  | _, .null, _ => by simp [sz, encL, encN]
  | _, .bool b, _ => by cases b <;> simp [sz, encL, encN]
  | _, .num t, hv => by
      have := numberLit_ne_nil _ (jsonShaped_num hv).2
      simp only [sz, encL, encN]; omega
  | _, .str s, _ => by simp [sz, encL, encN, quote]
  | _, .list [], _ => by simp [sz, szList, encL, encN]
  | d, .list (x :: xs), hv => by
      have := szListL_le_length html nl sp (d + 1) (x :: xs) hv
      simp only [sz, encL, List.length_append, List.length_cons, List.length_nil]; omega
  | _, .map [], _ => by simp [sz, szEntries, encL, encN]
  | d, .map (e :: kvs), hv => by
      have := szEntriesL_le_length html nl sp (d + 1) (e :: kvs) (jsonShaped_map hv).1
      simp only [sz, encL, List.length_append, List.length_cons, List.length_nil]; omega
/-- `+ 1`: every member pays its `1 +` of `szList` with the comma behind it, the last has none -/
theorem szListL_le_length (html : Bool) (nl : Nat → Str) (sp : Str) : ∀ (d : Nat) (xs : List Val),
    JsonShapedList xs = true → szList xs ≤ (encListL html nl sp d xs).length + 1
  | _, [], _ => by simp [szList]
  | d, [x], hv => by
      have := szL_le_length html nl sp d x (jsonShapedList_cons hv).1
      simp only [szList, encListL]; omega
  | d, x :: y :: r, hv => by
      have h1 := szL_le_length html nl sp d x (jsonShapedList_cons hv).1
      have h2 := szListL_le_length html nl sp d (y :: r) (jsonShapedList_cons hv).2
      simp only [szList, encListL, List.length_append, List.length_cons] at h2 ⊢
      omega
theorem szEntriesL_le_length (html : Bool) (nl : Nat → Str) (sp : Str) : ∀ (d : Nat)
    (kvs : Entries), JsonShapedEntries kvs = true →
    szEntries kvs ≤ (encEntriesL html nl sp d kvs).length + 1
  | _, [], _ => by simp [szEntries]
  | d, [(k, v)], hv => by
      have := szL_le_length html nl sp d v (jsonShapedEntries_cons hv).1
      simp only [szEntries, encEntriesL, List.length_append, List.length_cons]
      omega
  | d, (k, v) :: (k2, v2) :: r, hv => by
      have h1 := szL_le_length html nl sp d v (jsonShapedEntries_cons hv).1
      have h2 := szEntriesL_le_length html nl sp d ((k2, v2) :: r) (jsonShapedEntries_cons hv).2
      simp only [szEntries, encEntriesL, List.length_append, List.length_cons] at h2 ⊢
      omega
end

theorem szList_le_length : ∀ (html : Bool) (xs : List Val), JsonShapedList xs = true →
    szList xs ≤ (encList html xs).length + 1 := by
  intro html xs hv
  rw [encList_eq html 0 xs]
  exact szListL_le_length html _ [] 0 xs hv

theorem szEntries_le_length : ∀ (html : Bool) (kvs : Entries), JsonShapedEntries kvs = true →
    szEntries kvs ≤ (encEntries html kvs).length + 1 := by
  intro html kvs hv
  rw [encEntries_eq html 0 kvs]
  exact szEntriesL_le_length html _ [] 0 kvs hv

theorem firstValue_iff {s : Str} {v : Val} :
    firstValue s = some v ↔ ∃ r, value (s.length + 1) s = some (v, r) := by
  simp [firstValue]

/-- the decoder's own fuel (text length + 1) suffices, for every white-space layout -/
theorem firstValue_encL {nl : Nat → Str} {sp : Str} (hl : WsLayout nl sp) (html : Bool) (d : Nat)
    (v : Val) (hv : JsonShaped v = true) (rest : Str) (hr : ∀ t, v = .num t → numEnd rest = true) :
    firstValue (encL html nl sp d v ++ rest) = some v := by
  have := szL_le_length html nl sp d v hv
  exact firstValue_iff.2 ⟨rest, rtL_value html hl v d rest _ hv hr
    (by simp only [List.length_append]; omega)⟩

theorem firstValue_encN (html : Bool) (v : Val) (hv : JsonShaped v = true) (rest : Str)
    (hr : ∀ t, v = .num t → numEnd rest = true) :
    firstValue (encN html v ++ rest) = some v := by
  rw [encN_eq html 0 v]
  exact firstValue_encL wsLayout_compact html 0 v hv rest hr

theorem jsonShapedEntries_iff (kvs : Entries) :
    JsonShapedEntries kvs = true ↔ ∀ e ∈ kvs, JsonShaped e.2 = true := by
  induction kvs with
  | nil => simp [JsonShapedEntries]
  | cons e kvs ih =>
    obtain ⟨k, v⟩ := e
    simp [JsonShapedEntries, ih]

mutual
theorem jsonShaped_norm : ∀ v : Val, JsonShaped v = true → JsonShaped v.norm = true
  | .null, h => h
  | .bool _, h => h
  | .num _, h => h
  | .str _, h => h
  | .list xs, h => jsonShaped_normList xs h
  | .map kvs, h => Bool.and_eq_true_iff.2
      ⟨Enc.entrywise_sortByKey (p := fun e => JsonShaped e.2) jsonShapedEntries_iff
        (jsonShaped_normEntries kvs (jsonShaped_map h).1), Enc.distinctKeys_norm (jsonShaped_map h).2⟩
theorem jsonShaped_normList : ∀ xs : List Val, JsonShapedList xs = true →
    JsonShapedList (Val.normList xs) = true
  | [], _ => rfl
  | x :: xs, h => by
      simp only [Val.normList, JsonShapedList, Bool.and_eq_true] at h ⊢
      exact ⟨jsonShaped_norm x h.1, jsonShaped_normList xs h.2⟩
theorem jsonShaped_normEntries : ∀ kvs : Entries, JsonShapedEntries kvs = true →
    JsonShapedEntries (Val.normEntries kvs) = true
  | [], _ => rfl
  | (k, v) :: rest, h => by
      simp only [Val.normEntries, JsonShapedEntries, Bool.and_eq_true] at h ⊢
      exact ⟨jsonShaped_norm v h.1, jsonShaped_normEntries rest h.2⟩
end

def sortedAdj : Entries → Prop
  | [] => True
  | [_] => True
  | x :: y :: r => strLe x.1 y.1 = true ∧ sortedAdj (y :: r)

theorem sortedAdj_tail {x : Str × Val} {l : Entries} (h : sortedAdj (x :: l)) : sortedAdj l := by
  cases l with
  | nil => trivial
  | cons y r => exact h.2

mutual
theorem jsonShaped_wf : ∀ v : Val, JsonShaped v = true → v.wf = true
  | .null, _ | .bool _, _ | .num _, _ | .str _, _ => rfl
  | .list xs, h => jsonShapedList_wf xs h
  | .map kvs, h => by
      simp only [JsonShaped, Val.wf, Bool.and_eq_true] at h ⊢
      exact ⟨jsonShapedEntries_wf kvs h.1, h.2⟩
theorem jsonShapedList_wf : ∀ xs : List Val, JsonShapedList xs = true → Val.wfList xs = true
  | [], _ => rfl
  | x :: xs, h => by
      simp only [JsonShapedList, Val.wfList, Bool.and_eq_true] at h ⊢
      exact ⟨jsonShaped_wf x h.1, jsonShapedList_wf xs h.2⟩
theorem jsonShapedEntries_wf : ∀ kvs : Entries, JsonShapedEntries kvs = true →
    Val.wfEntries kvs = true
  | [], _ => rfl
  | (_, v) :: rest, h => by
      simp only [JsonShapedEntries, Val.wfEntries, Bool.and_eq_true] at h ⊢
      exact ⟨jsonShaped_wf v h.1, jsonShapedEntries_wf rest h.2⟩
end

theorem norm_idem (v : Val) (h : JsonShaped v = true) : v.norm.norm = v.norm :=
  Enc.norm_idem v (jsonShaped_wf v h)

theorem normList_idem : ∀ xs : List Val, JsonShapedList xs = true →
    Val.normList (Val.normList xs) = Val.normList xs :=
  fun xs h => Enc.normList_idem xs (jsonShapedList_wf xs h)

theorem normEntries_idem : ∀ kvs : Entries, JsonShapedEntries kvs = true →
    Val.normEntries (Val.normEntries kvs) = Val.normEntries kvs :=
  fun kvs h => Enc.normEntries_idem kvs (jsonShapedEntries_wf kvs h)

def unquote (t : Str) : Option Str :=
  match t with
  | '"' :: r => match strBody (r.length + 1) r [] with
    | some (s, []) => some s
    | _ => none
  | _ => none

theorem unquote_quote (html : Bool) (s : Str) : unquote (quote html s) = some s := by
  have h := quote_append html s []
  rw [List.append_nil] at h
  rw [h, unquote, strBody_quote]

/-- the text the PINNED `NewMapJson` decoded when the input starts with '[' (repaired defect
    F-JSON-ARRAYTAIL; kept as documentation: `wrapObj_shape` — all that held of the result was
    that its first key is "object" — and the pinned-wrapper examples of Props/C06) -/
def wrapObj (s : Str) : Str := "{\"object\":".toList ++ s ++ ['}']

theorem newMapJson_of_ne_nil (s : Str) (hs : s ≠ []) :
    newMapJson s =
      if (skipWs s).head? = some '[' then (firstValue s).map fun v => .map [(objKey, v)]
      else (match firstValue s with
        | some (.map m) => some (.map m)
        | some .null => some .null
        | _ => none) := by
  cases s with
  | nil => exact absurd rfl hs
  | cons c tl => rfl

theorem encN_single (html : Bool) (k : Str) (v : Val) :
    encN html (.map [(k, v)]) = '{' :: (quote html k ++ ':' :: (encN html v ++ ['}'])) := by
  simp [encN, encEntries]

theorem objKey_eq : "object".toList = objKey := by decide
theorem quote_objKey (html : Bool) : quote html objKey = '"' :: (objKey ++ ['"']) := by
  cases html <;> decide

theorem wrapObj_eq (html : Bool) (s : Str) :
    wrapObj s = '{' :: (quote html objKey ++ ':' :: (s ++ ['}'])) := by
  rw [quote_objKey]
  rfl

theorem keys_insert_prefix (k : Str) (v : Val) (acc : Entries) :
    keys acc <+: keys (insert k v acc) := by
  rw [keys_insert]
  split
  · exact List.prefix_refl _
  · exact List.prefix_append _ _

theorem members_isMap_prefix : ∀ {f : Nat} {s : Str} {acc : Entries} {v : Val} {r : Str},
    members f s acc = some (v, r) → ∃ m, v = .map m ∧ keys acc <+: keys m := by
  intro f
  induction f using Nat.strongRecOn with | _ f ih => ?_
  intro s acc v r
  fun_cases members f s acc <;> intro h
  -- case4: a comma behind the member, the loop goes on; case5: the closing brace
  case case4 =>
    exact (ih _ (Nat.lt_succ_self _) h).imp fun m hm =>
      ⟨hm.1, (keys_insert_prefix _ _ acc).trans hm.2⟩
  case case5 => cases h; exact ⟨_, rfl, keys_insert_prefix _ _ acc⟩
  all_goals cases h

theorem value_brace_isMap (f : Nat) (r : Str) (v : Val) (r' : Str)
    (h : value f ('{' :: r) = some (v, r')) : ∃ m, v = .map m := by
  cases f with
  | zero => simp [value] at h
  | succ f =>
    rw [value_brace] at h
    split at h
    · cases h; exact ⟨[], rfl⟩
    · exact (members_isMap_prefix h).imp fun _ => And.left

theorem value_brace_quoted (f : Nat) (html : Bool) (k rest : Str) :
    value (f + 1) ('{' :: (quote html k ++ rest)) = members f (quote html k ++ rest) [] := by
  rw [quote_append, value_brace, skipWs_cons_of (by decide)]; rfl

theorem elements_isList : ∀ {f : Nat} {s : Str} {acc : List Val} {v : Val} {r : Str},
    elements f s acc = some (v, r) → ∃ xs, v = .list xs := by
  intro f
  induction f using Nat.strongRecOn with | _ f ih => ?_
  intro s acc v r
  fun_cases elements f s acc <;> intro h
  -- case3: a comma behind the element, the loop goes on; case4: the closing bracket
  case case3 => exact ih _ (Nat.lt_succ_self _) h
  case case4 => cases h; exact ⟨_, rfl⟩
  all_goals cases h

/-- the first character behind white space decides whether a value is a list -/
theorem value_list_iff {f : Nat} {s : Str} {v : Val} {r : Str} (h : value f s = some (v, r)) :
    (skipWs s).head? = some '[' ↔ ∃ xs, v = .list xs := by
  revert h
  fun_cases value f s <;> intro h
  -- case1: no fuel; 3: `{` and members; 5: `[` and elements; 6: a string; 10: a number
  case case1 => cases h
  case case3 _ hw => obtain ⟨m, rfl, _⟩ := members_isMap_prefix h; simp [hw]
  case case5 _ hw => obtain ⟨xs, rfl⟩ := elements_isList h; simp [hw]
  case case6 hw =>
    obtain ⟨p, _, he⟩ := Option.map_eq_some_iff.1 h
    cases he
    simp [hw]
  case case10 _ h2 _ _ _ _ =>
    obtain ⟨p, _, he⟩ := Option.map_eq_some_iff.1 h
    cases he
    refine ⟨fun hb => ?_, nofun⟩
    obtain ⟨tl, hs⟩ := List.head?_eq_some_iff.1 hb
    exact (h2 tl hs).elim
  -- 2, 4: the empty containers; 7, 8, 9: the three literals
  all_goals (next hw => cases h; simp [hw])

theorem firstValue_list_iff {s : Str} {v : Val} (h : firstValue s = some v) :
    (skipWs s).head? = some '[' ↔ ∃ xs, v = .list xs := by
  obtain ⟨r, hv⟩ := firstValue_iff.1 h
  exact value_list_iff hv

/-- `NewMapJson` as a function of the FIRST VALUE alone (non-empty input): an object or `null` is
    returned as it is, an array under "object", anything else - and no value - is an error -/
theorem newMapJson_spec (s : Str) (hs : s ≠ []) :
    newMapJson s =
      (match firstValue s with
        | some (.map m) => some (.map m)
        | some .null => some .null
        | some (.list xs) => some (.map [(objKey, .list xs)])
        | _ => none) := by
  rw [newMapJson_of_ne_nil s hs]
  by_cases hb : (skipWs s).head? = some '['
  · rw [if_pos hb]
    cases hfv : firstValue s with
    | none => rfl
    | some v =>
      obtain ⟨xs, rfl⟩ := (firstValue_list_iff hfv).1 hb
      rfl
  · rw [if_neg hb]
    cases hfv : firstValue s with
    | none => rfl
    | some v =>
      cases v with
      | list xs => exact absurd ((firstValue_list_iff hfv).2 ⟨xs, rfl⟩) hb
      | _ => rfl

/-- `NewMapJson` reads back the key-sorted normal form of a Map written in ANY white-space layout
    (the compact and the indented encoder are two of them), whatever follows -/
theorem newMapJson_encL {nl : Nat → Str} {sp : Str} (hl : WsLayout nl sp) (safe : Bool)
    (m : Entries) (hm : JsonShaped (.map m) = true) (rest : Str) :
    newMapJson (encL safe nl sp 0 (Val.norm (.map m)) ++ rest) = some (Val.norm (.map m)) := by
  have hf := firstValue_encL hl safe 0 _ (jsonShaped_norm _ hm) rest
    (fun t h => by simp [Val.norm] at h)
  -- the text is not empty, since the empty text has no first value
  rw [newMapJson_spec _ (by rintro h; rw [h] at hf; cases hf), hf]
  rfl

theorem newMapJson_mapJson_tail (safe : Bool) (m : Entries) (hm : JsonShaped (.map m) = true)
    (rest : Str) :
    newMapJson (mapJson safe (.map m) ++ rest) = some (Val.norm (.map m)) := by
  rw [mapJson, encN_eq safe 0]
  exact newMapJson_encL wsLayout_compact safe m hm rest

theorem newMapJson_mapJson (safe : Bool) (m : Entries) (hm : JsonShaped (.map m) = true) :
    newMapJson (mapJson safe (.map m)) = some (Val.norm (.map m)) := by
  have := newMapJson_mapJson_tail safe m hm []
  rwa [List.append_nil] at this

theorem newMapJson_array_tail (html : Bool) (xs : List Val) (hx : JsonShaped (.list xs) = true)
    (rest : Str) :
    newMapJson (encN html (.list xs) ++ rest) = some (.map [(objKey, .list xs)]) := by
  rw [newMapJson_spec _ (by simp [encN]), firstValue_encN html _ hx rest (fun _ h => by cases h)]

theorem newMapJson_array (html : Bool) (xs : List Val) (hx : JsonShaped (.list xs) = true) :
    newMapJson (encN html (.list xs)) = some (.map [(objKey, .list xs)]) := by
  have := newMapJson_array_tail html xs hx []
  rwa [List.append_nil] at this

theorem wrapObj_shape (s : Str) (m : Entries) (h : firstValue (wrapObj s) = some (.map m)) :
    ∃ v m', m = (objKey, v) :: m' := by
  obtain ⟨r, hv⟩ := firstValue_iff.1 h
  rw [wrapObj_eq false s, value_brace_quoted] at hv
  rw [List.length_cons, members_step] at hv
  split at hv
  · cases hv
  · split at hv
    · obtain ⟨m2, hm, hp⟩ := members_isMap_prefix hv
      cases hm
      cases m with
      | nil => simp [insert, keys] at hp
      | cons e m' =>
        obtain ⟨k, v⟩ := e
        simp only [insert, keys, List.map_cons, List.map_nil] at hp
        have := (List.cons_prefix_cons.1 hp).1
        exact ⟨v, m', by rw [this]⟩
    · cases hv; exact ⟨_, [], rfl⟩
    · cases hv

/-- `bytes.Replace(s, pat, rep, -1)` for non-empty `pat` (`skip` counts the characters of a
    matched occurrence still to be dropped) -/
def replaceGo (pat rep : Str) : Str → Nat → Str
  | [], _ => []
  | _ :: cs, skip + 1 => replaceGo pat rep cs skip
  | c :: cs, 0 =>
      if pat.isPrefixOf (c :: cs) then rep ++ replaceGo pat rep cs (pat.length - 1)
      else c :: replaceGo pat rep cs 0

def replaceAll (pat rep s : Str) : Str := replaceGo pat rep s 0

def esc00 (x y : Char) : Str := ['\\', 'u', '0', '0', x, y]

/-- the pinned `Map.Json()` without `safeEncoding`: marshal with HTML escaping, then replace the
    escape sequences of '<', '>', '&' in the encoded BYTES by the literal characters -/
def rewriteUnsafe (s : Str) : Str :=
  replaceAll (esc00 '2' '6') ['&'] (replaceAll (esc00 '3' 'e') ['>'] (replaceAll (esc00 '3' 'c') ['<'] s))

end Mxj.Json
