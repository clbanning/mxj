/-
  Mxj.Lemmas.SeqCompact — the compact sequence encoders `seqEncTree` (Model/SeqTree) and `seqEnc`
  (Model/Seq) as instances `treeAlg`, `bytesAlg` of the generic encoder of Lemmas/SeqEnc; from the
  two theorems there: the bytes are the rendering of the tree (`seqEnc_link`: with `goEmpty`, for
  values whose leaves are strings); neither depends on the order of the entries of the map it is
  given (`seqEncTree_perm`, `seqEnc_perm`) nor on the order of any map inside it
  (`seqEncTree_vperm`, `seqEnc_vperm`).  The two attribute writers do not see that order either
  (`seqAttrNodes_congr`; `seqAttrsText_congr`, which Lemmas/IndentCor needs for `seqEncP`).
-/
import Mxj.Lemmas.SeqEnc
import Mxj.Lemmas.Str
import Mxj.Lemmas.Escape
namespace Mxj
namespace SeqL
open Mxj.SeqG

/-! ### the loops of the model are `seqAll` -/

theorem seqKids_eq (c : SeqCfg) (esc ge : Bool) (f : Nat) :
    ∀ kvs, seqKids c esc ge f kvs = seqAll (fun e => seqEnc c esc ge f e.1 e.2) kvs
  | [] => by simp only [seqKids, seqAll]
  | (k, v) :: rest => by
      rw [seqKids, seqAll, seqKids_eq c esc ge f rest]
      -- the step of the model's loop is `Outcome.app` word for word; each goes through its own
      -- auxiliary `match` function, and those are not unfolded while smart unfolding is on
      set_option smartUnfolding false in rfl

theorem seqMembers_eq (c : SeqCfg) (esc ge : Bool) (f : Nat) (key : Str) :
    ∀ xs, seqMembers c esc ge f key xs = seqAll (fun x => seqEnc c esc ge f key x) xs
  | [] => by simp only [seqMembers, seqAll]
  | x :: xs => by
      rw [seqMembers, seqAll, seqMembers_eq c esc ge f key xs]
      set_option smartUnfolding false in rfl

theorem seqKidsTree_eq (c : SeqCfg) (f : Nat) :
    ∀ l, seqKidsTree c f l = seqAll (fun e => seqEncTree c f e.1 e.2) l
  | [] => by simp only [seqKidsTree, seqAll]
  | (k, v) :: rest => by
      rw [seqKidsTree, seqAll, seqKidsTree_eq c f rest]
      set_option smartUnfolding false in rfl

theorem seqMembersTree_eq (c : SeqCfg) (f : Nat) (key : Str) :
    ∀ xs, seqMembersTree c f key xs = seqAll (fun x => seqEncTree c f key x) xs
  | [] => by simp only [seqMembersTree, seqAll]
  | x :: xs => by
      rw [seqMembersTree, seqAll, seqMembersTree_eq c f key xs]
      set_option smartUnfolding false in rfl

theorem seqAttrsText_eq (c : SeqCfg) (esc : Bool) : ∀ (l : List (Str × Val)),
    seqAttrsText c esc l = seqAll (fun e => seqAttrText c esc e.1 e.2) l
  | [] => rfl
  | (k, v) :: rest => by
      rw [seqAttrsText, seqAll, ← seqAttrsText_eq c esc rest]
      set_option smartUnfolding false in rfl

/-! ### the two encoders as instances -/

def treeAlg (c : SeqCfg) : Alg Unit (List Attr) Node where
  attrs := seqAttrNodes c
  noAttrs := []
  txt := fmtV
  note _ n := [n.node]
  whole _ key as t := [.elem [] key as (textKid t)]
  around _ key as t kids := [.elem [] key as (textKid t ++ kids)]
  str _ key s := [.elem [] key [] (textKid s)]
  null _ _ := .err .other
  scalar _ key t := [.elem [] key [] [.text t]]
  kid p _ := p
  member p := p

/- `p : Unit` is explicit here and in `seqEnc_eq`: the equation is used from left to right, where
   `p` does not occur, so a rewrite has to be told it (`seqEncTree_eq c f ()`). -/
theorem seqEncTree_eq (c : SeqCfg) : ∀ (f : Nat) (p : Unit) (key : Str) (v : Val),
    seqEncTree c f key v = enc (treeAlg c) c f p key v := by
  intro f
  induction f with
  | zero => intro p key v; simp only [seqEncTree, enc]
  | succ f ih =>
    -- as an equation between functions the hypothesis rewrites under the binders of the loops
    have ih : (fun _ => seqEncTree c f) = enc (treeAlg c) c f :=
      funext fun p => funext fun key => funext (ih p key)
    intro p key v
    cases v with
    | null | str _ | num _ => simp only [seqEncTree, enc]; rfl
    | bool b => cases b <;> simp only [seqEncTree, enc] <;> rfl
    | list xs => rw [seqEncTree, seqMembersTree_eq, enc, ← ih]
    | map val =>
      rw [enc, ← ih, seqEncTree, seqKidsTree_eq]
      -- both sides make the same nested case analyses, each through its own
      -- auxiliary `match` functions, and those are not unfolded while smart unfolding is on
      set_option smartUnfolding false in rfl

/-- the tree encoder on the map of an element, its loop still the model's -/
theorem seqEncTree_elem (c : SeqCfg) (f : Nat) {key : Str} (hkey : ¬ isNoteKey c key)
    (val : Entries) :
    seqEncTree c (f + 1) key (.map val)
      = ((treeAlg c).attrsOut c val).bind fun a =>
          (elemKind a.2 (lookup c.seqK val).isSome val.length ((lookup c.textK val).map fmtV)).run
            ((treeAlg c).whole () key a.1) ((treeAlg c).around () key a.1)
            (seqKidsTree c f (sortBySeq c (unrollEntries c val))) := by
  rw [seqEncTree_eq c (f + 1) (), enc_elem hkey, seqKidsTree_eq]
  simp only [← seqEncTree_eq]
  rfl

/-- the text the encoder writes for the text-key value -/
def txtOf (esc : Bool) (tv : Val) : Option Str :=
  match tv with
  | .str s => some (if esc then escapeChars s else s)
  | v => fmtV v

def bytesAlg (c : SeqCfg) (esc ge : Bool) : Alg Unit Str Char where
  attrs := seqAttrsText c esc
  noAttrs := []
  txt := txtOf esc
  note _ n := renderSeq esc ge n.node
  whole _ key a t :=
    if t.isEmpty then
      "<".toList ++ key ++ a ++ (if ge then ">".toList ++ closeTag key else "/>".toList)
    else "<".toList ++ key ++ a ++ ">".toList ++ t ++ closeTag key
  around _ key a t kids := "<".toList ++ key ++ a ++ ">".toList ++ t ++ kids ++ closeTag key
  str _ key s :=
    let v := if esc then escapeChars s else s
    "<".toList ++ key ++ (if v.isEmpty then [] else ">".toList ++ v)
      ++ endOf { goEmpty := ge } key v.length
  null _ key := .ok ("<".toList ++ key)
  scalar _ key t := "<".toList ++ key ++ ">".toList ++ t ++ closeTag key
  kid p _ := p
  member p := p

theorem seqEnc_eq (c : SeqCfg) (esc ge : Bool) : ∀ (f : Nat) (p : Unit) (key : Str) (v : Val),
    seqEnc c esc ge f key v = enc (bytesAlg c esc ge) c f p key v := by
  intro f
  induction f with
  | zero => intro p key v; simp only [seqEnc, enc]
  | succ f ih =>
    have ih : (fun _ => seqEnc c esc ge f) = enc (bytesAlg c esc ge) c f :=
      funext fun p => funext fun key => funext (ih p key)
    intro p key v
    cases v with
    | null | str _ | num _ => simp only [seqEnc, enc]; rfl
    | bool b => cases b <;> simp only [seqEnc, enc] <;> rfl
    | list xs => rw [seqEnc, seqMembers_eq, enc, ← ih]
    | map val =>
      rw [enc, ← ih]
      -- `seqEnc` tests `t.isEmpty` outside `.ok` and writes no empty text
      simp only [bytesAlg, apply_ite Outcome.ok, List.append_nil, List.isEmpty_nil, if_true]
      rw [seqEnc, seqKids_eq]
      set_option smartUnfolding false in rfl

/-! ### values whose leaves are strings; the rendering of attributes and children -/

def escB (esc : Bool) (s : Str) : Str := if esc then escapeChars s else s

theorem escB_isEmpty (esc : Bool) (s : Str) : (escB esc s).isEmpty = s.isEmpty := by
  cases esc <;> simp [escB, escapeChars_isEmpty]

theorem renderSeqKids_append (esc ge : Bool) : ∀ (a b : List Node),
    renderSeqKids esc ge (a ++ b) = renderSeqKids esc ge a ++ renderSeqKids esc ge b
  | [], b => rfl
  | x :: a, b => by simp only [List.cons_append, renderSeqKids, renderSeqKids_append esc ge a b,
      List.append_assoc]

theorem renderSeqAttrs_cons (esc : Bool) (a : Attr) (as : List Attr) :
    renderSeqAttrs esc (a :: as)
      = " ".toList ++ a.name ++ "=\"".toList ++ escB esc a.value ++ "\"".toList
          ++ renderSeqAttrs esc as := rfl

theorem seqPlainEntries_iff (c : SeqCfg) : ∀ (l : Entries), seqPlainEntries c l = true ↔
    ∀ e ∈ l, (e.1 = c.seqK ∧ isNumVal e.2 = true) ∨ seqPlain c e.2 = true
  | [] => by simp [seqPlainEntries]
  | (k, v) :: r => by simp [seqPlainEntries, seqPlainEntries_iff c r]

theorem plain_of_lookup {c : SeqCfg} {k : Str} (hk : k ≠ c.seqK) {l : Entries} {v : Val}
    (hp : seqPlainEntries c l = true) (h : lookup k l = some v) : seqPlain c v = true :=
  ((seqPlainEntries_iff c l).1 hp (k, v) (mem_of_lookup h)).resolve_left fun h1 => hk h1.1

/-- a map inside a plain map is plain, whatever its key: the number allowed under the sequence key
    is no map -/
theorem plain_of_mem_map (c : SeqCfg) {l vv : Entries} {e : Str × Val}
    (hp : seqPlainEntries c l = true) (he : e ∈ l) (hv : e.2 = .map vv) :
    seqPlainEntries c vv = true := by
  rcases (seqPlainEntries_iff c l).1 hp e he with h | h
  · rw [hv] at h; cases h.2
  · rw [hv] at h; exact h

theorem seqPlain_list_iff (c : SeqCfg) : ∀ (xs : List Val),
    seqPlain c (.list xs) = true ↔ ∀ x ∈ xs, seqPlain c x = true
  | [] => by simp [seqPlain, seqPlainList]
  | x :: xs => by
      have := seqPlain_list_iff c xs
      simp only [seqPlain] at this
      simp [seqPlain, seqPlainList, this]

theorem plain_unroll (c : SeqCfg) (l : Entries) (hp : seqPlainEntries c l = true) :
    ∀ e ∈ unrollEntries c l, seqPlain c e.2 = true :=
  unroll_all c (Q := fun _ v => seqPlain c v = true) (fun _ xs => (seqPlain_list_iff c xs).1)
    fun e he hd => ((seqPlainEntries_iff c l).1 hp e he).resolve_left fun h1 =>
      (dropK_false hd).2.1 h1.1

theorem seqAttrText_link (c : SeqCfg) (esc : Bool) (hts : c.textK ≠ c.seqK) (k : Str) (v : Val)
    (hv : ∀ vv, v = .map vv → seqPlainEntries c vv = true) :
    seqAttrText c esc k v = (seqAttrNode c k v).mapOk (fun a => renderSeqAttrs esc [a]) := by
  cases v with
  | map vv =>
    cases h : lookup c.textK vv with
    | none => simp [seqAttrText, seqAttrNode, h, Outcome.mapOk]
    | some x =>
      have hx := plain_of_lookup hts (hv vv rfl) h
      cases x with
      | str s => cases esc <;> simp [seqAttrText, seqAttrNode, h, Outcome.mapOk, renderSeqAttrs]
      | list _ | map _ => simp [seqAttrText, seqAttrNode, h, Outcome.mapOk]
      | null | bool _ | num _ => cases hx
  | _ => rfl

theorem seqAttrsText_link (c : SeqCfg) (esc : Bool) (hts : c.textK ≠ c.seqK) :
    ∀ (l : List (Str × Val)), (∀ e ∈ l, ∀ vv, e.2 = .map vv → seqPlainEntries c vv = true) →
    seqAttrsText c esc l = (seqAttrNodes c l).mapOk (renderSeqAttrs esc)
  | [], _ => rfl
  | (k, v) :: rest, h => by
      have h1 := seqAttrText_link c esc hts k v (h (k, v) (List.mem_cons_self ..))
      have h2 := seqAttrsText_link c esc hts rest (fun e he => h e (List.mem_cons_of_mem _ he))
      simp only [seqAttrsText, seqAttrNodes, h1, h2]
      cases seqAttrNode c k v with
      | ok a =>
        cases seqAttrNodes c rest with
        | ok r => simp [Outcome.mapOk, renderSeqAttrs]
        | _ => rfl
      | _ => rfl

theorem renderSeqKids_elem (esc : Bool) (key : Str) (as : List Attr) (kids : List Node) :
    renderSeqKids esc true [.elem [] key as kids]
      = "<".toList ++ key ++ renderSeqAttrs esc as ++
          (if kids.isEmpty then ">".toList ++ closeTag key
           else ">".toList ++ renderSeqKids esc true kids ++ closeTag key) := by
  simp only [renderSeqKids, renderSeq, List.append_nil, if_true]

/-- with `goEmpty` an element is written the same way whether or not it has children -/
theorem renderSeqKids_elem_ge (esc : Bool) (key : Str) (as : List Attr) (kids : List Node) :
    renderSeqKids esc true [.elem [] key as kids]
      = "<".toList ++ key ++ renderSeqAttrs esc as ++ ">".toList ++ renderSeqKids esc true kids
          ++ closeTag key := by
  rw [renderSeqKids_elem]
  cases kids with
  | nil => simp only [List.isEmpty_nil, if_true, renderSeqKids, List.append_nil, List.append_assoc]
  | cons _ _ => simp only [List.isEmpty_cons, Bool.false_eq_true, if_false, List.append_assoc]

theorem renderSeqKids_textKid (esc ge : Bool) (s : Str) :
    renderSeqKids esc ge (textKid s) = escB esc s := by
  cases s with
  | nil => cases esc <;> simp [textKid, renderSeqKids, escB, escapeChars_nil]
  | cons _ _ => simp [textKid, renderSeqKids, renderSeq, escB]

/-- the tail of a string element as the byte encoders write it -/
theorem endOf_eq (ge : Bool) (key v : Str) :
    (if v.isEmpty then [] else ">".toList ++ v) ++ endOf { goEmpty := ge } key v.length
      = if v.isEmpty then (if ge then ">".toList ++ closeTag key else "/>".toList)
        else ">".toList ++ v ++ closeTag key := by
  cases v with
  | nil => cases ge <;> rfl
  | cons x xs => simp [endOf]

/-! ### bytes = rendering of the tree -/

theorem escB_nil (esc : Bool) : escB esc [] = [] := by cases esc <;> simp [escB, escapeChars_nil]

theorem txtOf_plain (c : SeqCfg) (esc : Bool) {tv : Val} (h : seqPlain c tv = true) :
    txtOf esc tv = (fmtV tv).map (escB esc) := by
  cases tv <;> first | rfl | cases h

/-- the attribute text is the rendering of the attribute nodes -/
theorem attrs_link (c : SeqCfg) (esc : Bool) (hts : c.textK ≠ c.seqK) {val av : Entries}
    (hd : seqPlain c (.map val) = true) (h : lookup c.attrK val = some (.map av)) :
    Outcome.Rel (fun as a => renderSeqAttrs esc as = a) (seqAttrNodes c (sortBySeq c av))
      (seqAttrsText c esc (sortBySeq c av)) := by
  have hav := plain_of_mem_map c hd (mem_of_lookup h) rfl
  exact (rel_graph ..).2 (seqAttrsText_link c esc hts _ fun e he _ =>
    plain_of_mem_map c hav ((sortBySeq_perm c _).mem_iff.1 he)).symm

/-- `seqEnc` with `goEmpty` writes the rendering of what `seqEncTree` builds; outside `seqPlain`
    it does not: a `nil` is written as an unterminated tag, the text of a number or boolean is
    not escaped -/
theorem linkSim (c : SeqCfg) (esc : Bool) (hts : c.textK ≠ c.seqK) :
    Sim c (treeAlg c) (bytesAlg c esc true) (fun _ v => seqPlain c v = true) (fun _ _ => True)
      (fun as a => renderSeqAttrs esc as = a) (escB esc)
      (fun ns s => renderSeqKids esc true ns = s) where
  app h h' := by rw [renderSeqKids_append, h, h']
  kids hd _ := plain_unroll c _ hd
  members hd := (seqPlain_list_iff c _).1 hd
  attrs hd h := attrs_link c esc hts hd h
  txt hd h := txtOf_plain c esc (plain_of_lookup hts hd h)
  gnil := escB_nil esc
  note n _ := by
    show renderSeqKids esc true [n.node] = renderSeq esc true n.node
    simp only [renderSeqKids, List.append_nil]
  whole key t _ ha := by
    subst ha
    simp only [bytesAlg, treeAlg, renderSeqKids_elem_ge, renderSeqKids_textKid, escB_isEmpty,
      if_true]
    cases t <;> simp [escB_nil]
  around key t _ ha hk := by
    subst ha hk
    simp only [bytesAlg, treeAlg, renderSeqKids_elem_ge, renderSeqKids_append,
      renderSeqKids_textKid, List.append_assoc]
  str s _ _ := by
    show renderSeqKids esc true [.elem [] _ [] (textKid s)]
      = _ ++ (if (escB esc s).isEmpty then [] else ">".toList ++ escB esc s)
          ++ endOf _ _ (escB esc s).length
    rw [renderSeqKids_elem_ge, renderSeqKids_textKid, List.append_assoc _ _ (endOf ..), endOf_eq]
    -- with `goEmpty` the two branches of `endOf_eq` are the same bytes
    cases escB esc s <;> simp [renderSeqAttrs]
  null _ hd := by cases hd
  bool _ _ _ hd := by cases hd
  num _ _ _ hd := by cases hd

/-- bytes = rendering of the tree, for `goEmpty` and values whose leaves are strings -/
theorem seqEnc_link (c : SeqCfg) (esc : Bool) (hts : c.textK ≠ c.seqK) (f : Nat) (key : Str)
    (v : Val) (hv : seqPlain c v = true) :
    seqEnc c esc true f key v = (seqEncTree c f key v).mapOk (renderSeqKids esc true) := by
  rw [seqEnc_eq c esc true f (), seqEncTree_eq c f ()]
  exact ((rel_graph ..).1 ((linkSim c esc hts).enc trivial hv)).symm

/-! ### the order of map entries -/

theorem seqAttrNode_congr (c : SeqCfg) (k : Str) {v' v : Val} (hv : VPerm v' v) (hk : keysOk v) :
    seqAttrNode c k v' = seqAttrNode c k v := by
  rcases hv.cases with ⟨rfl, _⟩ | ⟨xs, ys, rfl, rfl, _⟩ | ⟨a, m, b, rfl, rfl, hp, he⟩
  · rfl
  · rfl
  · rcases vperm_lookup he hp hk c.textK with ⟨h1, h2⟩ | ⟨x, y, h1, h2, hxy⟩
    · simp only [seqAttrNode, h1, h2]
    · simp only [seqAttrNode, h1, h2]
      rcases hxy.cases with ⟨rfl, _⟩ | ⟨_, _, rfl, rfl, _⟩ | ⟨_, _, _, rfl, rfl, _, _⟩ <;> rfl

theorem seqAttrNodes_congr (c : SeqCfg) {l' l : List (Str × Val)}
    (h : PW (fun _ v => keysOk v) l' l) : seqAttrNodes c l' = seqAttrNodes c l :=
  h.ind (motive := fun l' l => seqAttrNodes c l' = seqAttrNodes c l) rfl
    fun hv hg _ ih => by simp only [seqAttrNodes, seqAttrNode_congr c _ hv hg, ih]

theorem vperm_txtOf (esc : Bool) {w v : Val} (h : VPerm w v) : txtOf esc w = txtOf esc v :=
  vperm_shape (txtOf esc) (fun _ _ => rfl) (fun _ _ => rfl) h

theorem seqAttrText_congr (c : SeqCfg) (esc : Bool) (k : Str) {v' v : Val} (hv : VPerm v' v)
    (hk : keysOk v) : seqAttrText c esc k v' = seqAttrText c esc k v := by
  rcases hv.cases with ⟨rfl, _⟩ | ⟨_, _, rfl, rfl, _⟩ | ⟨a, m, b, rfl, rfl, hp, he⟩
  · rfl
  · rfl
  · rcases vperm_lookup he hp hk c.textK with ⟨h1, h2⟩ | ⟨x, y, h1, h2, hxy⟩
    · simp only [seqAttrText, h1, h2]
    · simp only [seqAttrText, h1, h2]
      rcases hxy.cases with ⟨rfl, _⟩ | ⟨_, _, rfl, rfl, _⟩ | ⟨_, _, _, rfl, rfl, _, _⟩ <;> rfl

theorem seqAttrsText_congr (c : SeqCfg) (esc : Bool) {l' l : List (Str × Val)}
    (h : PW (fun _ v => keysOk v) l' l) : seqAttrsText c esc l' = seqAttrsText c esc l :=
  h.ind (motive := fun l' l => seqAttrsText c esc l' = seqAttrsText c esc l) rfl
    fun hv hg _ ih => by simp only [seqAttrsText, seqAttrText_congr c esc _ hv hg, ih]

/-- one level: the encoder's result does not depend on the order of the map's entries, as long
    as the keys are distinct and so are the sequence numbers of the (unrolled) children -/
theorem seqEncTree_perm (c : SeqCfg) (f : Nat) (key : Str) {val val' : Entries}
    (hp : val'.Perm val) (hk : (keys val).Nodup)
    (hs : ((unrollEntries c val).map (fun e => seqOf c e.2)).Nodup) :
    seqEncTree c f key (.map val') = seqEncTree c f key (.map val) := by
  rw [seqEncTree_eq c f (), seqEncTree_eq c f (), enc_perm hp hk hs]

theorem seqEnc_perm (c : SeqCfg) (esc goEmpty : Bool) (f : Nat) (key : Str) {val val' : Entries}
    (hp : val'.Perm val) (hk : (keys val).Nodup)
    (hs : ((unrollEntries c val).map (fun e => seqOf c e.2)).Nodup) :
    seqEnc c esc goEmpty f key (.map val') = seqEnc c esc goEmpty f key (.map val) := by
  rw [seqEnc_eq c esc goEmpty f (), seqEnc_eq c esc goEmpty f (), enc_perm hp hk hs]

/-- all levels: the encoder's tree does not depend on the order of the entries of ANY map of
    the value, if every map has distinct keys and its children / attributes distinct `#seq` -/
theorem seqEncTree_vperm (c : SeqCfg) (f : Nat) (key : Str) (w v : Val) (h : VPerm w v)
    (hg : GoodAt c key v) : seqEncTree c f key w = seqEncTree c f key v := by
  rw [seqEncTree_eq c f (), seqEncTree_eq c f ()]
  exact enc_vperm (treeAlg c) (seqAttrNodes_congr c)
    (vperm_shape fmtV (fun _ _ => rfl) (fun _ _ => rfl)) h hg

/-- the same for the bytes of the compact encoder -/
theorem seqEnc_vperm (c : SeqCfg) (esc ge : Bool) (f : Nat) (key : Str) (w v : Val)
    (h : VPerm w v) (hg : GoodAt c key v) : seqEnc c esc ge f key w = seqEnc c esc ge f key v := by
  rw [seqEnc_eq c esc ge f (), seqEnc_eq c esc ge f ()]
  exact enc_vperm (bytesAlg c esc ge) (seqAttrsText_congr c esc) (vperm_txtOf esc) h hg

end SeqL
end Mxj
