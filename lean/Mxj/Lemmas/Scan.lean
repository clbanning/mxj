/-
  Mxj.Lemmas.Scan — where a run of the Map decoder ends, read off the token list alone.
  `closeRest d` scans for the end tag that closes the current element (depth counter, names not
  compared), `rootCloses` skips to the first start tag and asks whether that element closes.  With
  fuel above the token count `parseElem` returns a value and exactly the scan's unread tokens, or
  the stream's end (`parseElem_spec`); `decodeTop` returns a one-entry map if the root closes and
  the stream's end if not (`decodeTop_spec`): C15's totality statements and the truncated-stream
  statements of C19ExtXml/C13ExtXml both rest on these two.  On the tokens of a
  tree the scan is balanced (`closeRest_flattenKids`), so a proper prefix never closes (`rootCloses_cut`).
  The theorems are `Total.*`: they keep the namespace of the module they first stood in (`Lemmas/Total`).
-/
import Mxj.Lemmas.Decode
namespace Mxj

/-- Scan for the end tag that closes the current element.  `d` = number of elements opened
    (and not yet closed) inside the current one, i.e. the nesting depth is `d + 1`: every
    `.start` +1, every `.stop` −1; when the depth returns to 0 the unread tokens are returned.
    Names are not compared (the `Token()` stream is already well nested). -/
def closeRest : Nat → List Tok → Option (List Tok)
  | _, [] => none
  | d, .start _ _ _ :: rest => closeRest (d + 1) rest
  | 0, .stop _ _ :: rest => some rest
  | d + 1, .stop _ _ :: rest => closeRest d rest
  | d, .text _ :: rest => closeRest d rest
  | d, .comment _ :: rest => closeRest d rest
  | d, .procinst _ _ :: rest => closeRest d rest
  | d, .directive _ :: rest => closeRest d rest

/-- skip tokens up to the first start element, then the element must close -/
def rootCloses : List Tok → Bool
  | [] => false
  | .start _ _ _ :: rest => (closeRest 0 rest).isSome
  | .stop _ _ :: rest => rootCloses rest
  | .text _ :: rest => rootCloses rest
  | .comment _ :: rest => rootCloses rest
  | .procinst _ _ :: rest => rootCloses rest
  | .directive _ :: rest => rootCloses rest

namespace Total
open Dec
variable (cfg : DecCfg) (S : Strconv) (fin : StreamEnd)
/-- scanning at depth `d + 1` is scanning at depth `d` and then, from where that closes, at depth
    `0`: this is how an element's scan splits at the end tag of a child -/
theorem closeRest_split (toks : List Tok) (d : Nat) :
    closeRest (d + 1) toks = (closeRest d toks).bind (closeRest 0) := by
  fun_induction closeRest d toks with
  | case1 => rfl
  | case3 => rfl                      -- the end tag that closes depth 0: the scan at depth 0 takes over
  | _ => assumption                   -- every other token: one step of both scans

theorem closeRest_length (toks : List Tok) (d : Nat) (r : List Tok) :
    closeRest d toks = some r → r.length < toks.length := by
  fun_induction closeRest d toks with
  | case1 => nofun
  | case3 => rintro ⟨⟩; exact Nat.lt_succ_self _
  | _ => rename_i ih; exact fun h => Nat.lt_succ_of_lt (ih h)

/-- with fuel > #tokens the out-of-fuel branch of `parseElem` is not reached, and the result is
    determined by the nesting-depth scan: the stream's end if the scan finds no closing end tag,
    otherwise a value and exactly the scan's unread tokens -/
theorem parseElem_spec (f : Nat) (toks : List Tok) (hlen : toks.length < f)
    (skey : Str) (na : Entries) (n : Option Val) (seq : Nat) (pend : Option Str) :
    (closeRest 0 toks = none ∧ parseElem cfg S fin f skey na n seq pend toks = finErr fin) ∨
      ∃ v r, closeRest 0 toks = some r ∧ parseElem cfg S fin f skey na n seq pend toks = .ok (v, r) := by
  induction f generalizing toks skey na n seq pend with
  | zero => nomatch hlen
  | succ f ih =>
    cases toks with
    | nil => exact .inl ⟨rfl, parseElem_nil cfg S fin⟩
    | cons t rest =>
      have hlen' : rest.length < f := Nat.lt_of_succ_lt_succ hlen
      cases t with
      | stop => exact .inr ⟨_, _, rfl, rfl⟩
      | text _ | comment _ | procinst _ _ | directive _ => exact ih rest hlen' _ _ _ _ _
      | start sp name attrs =>
        rw [parseElem_start, closeRest, closeRest_split rest 0]
        rcases ih rest hlen' (elemKey cfg S name) (loadAttrs cfg S attrs) none 0 none with
          ⟨hc, h⟩ | ⟨v, r, hc, h⟩
        · rw [hc, h]; exact .inl ⟨rfl, finErr_bind fin _⟩
        · rw [hc, h]
          exact ih r (Nat.lt_trans (closeRest_length rest 0 r hc) hlen') _ _ _ _ _

theorem rootCloses_other {t : Tok} (ht : ¬ isStart t) (rest : List Tok) :
    rootCloses (t :: rest) = rootCloses rest := by
  cases t <;> first | rfl | exact absurd rfl ht

theorem decodeTop_spec (f : Nat) (toks : List Tok) (hlen : toks.length < f) :
    (rootCloses toks = true → ∃ k x r, decodeTop cfg S fin f toks = .ok (.map [(k, x)], r)) ∧
    (rootCloses toks = false → decodeTop cfg S fin f toks = finErr fin) := by
  induction f generalizing toks with
  | zero => nomatch hlen
  | succ f ih =>
    cases toks with
    | nil => exact ⟨nofun, fun _ => decodeTop_nil cfg S fin⟩
    | cons t rest =>
      have hlen' : rest.length < f := Nat.lt_of_succ_lt_succ hlen
      induction t using Tok.casesStart with
      | other t ht => rw [decodeTop_other cfg S fin ht, rootCloses_other ht]; exact ih rest hlen'
      | start sp name attrs =>
        rw [decodeTop_start, rootCloses]
        rcases parseElem_spec cfg S fin f rest hlen' (elemKey cfg S name) (loadAttrs cfg S attrs)
          none 0 none with ⟨hc, h⟩ | ⟨v, r, hc, h⟩
        · rw [hc, h]; exact ⟨nofun, fun _ => finErr_bind fin _⟩
        · rw [hc, h]; exact ⟨fun _ => ⟨_, _, _, rfl⟩, nofun⟩

/-- the scan does not look beyond the closing end tag -/
theorem closeRest_append (p : List Tok) (d : Nat) (r q : List Tok) : closeRest d p = some r →
    closeRest d (p ++ q) = some (r ++ q) := by
  fun_induction closeRest d p with
  | case1 => nofun
  | case3 => rintro ⟨⟩; rfl
  | _ => assumption

/-- the tokens of a forest are balanced: the scan passes over them at any depth -/
theorem closeRest_flattenKids (ks : List Node) : ∀ (d : Nat) (rest : List Tok),
    closeRest d (flattenKids ks ++ rest) = closeRest d rest := by
  induction ks using Node.forest_ind with
  | nil => exact fun _ _ => rfl
  | elem sp n as ks r ihk ihr =>
    intro d rest
    simp only [flattenKids, flatten, List.cons_append, List.append_assoc, List.nil_append, closeRest, ihk]
    exact ihr d rest
  | text _ r ih | comment _ r ih | procinst _ _ r ih | directive _ r ih => exact ih

theorem rootCloses_skip : ∀ (pre : List Tok), (∀ t ∈ pre, ¬ isStart t) → ∀ (toks : List Tok),
    rootCloses (pre ++ toks) = rootCloses toks
  | [], _, _ => rfl
  | t :: pre, h, toks => by
      rw [List.cons_append, rootCloses_other (h t (List.mem_cons_self ..))]
      exact rootCloses_skip pre (fun t ht => h t (List.mem_cons_of_mem _ ht)) toks

/-- a proper prefix of an element's tokens does not close -/
theorem rootCloses_cut (sp name : Str) (attrs : List Attr) (kids : List Node) (cut : List Tok)
    (hpre : cut <+: flatten (.elem sp name attrs kids))
    (hproper : cut ≠ flatten (.elem sp name attrs kids)) : rootCloses cut = false := by
  obtain ⟨tail, htail⟩ := hpre
  cases cut with
  | nil => rfl
  | cons tok p =>
    rw [flatten, List.cons_append, List.cons.injEq] at htail
    obtain ⟨rfl, hp⟩ := htail
    rw [rootCloses]
    cases hc : closeRest 0 p with
    | none => rfl
    | some r =>
      -- the whole element closes with nothing left: so `tail = []` and the prefix is not proper
      have h : some (r ++ tail) = some [] := by
        rw [← closeRest_append p 0 r tail hc, hp, closeRest_flattenKids kids 0]; rfl
      obtain ⟨-, rfl⟩ := List.append_eq_nil_iff.1 (Option.some.inj h)
      rw [List.append_nil] at hp
      exact absurd (by rw [flatten, hp]) hproper

end Total

end Mxj
