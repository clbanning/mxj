/-
  Mxj.Lemmas.QueryFrame — the frame certificate of the read-only operations (`Generated.queryRoots`:
  queries, decoders and encoders), which C15 and C17 both observe: evaluated once here.
-/
import Mxj.Lemmas.Facts
namespace Mxj.Facts

/-- what a read-only operation may read, written down by hand: the package-level variables of /repo
    that are not functions, all but `NO_ROOT` and `disableTrimWhiteSpace` (which only its setter reads).
    What Lean checks is that whatever a reachable function reads is in the list (`query_cert`): a
    variable added to /repo and read by one of them makes the certificate false.  `C15.frameAllowed`
    and `C17.frameAllowed` repeat the list word for word (their `frame_cert` is `query_cert`). -/
def queryAllowed : List String :=
  ["CustomDecoder", "JsonUseNumber", "KeyNotExistError", "NoRoot", "PathNotExistError",
   "XmlCharsetReader", "attrK", "attrPrefix", "castNanInf", "castToBool", "castToFloat",
   "castToInt", "checkTagToSkip", "commentK", "decodeSimpleValuesAsMap", "defaultArraySize",
   "directiveK", "escapechars", "fieldSep", "handleXMPPStreamTag", "includeTagSeqNum", "instK",
   "jhandlerPollInterval", "lenAttrPrefix", "lowerCase", "procinstK", "seqK", "snakeCaseKeys",
   "targetK", "textK", "trimRunes", "useDotNotation", "useGoXmlEmptyElemSyntax",
   "xhandlerPollInterval", "xmlCheckIsValid", "xmlEscapeChars", "xmlEscapeCharsDecoder"]

theorem query_cert :
    cert Generated.queryRoots Generated.queryRootsClosure (frameOk queryAllowed) = true := by
  decide +kernel

end Mxj.Facts
