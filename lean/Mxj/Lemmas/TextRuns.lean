/-
  Mxj.Lemmas.TextRuns — the text of a run of character data, `Conv.textOf d raw` (trim with the
  decoder's cut set, then the optional decoder-side escaping), as every decoder computes it from
  the accumulated raw run: what is decoder-independent about "the decoders do not see how
  character data is cut up or padded".  A blank run has no text, trailing blank characters do not
  show, and a run that has a text keeps having one however it is continued.  Used for the Map
  decoder (Lemmas/SurfaceSplit.lean) and the sequence decoder (Lemmas/Seq.lean, whose
  `runText c` is `Conv.textOf c.dec`).
-/
import Mxj.Model.Conv
import Mxj.Lemmas.Escape
import Mxj.Lemmas.Trim
namespace Mxj.Conv
open Mxj

theorem escDecIf_isEmpty (d : DecCfg) (s : Str) : (escDecIf d s).isEmpty = s.isEmpty := by
  unfold escDecIf; split
  · exact escapeChars_isEmpty s
  · rfl

theorem textOf_isEmpty (d : DecCfg) (s : Str) :
    (textOf d s).isEmpty = (trimChars (trimSet d) s).isEmpty := escDecIf_isEmpty d _

theorem textOf_blank (d : DecCfg) (b : Str) (hb : (trimChars (trimSet d) b).isEmpty = true) :
    textOf d b = [] := by
  rw [← List.isEmpty_iff, textOf_isEmpty, hb]

theorem textOf_append_blank (d : DecCfg) (raw b : Str)
    (hb : (trimChars (trimSet d) b).isEmpty = true) : textOf d (raw ++ b) = textOf d raw := by
  unfold textOf
  rw [trimChars_append_right _ raw b ((trimChars_eq_nil_iff _ _).1 (List.isEmpty_iff.1 hb))]

theorem textOf_append_nonempty (d : DecCfg) (a b : Str) (h : (textOf d a).isEmpty = false) :
    (textOf d (a ++ b)).isEmpty = false := by
  rw [textOf_isEmpty] at h ⊢
  cases hx : trimChars (trimSet d) (a ++ b) with
  | cons c r => rfl
  | nil =>
    have h1 := (trimChars_eq_nil_iff _ _).1 hx
    rw [(trimChars_eq_nil_iff (trimSet d) a).2 (fun ch hch => h1 ch (List.mem_append_left _ hch))] at h
    cases h

end Mxj.Conv
