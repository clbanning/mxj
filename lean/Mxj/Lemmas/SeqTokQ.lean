/-
  Mxj.Lemmas.SeqTokQ — the tokenizer model inverts the canonical rendering of SEQUENCE trees
  (`renderSeq`, escaping on) with PREFIXED names: the sequence encoder writes an element /
  attribute name as the key spells it (`qualify`: `prefix:local` in the name), the tokenizer hands
  it over split at the colon.  `tokenize (renderSeq true ge (qualify seqDflt n)) = some (flatten n)`
  for trees whose prefixes (when present) and local names are XML names, by induction over the
  tree with the step lemmas of Lemmas/Tokenizer.lean and Lemmas/SeqTok.lean; the law for trees
  without prefixes (`tok_seq_node`) is the special case `qualify n = n`.
-/
import Mxj.Lemmas.SeqTok
namespace Mxj.Tokz
open Mxj Mxj.Enc Mxj.EscDec

theorem nsname_qual (sp name : Str) (hs : xmlNameOk sp = true) (hn : xmlNameOk name = true) :
    nsname (sp ++ ':' :: name) = some (sp, name) := by
  have hsc : ∀ x ∈ sp, x ≠ ':' := fun x hx => xmlNameChar_ne_colon (xmlNameOk_all hs x hx)
  have hnc : ∀ x ∈ name, x ≠ ':' := fun x hx => xmlNameChar_ne_colon (xmlNameOk_all hn x hx)
  have h0 : sp.count ':' = 0 := List.count_eq_zero.2 (fun hm => hsc _ hm rfl)
  have h0' : name.count ':' = 0 := List.count_eq_zero.2 (fun hm => hnc _ hm rfl)
  have hcnt : (sp ++ ':' :: name).count ':' = 1 := by
    simp [List.count_append, h0, h0']
  obtain ⟨h2, h1⟩ := span_stop (· != ':') sp (':' :: name) (fun x hx => by simp [hsc x hx])
    (by simp [stops])
  have hsne : sp ≠ [] := by intro e; subst e; simp [xmlNameOk] at hs
  have hnne : name ≠ [] := by intro e; subst e; simp [xmlNameOk] at hn
  simp [nsname, hcnt, h1, h2, hsne, hnne]

theorem nameLex_prefixed (sp name : Str) (hs : xmlNameOk sp = true) (hn : xmlNameOk name = true) :
    NameLex (sp ++ ':' :: name) sp name := by
  obtain ⟨c, s', rfl, hc⟩ := name_head hs
  refine ⟨⟨c, s' ++ ':' :: name, rfl, hc⟩, fun x hx => ?_, nsname_qual _ name hs hn⟩
  rcases List.mem_append.1 hx with hx | hx
  · exact isNmCh_of_xml (xmlNameOk_all hs x hx)
  · rcases List.mem_cons.1 hx with rfl | hx
    · decide
    · exact isNmCh_of_xml (xmlNameOk_all hn x hx)

def spaceOk (sp : Str) : Bool := sp.isEmpty || xmlNameOk sp

theorem nameLex_qual (sp name : Str) (hs : spaceOk sp = true) (hn : xmlNameOk name = true) :
    NameLex (qualName seqDflt sp name) sp name := by
  cases sp with
  | nil => simpa [qualName, seqDflt] using nameLex_plain name hn
  | cons c s' =>
    have hs' : xmlNameOk (c :: s') = true := by simpa [spaceOk] using hs
    simpa [qualName, seqDflt] using nameLex_prefixed (c :: s') name hs' hn

def attrOkQ (a : Attr) : Bool := spaceOk a.space && xmlNameOk a.name && xmlCharsOk a.value

theorem attrsLex_seq : ∀ (attrs : List Attr), attrs.all attrOkQ = true →
    AttrsLex (renderSeqAttrs true (attrs.map (qualAttr seqDflt))) attrs
  | [], _ => .nil
  | a :: as, hw => by
      simp only [List.all_cons, Bool.and_eq_true, attrOkQ] at hw
      obtain ⟨⟨⟨hsp, hnm⟩, hxv⟩, hw'⟩ := hw
      have := AttrsLex.cons (w1 := []) (w2 := []) (w3 := []) (nameLex_qual a.space a.name hsp hnm)
        rfl rfl rfl (.inl rfl)
        (fun x hx => (Surf.rawOk_mem (rawOk_escape _ hxv) hx).2.2.2) (lexChars_escape _ hxv)
        (attrsLex_seq as (by simpa [attrOkQ] using hw'))
      simpa [renderSeqAttrs, qualAttr] using this

mutual
/-- `seqTokNode` with prefixes allowed: a name space is absent or an XML name -/
def seqTokNodeQ : Node → Bool
  | .elem sp name attrs kids =>
      spaceOk sp && xmlNameOk name && attrs.all attrOkQ && seqTokKidsQ kids
  | .text s => !s.isEmpty && xmlCharsOk s
  | .comment s => commentOk s
  | .procinst t i => xmlNameOk t && noLeadSp i && piTextOk i
  | .directive _ => false
def seqTokKidsQ : List Node → Bool
  | [] => true
  | k :: ks => seqTokNodeQ k && seqTokKidsQ ks
end

def SeqTokOkQ (n : Node) : Bool := seqTokNodeQ n && noAdjText n

theorem renderSeq_qualify_elem (ge : Bool) (sp name : Str) (attrs : List Attr) (kids : List Node) :
    renderSeq true ge (qualify seqDflt (.elem sp name attrs kids)) =
      '<' :: (qualName seqDflt sp name ++ (renderSeqAttrs true (attrs.map (qualAttr seqDflt)) ++
        (if kids.isEmpty && !ge then tagEnd true
         else tagEnd false ++ (renderSeqKids true ge (qualifyKids seqDflt kids) ++
           ('<' :: '/' :: (qualName seqDflt sp name ++ ['>'])))))) := by
  cases kids <;> cases ge <;>
    simp [qualify, qualifyKids, renderSeq, tagEnd, renderSeqKids, closeTag]

theorem startsLt_seqKids (ge : Bool) (ks : List Node) (rest : Str)
    (h : ∀ k ∈ ks.head?, isTextNode k = false) (hrest : startsLt rest = true) :
    startsLt (renderSeqKids true ge (qualifyKids seqDflt ks) ++ rest) = true := by
  cases ks with
  | nil => simpa [qualifyKids, renderSeqKids] using hrest
  | cons k ks' =>
    cases k with
    | text s => exact absurd (h _ rfl) (by simp [isTextNode])
    | _ => rfl

mutual
theorem tok_seq_node_q (ge : Bool) : ∀ (n : Node) (rest : Str) (ts : List Tok),
    seqTokNodeQ n = true → noAdjText n = true → (isTextNode n = true → startsLt rest = true) →
    tokenize rest = some ts →
    tokenize (renderSeq true ge (qualify seqDflt n) ++ rest) = some (flatten n ++ ts)
  | .elem sp name attrs kids, rest, ts, hw, hadj, _, ht => by
      simp only [seqTokNodeQ, Bool.and_eq_true] at hw
      obtain ⟨⟨⟨hsp, hname⟩, hattrs⟩, hkids⟩ := hw
      have hq := nameLex_qual sp name hsp hname
      have hal := attrsLex_seq attrs hattrs
      have hnil : ([] : Str).all isSp = true := rfl
      rw [renderSeq_qualify_elem]
      cases hsc : kids.isEmpty && !ge with
      | true =>
        simp only [Bool.and_eq_true, List.isEmpty_iff] at hsc
        obtain ⟨rfl, _⟩ := hsc
        have := tokenize_step (step_start hq hal hnil true rest)
          (by simp [tagEnd]; omega) ht
        simpa [flatten, flattenKids] using this
      | false =>
        have h1 := tokenize_step (step_stop hq hnil rest) (by simp; omega) ht
        have h2 := tok_seq_kids_q ge kids _ _ hkids hadj rfl h1
        have h3 := tokenize_step (step_start hq hal hnil false _) (by simp; omega) h2
        simpa [flatten, List.append_assoc] using h3
  | .text s, rest, ts, hw, _, hafter, ht => by
      simp only [seqTokNodeQ, Bool.and_eq_true, Bool.not_eq_true', List.isEmpty_eq_false_iff] at hw
      have := tokenize_step (step_text_esc s rest hw.1 hw.2 (hafter rfl))
        (length_lt_append (escapeChars_ne s hw.1) rest) ht
      simpa [qualify, renderSeq, flatten] using this
  | .comment s, rest, ts, hw, _, _, ht => by
      have := tokenize_step (step_comment s rest hw) (by simp; omega) ht
      simpa [qualify, renderSeq, flatten, List.append_assoc] using this
  | .procinst t i, rest, ts, hw, _, _, ht => by
      simp only [seqTokNodeQ, Bool.and_eq_true] at hw
      have := tokenize_step (step_pi t i rest hw.1.1 hw.1.2 hw.2) (by simp; omega) ht
      simpa [qualify, renderSeq, flatten, List.append_assoc] using this
  | .directive s, _, _, hw, _, _, _ => by simp [seqTokNodeQ] at hw
theorem tok_seq_kids_q (ge : Bool) : ∀ (ks : List Node) (rest : Str) (ts : List Tok),
    seqTokKidsQ ks = true → noAdjTextKids ks = true → startsLt rest = true →
    tokenize rest = some ts →
    tokenize (renderSeqKids true ge (qualifyKids seqDflt ks) ++ rest)
      = some (flattenKids ks ++ ts)
  | [], rest, ts, _, _, _, ht => by simpa [qualifyKids, renderSeqKids, flattenKids] using ht
  | k :: ks, rest, ts, hw, hadj, hrest, ht => by
      simp only [seqTokKidsQ, Bool.and_eq_true] at hw
      have ih := tok_seq_kids_q ge ks rest ts hw.2 (Dec.noAdjTextKids_cons hadj).2 hrest ht
      have hafter : isTextNode k = true →
          startsLt (renderSeqKids true ge (qualifyKids seqDflt ks) ++ rest) = true := by
        intro hkt
        cases k with
        | text r => exact startsLt_seqKids ge ks rest (noAdjKids_text hadj) hrest
        | _ => simp [isTextNode] at hkt
      have h := tok_seq_node_q ge k _ _ hw.1 (Dec.noAdjTextKids_cons hadj).1 hafter ih
      simpa [qualifyKids, renderSeqKids, flattenKids, List.append_assoc] using h
end

theorem seqTokKidsQ_of (ks : List Node) : seqTokKids ks = true → seqTokKidsQ ks = true := by
  induction ks using Node.forest_ind with
  | nil => exact id
  | elem sp name attrs kids r ihk ihr =>
    intro h
    simp only [seqTokKids, seqTokNode, Bool.and_eq_true] at h
    obtain ⟨⟨⟨⟨hsp, hn⟩, ha⟩, hk⟩, hr⟩ := h
    have ha' : attrs.all attrOkQ = true := List.all_eq_true.2 (fun a hm => by
      have := List.all_eq_true.1 ha a hm
      simp only [Bool.and_eq_true] at this
      simp [attrOkQ, spaceOk, this.1.1, this.1.2, this.2])
    simp [seqTokKidsQ, seqTokNodeQ, spaceOk, hsp, hn, ha', ihk hk, ihr hr]
  | text _ r ih | comment _ r ih | procinst _ _ r ih | directive _ r ih =>
    exact fun h => Bool.and_eq_true_iff.2 ((Bool.and_eq_true_iff.1 h).imp id ih)

theorem seqTokNodeQ_of (n : Node) (h : seqTokNode n = true) : seqTokNodeQ n = true :=
  (Bool.and_eq_true_iff.1 (seqTokKidsQ_of [n] ((Bool.and_true _).trans h))).1

theorem tok_seq_node (ge : Bool) (n : Node) (rest : Str) (ts : List Tok)
    (hw : seqTokNode n = true) (hadj : noAdjText n = true)
    (hafter : isTextNode n = true → startsLt rest = true) (ht : tokenize rest = some ts) :
    tokenize (renderSeq true ge n ++ rest) = some (flatten n ++ ts) := by
  have := tok_seq_node_q ge n rest ts (seqTokNodeQ_of n hw) hadj hafter ht
  rwa [qualify_id n hw] at this

end Mxj.Tokz
