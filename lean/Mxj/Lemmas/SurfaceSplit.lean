/-
  Mxj.Lemmas.SurfaceSplit — the decoder's tree fold does not depend on how a run of character
  data is split into directly adjacent text nodes (text / CDATA pieces): `Fold.value` of a tree
  equals `Fold.value` of the tree with adjacent text nodes concatenated (`mergeN`).  The step
  underneath, `onText_split`, also serves Lemmas/EncodeIndent.lean (with `b = []`: seeing a run
  twice is seeing it once).
-/
import Mxj.Lemmas.Decode
import Mxj.Lemmas.TextRuns
namespace Mxj.Surf
open Mxj Mxj.Dec

/-- handling the run `a` and then the longer run `a ++ b` = handling `a ++ b` at once: a run
    without text changes nothing; a run with a text still has one when it goes on
    (`Conv.textOf_append_nonempty`), and the second call overwrites what the first has stored
    (`insert_insert`) -/
theorem onText_split (cfg : DecCfg) (S : Strconv) (skey : Str) (na : Entries) (n : Option Val)
    (a b : Str) :
    onText cfg S skey (onText cfg S skey na n a).1 (onText cfg S skey na n a).2 (a ++ b)
      = onText cfg S skey na n (a ++ b) := by
  -- `onText` spells `Conv.textOf cfg ·` out: `ha'`, `hab` say `ha` in that spelling, for `simp`
  by_cases ha : (Conv.textOf cfg a).isEmpty = true
  · have ha' : (escDecIf cfg (trimChars (trimSet cfg) a)).isEmpty = true := ha
    simp [onText, ha']
  · have ha1 : (Conv.textOf cfg a).isEmpty = false := by simpa using ha
    have hab : (escDecIf cfg (trimChars (trimSet cfg) (a ++ b))).isEmpty = false :=
      Conv.textOf_append_nonempty cfg a b ha1
    have ha' : (escDecIf cfg (trimChars (trimSet cfg) a)).isEmpty = false := ha1
    by_cases hc : (!na.isEmpty || cfg.asMap) = true
    · simp [onText, ha', hab, hc, insert_ne_nil, insert_insert]
    · have hc' : (!na.isEmpty || cfg.asMap) = false := by simpa using hc
      simp only [Bool.or_eq_false_iff, Bool.not_eq_false'] at hc'
      simp [onText, ha', hab, hc'.1, hc'.2]

theorem kids'_text_text (cfg : DecCfg) (S : Strconv) (skey : Str)
    (st : Entries × Option Val × Nat × Option Str) (a b : Str) (rest : List Node) :
    Fold.kids' cfg S skey st (.text a :: .text b :: rest)
      = Fold.kids' cfg S skey st (.text (a ++ b) :: rest) := by
  obtain ⟨na, n, seq, pend⟩ := st
  have h := onText_split cfg S skey na n (pend.getD [] ++ a) b
  simp only [List.append_assoc] at h
  simp only [Fold.kids', Option.getD_some, List.append_assoc, h]

/-- `k :: r`, a text node `k` joined with a text node at the head of `r` -/
def glue : Node → List Node → List Node
  | .text a, .text b :: r => .text (a ++ b) :: r
  | k, r => k :: r

mutual
/-- the tree with every run of directly adjacent text nodes concatenated into one, at every depth:
    what the decoder makes of the text / CDATA pieces of one run of character data -/
def mergeN : Node → Node
  | .elem sp name attrs kids => .elem sp name attrs (mergeK kids)
  | .text s => .text s
  | .comment s => .comment s
  | .procinst t i => .procinst t i
  | .directive s => .directive s
def mergeK : List Node → List Node
  | [] => []
  | k :: ks => glue (mergeN k) (mergeK ks)
end

theorem kids'_glue (cfg : DecCfg) (S : Strconv) (skey : Str)
    (st : Entries × Option Val × Nat × Option Str) (k : Node) (r : List Node) :
    Fold.kids' cfg S skey st (glue k r) = Fold.kids' cfg S skey st (k :: r) := by
  fun_cases glue k r with
  | case1 a b r' => exact (kids'_text_text cfg S skey st a b r').symm
  | case2 => rfl

theorem kids'_mergeK (cfg : DecCfg) (S : Strconv) : ∀ (ks : List Node) {skey : Str}
    {st : Entries × Option Val × Nat × Option Str},
    Fold.kids' cfg S skey st (mergeK ks) = Fold.kids' cfg S skey st ks := by
  intro ks
  induction ks using Node.forest_ind with
  | nil => exact rfl
  | elem sp name attrs kids r ihk ihr =>
    intro skey ⟨na, n, seq, pend⟩
    refine (kids'_glue ..).trans ?_
    simp only [mergeN, Fold.kids', Fold.value, ihk]
    exact ihr
  | text _ r ih | comment _ r ih | procinst _ _ r ih | directive _ r ih =>
    intro skey ⟨na, n, seq, pend⟩
    exact (kids'_glue ..).trans ih

theorem value_mergeN (cfg : DecCfg) (S : Strconv) (t : Node) :
    Fold.value cfg S (mergeN t) = Fold.value cfg S t := by
  cases t with
  | elem sp name attrs kids =>
    simp only [mergeN, Fold.value]
    rw [kids'_mergeK cfg S kids]
  | _ => rfl

theorem doc_mergeN (cfg : DecCfg) (S : Strconv) (t : Node) :
    Fold.doc cfg S (mergeN t) = Fold.doc cfg S t := by
  cases t with
  | elem sp name attrs kids =>
    have hv := value_mergeN cfg S (.elem sp name attrs kids)
    simp only [mergeN] at hv
    simp only [mergeN, Fold.doc, hv]
  | _ => rfl

theorem noAdj_glue (k : Node) (r : List Node) (hk : noAdjText k = true)
    (hr : noAdjTextKids r = true) : noAdjTextKids (glue k r) = true := by
  fun_cases glue k r with
  | case1 a b r' =>
    -- whether a text node may stand in front of `r'` does not depend on its content
    cases r' with
    | nil => rfl
    | cons y r'' => cases y <;> exact hr
  | case2 k r hne =>
    -- not two text nodes in front: the last equation of `noAdjTextKids` applies
    rw [noAdjTextKids.eq_3 _ _ hne, hk, hr]; rfl

theorem noAdj_mergeK : ∀ (ks : List Node), noAdjTextKids (mergeK ks) = true := by
  intro ks
  induction ks using Node.forest_ind with
  | nil => rfl
  | elem sp name attrs kids r ihk ihr => exact noAdj_glue _ _ ihk ihr
  | text _ r ih | comment _ r ih | procinst _ _ r ih | directive _ r ih =>
    exact noAdj_glue _ _ rfl ih

theorem noAdj_mergeN (t : Node) : noAdjText (mergeN t) = true := by
  cases t with
  | elem sp name attrs kids => exact noAdj_mergeK kids
  | _ => rfl
end Mxj.Surf
