/-
  Mxj.Lemmas.Leaf — the model `getLeafNodes` is the segment-level specification (`leafSegs`
  rendered by `renderSegs`, seen through the no-attributes view); in bracket notation the segments
  of a leaf are the rendering of a list of keys, an index taken together with the key in front of
  it (`resolve_core`), and those keys denote (`Denote.path`) exactly the leaf value.  Rendering
  then parsing is the identity on `List Key` (`parsePath_renderKeys`), so the rendered path parses
  back (`parsePath`) to those keys.  The domain predicates of C09 are defined here: `listsFit` (list
  indices fit an int32), `keyOk` (a key that renders and parses back), `Resolvable` (the domain of
  the resolution clause).
-/
import Mxj.Model.Leaf
import Mxj.Model.KeySpec
import Mxj.Lemmas.PathIdx
namespace Mxj

theorem hasPrefix_bracket_of_not_mem (k : Str) (h : '[' ∉ k) : hasPrefix ['['] k = false :=
  Bool.eq_false_iff.2 fun hp =>
    (List.isPrefixOf_iff_prefix.1 hp).elim fun _ e => h (e ▸ List.mem_cons_self)

theorem natToStr_no_bracket (i : Nat) : hasPrefix ['['] (natToStr i) = false :=
  hasPrefix_bracket_of_not_mem _ (natToStr_not_mem i '[' (by decide))

theorem listNode_prefix (cfg : LeafCfg) (i : Nat) :
    hasPrefix ['['] (listNode cfg i) = !cfg.useDot := by
  unfold listNode
  cases cfg.useDot with
  | true => simp only [if_true, Bool.not_true]; exact natToStr_no_bracket i
  | false => simp [hasPrefix, List.isPrefixOf]

theorem listNode_ne_of (cfg : LeafCfg) (hb : hasPrefix ['['] cfg.textK = false)
    (hd : cfg.textK.all isDigit = false) : ∀ i, listNode cfg i ≠ cfg.textK := by
  intro i e
  cases hu : cfg.useDot with
  | true =>
    simp only [listNode, hu, if_true] at e
    rw [← e, natToStr_all] at hd; cases hd
  | false =>
    have := listNode_prefix cfg i
    rw [e, hb, hu] at this; cases this

/-- what `C09_is_spec` puts between `leafSegs` and the rendering -/
def leafView (cfg : LeafCfg) (noattr : Bool) (l : List (List Seg × Val)) : List (List Seg × Val) :=
  if noattr then
    (l.filter fun pv => !pv.1.any (segIsAttr cfg)).map fun pv => (stripSegs cfg pv.1, pv.2)
  else l

theorem leafView_nil (cfg : LeafCfg) (noattr : Bool) : leafView cfg noattr [] = [] := by
  unfold leafView; split <;> rfl

theorem leafView_append (cfg : LeafCfg) (noattr : Bool) (a b : List (List Seg × Val)) :
    leafView cfg noattr (a ++ b) = leafView cfg noattr a ++ leafView cfg noattr b := by
  unfold leafView; split <;> simp only [List.filter_append, List.map_append]

/-- the string a segment contributes as `node` argument of `getLeafNodes` -/
def segNode (cfg : LeafCfg) : Seg → Str
  | .key k => k
  | .idx i => listNode cfg i

theorem renderSegs_cons (cfg : LeafCfg) (acc : Str) (s : Seg) (p : List Seg) :
    renderSegs cfg acc (s :: p) = renderSegs cfg (leafPath cfg false acc (segNode cfg s)) p := by
  cases s with
  | key k => simp [renderSegs, leafPath, segNode]
  | idx i => simp [renderSegs, leafPath, segNode, listNode_prefix]

theorem leafPath_true_ne (cfg : LeafCfg) (acc node : Str) (h : node ≠ cfg.textK) :
    leafPath cfg true acc node = leafPath cfg false acc node := by
  simp [leafPath, h]

theorem leafPath_true_eq (cfg : LeafCfg) (acc : Str) :
    leafPath cfg true acc cfg.textK = acc := by
  simp [leafPath]

/-- stripping the text-key segment is what `leafPath … noattr=true` does to the string -/
theorem renderSegs_strip_cons (cfg : LeafCfg) (acc : Str) (s : Seg) (p : List Seg)
    (hln : ∀ i, listNode cfg i ≠ cfg.textK) :
    renderSegs cfg acc (stripSegs cfg (s :: p))
      = renderSegs cfg (leafPath cfg true acc (segNode cfg s)) (stripSegs cfg p) := by
  by_cases h : s = Seg.key cfg.textK
  · subst h
    simp [stripSegs, segNode, leafPath_true_eq]
  · have hn : segNode cfg s ≠ cfg.textK := by
      cases s with
      | key k => intro e; apply h; simp only [segNode] at e; rw [e]
      | idx i => exact hln i
    have : stripSegs cfg (s :: p) = s :: stripSegs cfg p := by
      simp [stripSegs, h]
    rw [this, renderSegs_cons, leafPath_true_ne cfg acc _ hn]

/-- one more segment in front = one more `leafPath` step on the accumulated string, and nothing
    at all below an attribute key when attributes are dropped: the right side is what `leafEntries`
    and `leafList` do with one member -/
theorem leafView_cons (cfg : LeafCfg) (noattr : Bool)
    (hln : noattr = true → ∀ i, listNode cfg i ≠ cfg.textK) (acc : Str) (s : Seg)
    (l : List (List Seg × Val)) :
    (leafView cfg noattr (l.map fun pv => (s :: pv.1, pv.2))).map
        (fun pv => (⟨renderSegs cfg acc pv.1, pv.2⟩ : Leaf))
      = if noattr && segIsAttr cfg s then [] else
        (leafView cfg noattr l).map
          (fun pv => (⟨renderSegs cfg (leafPath cfg noattr acc (segNode cfg s)) pv.1, pv.2⟩ : Leaf)) := by
  cases noattr with
  | false =>
    simp only [leafView, Bool.false_and, Bool.false_eq_true, if_false, List.map_map]
    apply List.map_congr_left
    intro pv _
    simp only [Function.comp, renderSegs_cons]
  | true =>
    simp only [leafView, if_true, Bool.true_and, List.filter_map, List.map_map, Function.comp_def,
      List.any_cons, Bool.not_or]
    cases segIsAttr cfg s with
    | true => simp
    | false =>
      simp only [Bool.not_false, Bool.true_and, Bool.false_eq_true, if_false]
      apply List.map_congr_left
      intro pv _
      simp only [renderSegs_strip_cons cfg acc s pv.1 (hln rfl)]

theorem leafView_scalar (cfg : LeafCfg) (noattr : Bool) (v : Val) :
    leafView cfg noattr [([], v)] = [([], v)] := by
  cases noattr <;> simp [leafView, stripSegs]

theorem leafSegsEntries_cons (k : Str) (v : Val) (rest : Entries) :
    leafSegsEntries ((k, v) :: rest)
      = (leafSegs v).map (fun pv => (Seg.key k :: pv.1, pv.2)) ++ leafSegsEntries rest := rfl

theorem leafSegsList_cons (i : Nat) (x : Val) (xs : List Val) :
    leafSegsList i (x :: xs)
      = (leafSegs x).map (fun pv => (Seg.idx i :: pv.1, pv.2)) ++ leafSegsList (i + 1) xs := rfl

mutual
theorem getLeafNodes_spec (cfg : LeafCfg) (noattr : Bool)
    (hln : noattr = true → ∀ i, listNode cfg i ≠ cfg.textK) :
    ∀ (v : Val) (path node : Str),
      getLeafNodes cfg noattr path node v
        = (leafView cfg noattr (leafSegs v)).map
            (fun pv => (⟨renderSegs cfg (leafPath cfg noattr path node) pv.1, pv.2⟩ : Leaf))
  | .map kvs, path, node => by
      simp only [getLeafNodes, leafSegs]
      exact leafEntries_spec cfg noattr hln kvs _
  | .list xs, path, node => by
      simp only [getLeafNodes, leafSegs]
      exact leafList_spec cfg noattr hln xs _ 0
  | .null, path, node | .bool _, path, node | .num _, path, node | .str _, path, node =>
      by simp [getLeafNodes, leafSegs, leafView_scalar, renderSegs]
theorem leafEntries_spec (cfg : LeafCfg) (noattr : Bool)
    (hln : noattr = true → ∀ i, listNode cfg i ≠ cfg.textK) :
    ∀ (kvs : Entries) (path : Str),
      leafEntries cfg noattr path kvs
        = (leafView cfg noattr (leafSegsEntries kvs)).map
            (fun pv => (⟨renderSegs cfg path pv.1, pv.2⟩ : Leaf))
  | [], path => by simp [leafEntries, leafSegsEntries, leafView_nil]
  | (k, v) :: rest, path => by
      rw [leafSegsEntries_cons, leafView_append, List.map_append,
        leafView_cons cfg noattr hln path (.key k), leafEntries,
        leafEntries_spec cfg noattr hln rest path, getLeafNodes_spec cfg noattr hln v path k]
      rfl
theorem leafList_spec (cfg : LeafCfg) (noattr : Bool)
    (hln : noattr = true → ∀ i, listNode cfg i ≠ cfg.textK) :
    ∀ (xs : List Val) (path : Str) (i : Nat),
      leafList cfg noattr path i xs
        = (leafView cfg noattr (leafSegsList i xs)).map
            (fun pv => (⟨renderSegs cfg path pv.1, pv.2⟩ : Leaf))
  | [], path, i => by simp [leafList, leafSegsList, leafView_nil]
  | x :: xs, path, i => by
      rw [leafSegsList_cons, leafView_append, List.map_append,
        leafView_cons cfg noattr hln path (.idx i), leafList,
        leafList_spec cfg noattr hln xs path (i + 1),
        getLeafNodes_spec cfg noattr hln x path (listNode cfg i)]
      simp only [segIsAttr, Bool.and_false, Bool.false_eq_true, if_false]
      rfl
end

theorem leafPath_root (cfg : LeafCfg) (noattr : Bool) : leafPath cfg noattr [] [] = [] := by
  unfold leafPath; split <;> simp

theorem leafNodes_spec (cfg : LeafCfg) (noattr : Bool)
    (hln : noattr = true → ∀ i, listNode cfg i ≠ cfg.textK) (m : Val) :
    leafNodes cfg noattr m
      = (leafView cfg noattr (leafSegs m)).map
          (fun pv => (⟨renderSegs cfg [] pv.1, pv.2⟩ : Leaf)) := by
  unfold leafNodes
  rw [getLeafNodes_spec cfg noattr hln m [] [], leafPath_root]

mutual
theorem leafSegs_values : ∀ v : Val, (leafSegs v).map (·.2) = scalars v
  | .map kvs => by simp only [leafSegs, scalars]; exact leafSegsEntries_values kvs
  | .list xs => by simp only [leafSegs, scalars]; exact leafSegsList_values 0 xs
  | .null | .bool _ | .num _ | .str _ => by simp [leafSegs, scalars]
theorem leafSegsEntries_values : ∀ kvs : Entries, (leafSegsEntries kvs).map (·.2) = scalarsEntries kvs
  | [] => by simp [leafSegsEntries, scalarsEntries]
  | (k, v) :: rest => by
      rw [leafSegsEntries_cons, List.map_append, List.map_map, scalarsEntries, leafSegsEntries_values rest,
        ← leafSegs_values v]
      rfl
theorem leafSegsList_values : ∀ (i : Nat) (xs : List Val),
    (leafSegsList i xs).map (·.2) = scalarsList xs
  | _, [] => by simp [leafSegsList, scalarsList]
  | i, x :: xs => by
      rw [leafSegsList_cons, List.map_append, List.map_map, scalarsList, leafSegsList_values (i + 1) xs,
        ← leafSegs_values x]
      rfl
end

open KeySpec

mutual
/-- every list has at most 2^31 members, i.e. every index that occurs is ≤ 2147483647 and
    survives `strconv.ParseInt(·, 10, 32)` -/
def listsFit : Val → Bool
  | .list xs => decide (xs.length ≤ 2147483648) && listsFitL xs
  | .map kvs => listsFitE kvs
  | _ => true
def listsFitL : List Val → Bool
  | [] => true
  | x :: xs => listsFit x && listsFitL xs
def listsFitE : Entries → Bool
  | [] => true
  | (_, v) :: rest => listsFit v && listsFitE rest
end

/-- `getLeafNodes` accumulates a path the way `hasKeyPath` does, one `crumb` per key -/
theorem foldl_crumb (ss : List Str) : ∀ pre : List Str, (∀ s ∈ pre ++ ss, s ≠ []) →
    ss.foldl crumb (joinDot pre) = joinDot (pre ++ ss) := by
  induction ss with
  | nil => intro pre _; rw [List.append_nil]; rfl
  | cons s ss ih =>
    intro pre h
    rw [List.append_cons] at h ⊢
    rw [List.foldl_cons,
      crumb_joinDot pre s fun x hx => h x (List.mem_append_left _ (List.mem_append_left _ hx))]
    exact ih (pre ++ [s]) h

theorem parseInt32_digits (ds : Str) (hne : ds ≠ []) (hall : ds.all isDigit = true) :
    parseInt32 ds
      = if digitsVal ds 0 ≤ 2147483647 then some (digitsVal ds 0 : Int) else none := by
  cases ds with
  | nil => exact absurd rfl hne
  | cons c cs =>
    have hc : isDigit c = true := by
      simp only [List.all_cons, Bool.and_eq_true] at hall; exact hall.1
    have hm : c ≠ '-' := isDigit_ne c '-' hc (by decide)
    have hp : c ≠ '+' := isDigit_ne c '+' hc (by decide)
    simp [parseInt32, hm, hp, hall]

/-- the range check of `ParseInt(·, 10, 32)` forces the bound: exactly the indices up to
    2147483647 parse back -/
theorem parseInt32_natToStr (i : Nat) :
    parseInt32 (natToStr i) = if i ≤ 2147483647 then some (i : Int) else none := by
  rw [parseInt32_digits _ (natToStr_ne_nil i) (natToStr_all i), digitsVal_natToStr]

theorem parseSeg_plain (k : Str) (h : '[' ∉ k) : parseSeg k = .ok ⟨k, false, 0⟩ := by
  unfold parseSeg
  simp [h]

theorem parseSeg_idx (k ds : Str) (n : Nat) (hk : '[' ∉ k) (h1 : '[' ∉ ds) (h2 : ']' ∉ ds)
    (hne : ds ≠ []) (hp : parseInt32 ds = some (n : Int)) :
    parseSeg (k ++ '[' :: (ds ++ [']'])) = .ok ⟨k, true, n⟩ := by
  unfold parseSeg
  have hs1 := splitOn_pair '[' k (ds ++ [']']) hk
    (by simp only [List.mem_append, List.mem_singleton, not_or]; exact ⟨h1, by decide⟩)
  have hs2 := splitOn_pair ']' ds [] h2 List.not_mem_nil
  have he : ds.isEmpty = false := by cases ds <;> simp_all
  simp [hs1, hs2, he, hp]

theorem parseSeg_natIdx (k : Str) (i : Nat) (hk : '[' ∉ k) (hi : i ≤ 2147483647) :
    parseSeg (k ++ '[' :: (natToStr i ++ [']'])) = .ok ⟨k, true, i⟩ := by
  refine parseSeg_idx k (natToStr i) i hk (natToStr_not_mem i '[' (by decide))
    (natToStr_not_mem i ']' (by decide)) (natToStr_ne_nil i) ?_
  rw [parseInt32_natToStr]; simp [hi]

def renderKey (k : Key) : Str :=
  if k.isArray then k.name ++ '[' :: (natToStr k.position ++ [']']) else k.name

/-- keys that survive rendering and parsing: a path-safe name, an index that fits an int32, no
    position on a plain key -/
def keyOk (k : Key) : Bool :=
  keySafe k.name && (if k.isArray then decide (k.position ≤ 2147483647) else k.position == 0)

/-! ### the codec on `List Key` -/

theorem keyOk_safe (k : Key) (h : keyOk k = true) : keySafe k.name = true := by
  simp only [keyOk, Bool.and_eq_true] at h; exact h.1

theorem parseSeg_renderKey (k : Key) (h : keyOk k = true) : parseSeg (renderKey k) = .ok k := by
  have hb := ((keySafe_iff _).1 (keyOk_safe k h)).2.2.1
  obtain ⟨name, isArray, position⟩ := k
  cases isArray <;> simp [keyOk] at h
  · obtain ⟨_, rfl⟩ := h; exact parseSeg_plain name hb
  · exact parseSeg_natIdx name position hb h.2

theorem renderKey_nameOk (k : Key) (h : keyOk k = true) : nameOk (renderKey k) = true := by
  obtain ⟨hne, hd, _, _⟩ := (keySafe_iff _).1 (keyOk_safe k h)
  rw [nameOk_iff]
  unfold renderKey
  split
  · simp [hd, natToStr_not_mem k.position '.' (by decide)]
  · exact ⟨hne, hd⟩

theorem renderKeys_nameOk (ks : List Key) (h : ∀ k ∈ ks, keyOk k = true) :
    ∀ s ∈ ks.map renderKey, nameOk s = true :=
  List.forall_mem_map.2 fun k hk => renderKey_nameOk k (h k hk)

theorem parsePathSegs_renderKeys (ks : List Key) (h : ∀ k ∈ ks, keyOk k = true) :
    parsePathSegs (ks.map renderKey) = .ok ks := by
  rw [parsePathSegs_ok_iff, List.filter_eq_self.2, List.map_map]
  · exact List.map_congr_left fun k hk => parseSeg_renderKey k (h k hk)
  · intro s hs; simpa using ((nameOk_iff s).1 (renderKeys_nameOk ks h s hs)).1

theorem parsePath_renderKeys (ks : List Key) (h : ∀ k ∈ ks, keyOk k = true) :
    parsePath (joinDot (ks.map renderKey)) = .ok ks := by
  unfold parsePath splitDot joinDot
  cases ks with
  | nil => rfl
  | cons k ks =>
    rw [splitOn_joinWith '.' _ (by simp)
      (fun s hs => ((nameOk_iff s).1 (renderKeys_nameOk _ h s hs)).2)]
    exact parsePathSegs_renderKeys _ h

theorem pathKeys_renderKeys (ks : List Key) (h : ∀ k ∈ ks, keyOk k = true) :
    pathKeys (joinDot (ks.map renderKey)) = ks.map renderKey :=
  pathKeys_joinDot _ (renderKeys_nameOk _ h)

theorem keyOk_idxOk (ks : List Key) (h : ∀ k ∈ ks, keyOk k = true) :
    ks.all Denote.idxOk = true := by
  refine List.all_eq_true.2 fun k hk => ?_
  have hs := keyOk_safe k (h k hk)
  simp [Denote.idxOk, keySafe_ne_star _ hs, ((keySafe_iff _).1 hs).1]

/-- without a bracket in the rendered path no key is indexed, and the plain reading of the path
    is the same list of steps -/
theorem renderKeys_plain (ks : List Key) (hb : '[' ∉ joinDot (ks.map renderKey)) :
    (ks.map renderKey).map Denote.plainStep = ks.map Denote.keyStep := by
  rw [List.map_map]
  refine List.map_congr_left fun k hk => ?_
  simp only [Function.comp, renderKey, Denote.keyStep]
  split
  · rename_i ha
    refine absurd (mem_joinWith_of_mem ['.'] _ _ '[' (List.mem_map_of_mem hk) ?_) hb
    simp [renderKey, ha]
  · rfl

/-- the specification of `ValuesForPath` is defined on every rendered list of admissible keys,
    with or without an index in it, and is the denotation of the keys -/
theorem valuesForPath_renderKeys (sep : Str) (pf : Str → Option Str) (m : Val)
    (hn : Denote.noListInList m = true) (ks : List Key) (hk : ∀ k ∈ ks, keyOk k = true) :
    Denote.valuesForPath sep pf m (joinDot (ks.map renderKey)) []
      = some (Denote.path (ks.map Denote.keyStep) m) := by
  simp only [Denote.valuesForPath, subKeyArg, List.isEmpty_nil, ↓reduceIte, Denote.subFilter]
  cases hb : (joinDot (ks.map renderKey)).contains '[' with
  | true =>
    simp only [Bool.not_true, Bool.false_eq_true, if_false, parsePath_renderKeys ks hk,
      keyOk_idxOk ks hk, hn, Bool.and_self, if_true]
  | false =>
    simp only [Bool.not_false, if_true, pathKeys_renderKeys ks hk,
      renderKeys_plain ks (by simpa using hb)]

/-- one admissible key in front of the segments is one more piece of the dotted string -/
theorem renderSegs_renderKey (cfg : LeafCfg) (hdot : cfg.useDot = false) (k : Key)
    (hk : keyOk k = true) (acc : Str) (p : List Seg) :
    renderSegs cfg acc (.key k.name :: if k.isArray then .idx k.position :: p else p)
      = renderSegs cfg (crumb acc (renderKey k)) p := by
  have hb := hasPrefix_bracket_of_not_mem _ ((keySafe_iff _).1 (keyOk_safe _ hk)).2.2.1
  unfold renderKey
  split
  · simp only [renderSegs, crumb, hb, hdot, listNode, Bool.not_false,
      Bool.and_true, Bool.and_false, Bool.false_eq_true, if_false]
    congr 1
    cases acc <;> simp
  · simp only [renderSegs, crumb, hb, Bool.not_false, Bool.and_true]
    congr 1
    cases acc <;> simp

/-- the domain of the resolution clause -/
structure Resolvable (v : Val) : Prop where
  safe : pathSafe v = true
  noLL : Denote.noListInList v = true
  wf : v.wf = true
  fit : listsFit v = true

/-- the list and entries clauses of `pathSafe` and `listsFit` are `List.all`, so what holds of a
    value holds of each member and entry -/
theorem pathSafeList_eq_all : ∀ xs : List Val, pathSafeList xs = xs.all pathSafe
  | [] => rfl
  | x :: xs => by rw [pathSafeList, pathSafeList_eq_all xs, List.all_cons]

theorem pathSafeEntries_eq_all : ∀ kvs : Entries,
    pathSafeEntries kvs = kvs.all fun e => keySafe e.1 && pathSafe e.2
  | [] => rfl
  | (k, v) :: rest => by rw [pathSafeEntries, pathSafeEntries_eq_all rest, List.all_cons]

theorem listsFitL_eq_all : ∀ xs : List Val, listsFitL xs = xs.all listsFit
  | [] => rfl
  | x :: xs => by rw [listsFitL, listsFitL_eq_all xs, List.all_cons]

theorem listsFitE_eq_all : ∀ kvs : Entries, listsFitE kvs = kvs.all fun e => listsFit e.2
  | [] => rfl
  | (k, v) :: rest => by rw [listsFitE, listsFitE_eq_all rest, List.all_cons]

theorem Resolvable.entry (kvs : Entries) (k : Str) (w : Val) (hg : Resolvable (.map kvs)) (h : (k, w) ∈ kvs) :
    keySafe k = true ∧ Resolvable w ∧ lookup k kvs = some w := by
  obtain ⟨h1, h2, h3, h4⟩ := hg
  rw [pathSafe, pathSafeEntries_eq_all] at h1
  rw [listsFit, listsFitE_eq_all] at h4
  obtain ⟨hk, hw⟩ := Bool.and_eq_true_iff.1 (List.all_eq_true.1 h1 _ h)
  exact ⟨hk, ⟨hw, hered_noLL.map h2 _ h, hered_wf.map h3 _ h, List.all_eq_true.1 h4 _ h⟩,
    lookup_eq_some_of_mem (Val.nodup_keys_of_wf h3) h⟩

theorem Resolvable.member (xs : List Val) (j : Nat) (y : Val) (hg : Resolvable (.list xs))
    (h : xs[j]? = some y) : Resolvable y ∧ y.isList = false ∧ j ≤ 2147483647 := by
  obtain ⟨h1, h2, h3, h4⟩ := hg
  rw [pathSafe, pathSafeList_eq_all] at h1
  simp only [listsFit, listsFitL_eq_all, Bool.and_eq_true, decide_eq_true_eq] at h4
  have hm := List.mem_of_getElem? h
  obtain ⟨hn, hl⟩ := noLL_mem xs y h2 hm
  have hj : j < xs.length := (List.getElem?_eq_some_iff.1 h).1
  exact ⟨⟨List.all_eq_true.1 h1 _ hm, hn, hered_wf.list h3 _ hm, List.all_eq_true.1 h4.2 _ hm⟩,
    hl, by omega⟩

theorem leafSegsEntries_flatMap : ∀ kvs : Entries,
    leafSegsEntries kvs = kvs.flatMap fun e => (leafSegs e.2).map fun pv => (Seg.key e.1 :: pv.1, pv.2)
  | [] => rfl
  | (k, v) :: rest => by rw [leafSegsEntries_cons, List.flatMap_cons, leafSegsEntries_flatMap rest]

theorem leafSegsList_flatMap : ∀ (xs : List Val) (n : Nat),
    leafSegsList n xs
      = (xs.zipIdx n).flatMap fun yj => (leafSegs yj.1).map fun pv => (Seg.idx yj.2 :: pv.1, pv.2)
  | [], _ => rfl
  | x :: xs, n => by
    rw [leafSegsList_cons, List.zipIdx_cons, List.flatMap_cons, leafSegsList_flatMap xs (n + 1)]

theorem run_key_step (k : Str) (hk : k ≠ ['*']) (kvs : Entries) (w : Val) (rest : List Denote.Step)
    (hl : lookup k kvs = some w) :
    Denote.run (Denote.keyStep ⟨k, false, 0⟩ :: rest) [.map kvs] = Denote.run rest [w] := by
  simp [Denote.keyStep, Denote.plainStep, hk, Denote.run, Denote.stepKey, Denote.selKey, hl]

theorem run_idx_step (k : Str) (i : Nat) (kvs : Entries) (xs : List Val) (y : Val)
    (rest : List Denote.Step) (hl : lookup k kvs = some (.list xs)) (hy : xs[i]? = some y) :
    Denote.run (Denote.keyStep ⟨k, true, i⟩ :: rest) [.map kvs] = Denote.run rest [y] := by
  simp [Denote.keyStep, Denote.run, Denote.expand, Denote.pick, Denote.selKey, hl, hy]

/-- along a leaf's segment path: the segments are the rendering of a list of admissible keys, an
    index together with the key in front of it, and the frontier semantics walks along those keys
    from the value to exactly that leaf.  Recursion is on a bound `n` for the length of `p`, not on
    `p`: an indexed key consumes two segments at once (`.key k :: .idx i :: _`). -/
theorem resolve_core (cfg : LeafCfg) (hdot : cfg.useDot = false) :
    ∀ (n : Nat) (p : List Seg) (v x : Val), p.length < n → Resolvable v →
    v.isList = false → (p, x) ∈ leafSegs v →
    ∃ ks : List Key, (∀ k ∈ ks, keyOk k = true)
      ∧ (∀ acc, renderSegs cfg acc p = (ks.map renderKey).foldl crumb acc)
      ∧ Denote.run (ks.map Denote.keyStep) [v] = [x] ∧ x.isList = false := by
  intro n
  induction n with
  | zero => intro p v x h; omega
  | succ n ih =>
    intro p v x hlen hg hv h
    cases v with
    | list xs => cases hv
    | null | bool _ | num _ | str _ =>
      cases List.mem_singleton.1 h; exact ⟨[], nofun, fun _ => rfl, rfl, rfl⟩
    | map kvs =>
      simp only [leafSegs, leafSegsEntries_flatMap, List.mem_flatMap, List.mem_map] at h
      obtain ⟨⟨k, w⟩, hm, ⟨p', _⟩, hx, e⟩ := h
      cases e
      obtain ⟨hk, hgw, hl⟩ := Resolvable.entry kvs k w hg hm
      have hstar := keySafe_ne_star k hk
      simp only [List.length_cons] at hlen
      by_cases hwl : w.isList = true
      · cases w with
        | list xs =>
          simp only [leafSegs, leafSegsList_flatMap, List.mem_flatMap, List.mem_map] at hx
          obtain ⟨⟨y, j⟩, hy, ⟨p'', _⟩, hx', e⟩ := hx
          cases e
          replace hy : xs[j]? = some y := List.mem_zipIdx_iff_getElem?.1 hy
          simp only [List.length_cons] at hlen
          obtain ⟨hgy, hyl, hj⟩ := Resolvable.member xs j y hgw hy
          obtain ⟨ks, ih1, ih2, ih3, ih4⟩ := ih p'' y _ (by omega) hgy hyl hx'
          have hkey : keyOk ⟨k, true, j⟩ = true := by simp [keyOk, hk, hj]
          refine ⟨⟨k, true, j⟩ :: ks, List.forall_mem_cons.2 ⟨hkey, ih1⟩,
            fun acc => (renderSegs_renderKey cfg hdot _ hkey acc p'').trans (ih2 _), ?_, ih4⟩
          rw [List.map_cons, run_idx_step k j kvs xs y _ hl hy]; exact ih3
        | _ => simp [Val.isList] at hwl
      · have hwl' : w.isList = false := by simpa using hwl
        obtain ⟨ks, ih1, ih2, ih3, ih4⟩ := ih p' w _ (by omega) hgw hwl' hx
        have hkey : keyOk ⟨k, false, 0⟩ = true := by simp [keyOk, hk]
        refine ⟨⟨k, false, 0⟩ :: ks, List.forall_mem_cons.2 ⟨hkey, ih1⟩,
          fun acc => (renderSegs_renderKey cfg hdot _ hkey acc p').trans (ih2 _), ?_, ih4⟩
        rw [List.map_cons, run_key_step k hstar kvs w _ hl]; exact ih3

/-- a leaf's path is the rendering of a list of admissible keys, and those keys denote exactly
    the leaf -/
theorem leaf_resolves (cfg : LeafCfg) (hdot : cfg.useDot = false) (kvs : Entries)
    (hg : Resolvable (.map kvs)) :
    ∀ pv ∈ leafSegs (.map kvs), ∃ ks : List Key, (∀ k ∈ ks, keyOk k = true)
      ∧ renderSegs cfg [] pv.1 = joinDot (ks.map renderKey)
      ∧ Denote.path (ks.map Denote.keyStep) (.map kvs) = [pv.2] := by
  intro pv hpv
  obtain ⟨ks, hk, hr, h2, h3⟩ :=
    resolve_core cfg hdot (pv.1.length + 1) pv.1 (.map kvs) pv.2 (by omega) hg rfl hpv
  refine ⟨ks, hk, ?_, ?_⟩
  · exact (hr []).trans
      (foldl_crumb _ [] fun s hs => ((nameOk_iff s).1 (renderKeys_nameOk _ hk s hs)).1)
  · unfold Denote.path
    simp only [h2]
    split
    · rfl
    · simp [expand_notList pv.2 h3]

end Mxj
