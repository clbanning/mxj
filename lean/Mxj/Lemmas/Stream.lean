/-
  Mxj.Lemmas.Stream — facts about the byte adaptors (`readByte`, `drain`, `teeReadByte`) and the
  `getJson` scanner of Mxj.Model.Stream.

  The scanner is proved against a generator of object texts (`Item`, `flat`) that is written
  without looking at it: `getJson_obj`.  Inside a document its state has one of two shapes
  (`inObj`: outside strings, `inStr`: inside one); `stepJ_inObj` and `stepJ_inStr` say what one
  byte does to each, and everything about the scanner inside a document is read off those two:
  the invariant `InDoc` (a scan that runs out of input inside a document ends in "no closing }",
  `getJson_cut_inDoc`) and the scan of the generated texts.
-/
import Mxj.Model.Stream
namespace Mxj.Stream
open Mxj

/-- the prefix of a schedule before its first (0, EOF) / (0, error) entry -/
def upToEnd : Sched → Sched
  | [] => []
  | .zeroEof :: _ => []
  | .fail :: _ => []
  | r :: rest => r :: upToEnd rest

/-- the error the first (0, EOF) / (0, error) entry carries; the exhausted reader says EOF -/
def endErr : Sched → RdErr
  | [] => .eof
  | .zeroEof :: _ => .eof
  | .fail :: _ => .other
  | _ :: rest => endErr rest

/-- no (0, error) entry -/
def NoFail (s : Sched) : Prop := ∀ r ∈ s, r ≠ Rd.fail

/-- `(0, io.EOF)` or `(0, error)` -/
def Rd.isEnd : Rd → Bool
  | .zeroEof => true
  | .fail => true
  | _ => false

/-- well formed: after a byte delivered together with io.EOF only (0,EOF)/(0,error) follow -/
def WF : Sched → Bool
  | [] => true
  | .byte _ true :: rest => rest.all Rd.isEnd
  | _ :: rest => WF rest

/-- no byte is delivered after a (0, EOF) or (0, error) read -/
def EndsOnce : Sched → Bool
  | [] => true
  | .zeroEof :: rest => (bytesOf rest).isEmpty
  | .fail :: rest => (bytesOf rest).isEmpty
  | _ :: rest => EndsOnce rest

/-- tame for the scanner: no (0, error) entry is reached and no byte follows a (0, EOF) entry
    (the scanner stops at the first (0, EOF); what follows it is never read) -/
def Tame : Sched → Bool
  | [] => true
  | .fail :: _ => false
  | .zeroEof :: rest => (bytesOf rest).isEmpty
  | _ :: rest => Tame rest

theorem bytesOf_append (a b : Sched) : bytesOf (a ++ b) = bytesOf a ++ bytesOf b := by
  induction a with
  | nil => rfl
  | cons r a ih => cases r <;> simp [bytesOf, ih]

theorem bytesOf_plain (s : Str) : bytesOf (plain s) = s := by
  induction s with
  | nil => rfl
  | cons c s ih => simp only [plain, List.map_cons, bytesOf]; exact congrArg _ ih

theorem plain_nil : plain [] = [] := rfl
theorem plain_cons (c : Char) (s : Str) : plain (c :: s) = .byte c false :: plain s := rfl
theorem plain_append (a b : Str) : plain (a ++ b) = plain a ++ plain b := by
  simp [plain]

theorem tame_of_noFail (s : Sched) (h1 : NoFail s)
    (h2 : ∀ a b, s = a ++ Rd.zeroEof :: b → bytesOf b = []) : Tame s = true := by
  fun_induction Tame s with
  | case1 => rfl
  | case2 => exact absurd rfl (h1 _ (List.mem_cons_self ..))
  | case3 rest => simpa using h2 [] rest rfl
  | case4 r rest _ _ ih =>
    exact ih (fun x hx => h1 x (List.mem_cons_of_mem _ hx)) fun a b e => h2 (r :: a) b (by rw [e]; rfl)

/-- one `ReadByte` that delivers: the byte is the first data byte before the end of the schedule;
    what is left is shorter and ends the same way -/
theorem readByte_ok {s rest : Sched} {b : Char} (h : readByte s = (.ok b, rest)) :
    bytesOf (upToEnd s) = b :: bytesOf (upToEnd rest) ∧ endErr s = endErr rest
      ∧ rest.length < s.length := by
  fun_induction readByte s with
  | case1 | case4 | case5 => cases h
  | case2 => cases h; exact ⟨rfl, rfl, Nat.lt_succ_self _⟩
  | case3 _ ih => exact ⟨(ih h).1, (ih h).2.1, Nat.lt_succ_of_lt (ih h).2.2⟩

/-- one `ReadByte` that fails: no data byte before the end, and the error is the end's -/
theorem readByte_error {s rest : Sched} {e : RdErr} (h : readByte s = (.error e, rest)) :
    bytesOf (upToEnd s) = [] ∧ endErr s = e := by
  fun_induction readByte s with
  | case1 | case4 | case5 => cases h; exact ⟨rfl, rfl⟩
  | case2 => cases h
  | case3 _ ih => exact ih h

theorem drain_eq (s : Sched) (n : Nat) (hn : s.length < n) :
    drain n s = (bytesOf (upToEnd s), endErr s) := by
  fun_induction drain n s with
  | case1 => omega
  | case2 f s b rest hr bs e hd ih =>
    obtain ⟨h1, h2, h3⟩ := readByte_ok hr
    simpa [h1, h2] using hd.symm.trans (ih (by omega))
  | case3 f s e rest hr => simp [readByte_error hr]

theorem endErr_noFail (s : Sched) (h : NoFail s) : endErr s = .eof := by
  fun_induction endErr s with
  | case1 | case2 => rfl
  | case3 => exact absurd rfl (h _ (List.mem_cons_self ..))
  | case4 _ _ _ _ ih => exact ih fun x hx => h x (List.mem_cons_of_mem _ hx)

theorem upToEnd_append_noEnd (a b : Sched) (h : ∀ r ∈ a, r.isEnd = false) :
    upToEnd (a ++ b) = a ++ upToEnd b := by
  fun_induction upToEnd a with
  | case1 => rfl
  | case2 | case3 => cases h _ (List.mem_cons_self ..)
  | case4 r rest _ _ ih => simp [upToEnd, *, ih fun x hx => h x (List.mem_cons_of_mem _ hx)]

theorem upToEnd_noEnd (s : Sched) (h : ∀ r ∈ s, r.isEnd = false) : upToEnd s = s := by
  have := upToEnd_append_noEnd s [] h
  rwa [List.append_nil, upToEnd, List.append_nil] at this

theorem upToEnd_allEnd (s : Sched) (h : s.all Rd.isEnd = true) : upToEnd s = [] := by
  cases s with
  | nil => rfl
  | cons r s =>
    cases r with
    | byte c e => simp [Rd.isEnd] at h
    | zero => simp [Rd.isEnd] at h
    | zeroEof => rfl
    | fail => rfl

theorem bytesOf_upToEnd_nil (s : Sched) (h : bytesOf s = []) : bytesOf (upToEnd s) = [] := by
  induction s with
  | nil => rfl
  | cons r s ih =>
    cases r with
    | byte c e => simp [bytesOf] at h
    | zero => simp only [bytesOf] at h; simpa [upToEnd, bytesOf] using ih h
    | zeroEof => rfl
    | fail => rfl

theorem bytesOf_upToEnd (s : Sched) (h : EndsOnce s = true) : bytesOf (upToEnd s) = bytesOf s := by
  fun_induction EndsOnce s with
  | case1 => rfl
  | case2 rest | case3 rest => simpa [upToEnd, bytesOf] using h.symm
  | case4 r rest h1 h2 ih =>
    -- a byte or a zero-length read: `upToEnd` keeps it and goes on
    rw [upToEnd.eq_4 _ _ h1 h2]
    cases r <;> simp [bytesOf, ih h]

theorem wf_after_eof_byte (a : Sched) (b : Char) (r : Sched)
    (h : WF (a ++ .byte b true :: r) = true) : r.all Rd.isEnd = true := by
  fun_induction WF a with
  | case1 => simpa [WF] using h
  | case2 _ rest => simp [WF, Rd.isEnd] at h  -- a byte with io.EOF inside `a`: `b` follows it
  | case3 x rest hx ih => exact ih (by rwa [List.cons_append, WF.eq_3 _ _ hx] at h)

/-- what one delivered byte does to the scanner: stop with a result, or go on in a new state
    (the body of the loop of `getJson`, verbatim) -/
def stepJ (c : Char) (st : JState) : JRes ⊕ JState :=
  let wasEscaped := st.escaped
  let escaped := st.inQuote && !wasEscaped && c = '\\'
  if c = '{' then
    let st' := if !st.inQuote then { st with paren := st.paren + 1, inJson := true } else st
    .inr { st' with jb := (if st'.inJson then c :: st'.jb else st'.jb), escaped := escaped }
  else if c = '}' then
    if !st.inQuote && st.paren = 0 then .inl (.stray st.jb.reverse)
    else
      let p := if !st.inQuote then st.paren - 1 else st.paren
      let jb := if st.inJson then c :: st.jb else st.jb
      if st.inJson && p = 0 then .inl (.doc jb.reverse)
      else .inr { st with paren := p, jb := jb, escaped := escaped }
  else if c = '"' then
    let inQ := if st.inQuote then (if wasEscaped then true else false) else true
    .inr { st with inQuote := inQ, jb := (if st.inJson then c :: st.jb else st.jb), escaped := escaped }
  else if isJsonWs c && !st.inQuote then
    .inr { st with escaped := escaped }
  else
    .inr { st with jb := (if st.inJson then c :: st.jb else st.jb), escaped := escaped }

/-- the result at end of input / at a (0, EOF) read -/
def endRes (st : JState) : JRes :=
  if st.inJson && st.paren > 0 then .noClose st.jb.reverse else .eof st.jb.reverse

theorem getJson_byte (c : Char) (e : Bool) (rest : Sched) (st : JState) :
    getJson (.byte c e :: rest) st =
      match stepJ c st with
      | .inl r => (r, rest)
      | .inr st' => getJson rest st' := by
  -- `stepJ` is the loop body with the continuation left open: move the `match` into its branches
  rw [getJson, stepJ]
  simp only [apply_ite (fun (x : JRes ⊕ JState) => match x with
      | .inl r => (r, rest)
      | .inr st' => getJson rest st')]

theorem getJson_nil (st : JState) : getJson [] st = (endRes st, []) := by
  simp [getJson, endRes]
theorem getJson_zero (rest : Sched) (st : JState) : getJson (.zero :: rest) st = getJson rest st := by
  simp [getJson]
theorem getJson_zeroEof (rest : Sched) (st : JState) :
    getJson (.zeroEof :: rest) st = (endRes st, rest) := by
  simp [getJson, endRes]
theorem getJson_fail (rest : Sched) (st : JState) :
    getJson (.fail :: rest) st = (.ioerr st.jb.reverse, rest) := by
  simp [getJson]

/-- every call consumes a read: what is left unread is a suffix of the schedule behind its first
    entry -/
theorem getJson_suffix_tail (s : Sched) : ∀ st, (getJson s st).2 <:+ s.tail := by
  induction s with
  | nil => intro st; simp [getJson_nil]
  | cons r s ih =>
    intro st
    cases r with
    | byte c e =>
      rw [getJson_byte]
      cases stepJ c st with
      | inl r => exact List.suffix_refl _
      | inr st' => exact (ih st').trans (List.tail_suffix _)
    | zero => rw [getJson_zero]; exact (ih st).trans (List.tail_suffix _)
    | zeroEof => rw [getJson_zeroEof]; exact List.suffix_refl _
    | fail => rw [getJson_fail]; exact List.suffix_refl _

theorem getJson_suffix (s : Sched) (st : JState) : (getJson s st).2 <:+ s :=
  (getJson_suffix_tail s st).trans (List.tail_suffix s)

/-- one scanner call on a tame schedule against the call on its bytes delivered plainly: the same
    result, unread parts that carry the same bytes, and behind a document a tame schedule again
    (so the statement can be applied to the next call) -/
theorem getJson_tame (s : Sched) : ∀ st, Tame s = true →
    getJson (plain (bytesOf s)) st = ((getJson s st).1, plain (bytesOf (getJson s st).2)) ∧
      ∀ raw, (getJson s st).1 = .doc raw → Tame (getJson s st).2 = true := by
  induction s with
  | nil => intro st _; exact ⟨by simp [bytesOf, plain_nil, getJson_nil], fun _ _ => rfl⟩
  | cons r s ih =>
    intro st ht
    cases r with
    | byte c e =>
      have ht' : Tame s = true := by simpa [Tame] using ht
      simp only [bytesOf, plain_cons, getJson_byte]
      cases stepJ c st with
      | inl r => exact ⟨rfl, fun _ _ => ht'⟩
      | inr st' => exact ih st' ht'
    | zero => simp only [bytesOf, getJson_zero]; exact ih st (by simpa [Tame] using ht)
    | zeroEof =>
      have hb : bytesOf s = [] := by simpa [Tame] using ht
      refine ⟨by simp [bytesOf, hb, plain_nil, getJson_nil, getJson_zeroEof], ?_⟩
      rw [getJson_zeroEof]; unfold endRes; split <;> simp
    | fail => simp [Tame] at ht

/-- a character that may stand outside strings: not a brace, not a quote, not white space -/
def isPlainCh (c : Char) : Bool := c != '{' && c != '}' && c != '"' && !isJsonWs c

/-- one character of a string body: an ordinary character (anything except the quote and the
    backslash — braces and white space included), or a backslash escape of ANY character -/
inductive StrCh where
  | plain (c : Char) (h : c ≠ '"' ∧ c ≠ '\\')
  | esc (c : Char)

/-- the pieces of an object text between its braces -/
inductive Item where
  | ch (c : Char) (h : isPlainCh c = true)
  | ws (c : Char) (h : isJsonWs c = true)
  | str (body : List StrCh)
  | obj (items : List Item)

def StrCh.flat : StrCh → Str
  | .plain c _ => [c]
  | .esc c => ['\\', c]

def flatBody : List StrCh → Str
  | [] => []
  | x :: xs => x.flat ++ flatBody xs

mutual
def flat : Item → Str
  | .ch c _ => [c]
  | .ws c _ => [c]
  | .str b => '"' :: flatBody b ++ ['"']
  | .obj items => '{' :: flatList items ++ ['}']
def flatList : List Item → Str
  | [] => []
  | i :: is => flat i ++ flatList is
end

mutual
/-- the text of an item with the white space outside strings dropped -/
def flatNoWs : Item → Str
  | .ch c _ => [c]
  | .ws _ _ => []
  | .str b => '"' :: flatBody b ++ ['"']
  | .obj items => '{' :: flatNoWsList items ++ ['}']
def flatNoWsList : List Item → Str
  | [] => []
  | i :: is => flatNoWs i ++ flatNoWsList is
end

/-- scanner state inside an object at nesting depth `p + 1`, outside strings -/
def inObj (jb : Str) (p : Nat) : JState := ⟨jb, false, true, p + 1, false⟩
/-- inside a string of an object at nesting depth `p + 1` -/
def inStr (jb : Str) (p : Nat) (esc : Bool) : JState := ⟨jb, true, true, p + 1, esc⟩

/-- inside a string every byte is collected and the depth stays; an unescaped quote closes the
    string, an unescaped backslash escapes the next byte -/
theorem stepJ_inStr (c : Char) (jb : Str) (p : Nat) (esc : Bool) :
    stepJ c (inStr jb p esc)
      = .inr (if !esc && c = '"' then inObj (c :: jb) p else inStr (c :: jb) p (!esc && c = '\\')) := by
  -- the loop body with the tests on the state decided; what is left asks whether `c` is a quote
  cases esc <;> simp [stepJ, inStr, inObj]
  by_cases h : c = '"' <;> simp [h]

/-- inside an object, outside strings: braces move the depth (the brace that closes the outermost
    object ends the scan), a quote opens a string, white space is dropped, every other byte is
    collected -/
theorem stepJ_inObj (c : Char) (jb : Str) (p : Nat) :
    stepJ c (inObj jb p)
      = if c = '{' then .inr (inObj (c :: jb) (p + 1))
        else if c = '}' then
          match p with
          | 0 => .inl (.doc (c :: jb).reverse)
          | p + 1 => .inr (inObj (c :: jb) p)
        else if c = '"' then .inr (inStr (c :: jb) p false)
        else if isJsonWs c then .inr (inObj jb p)
        else .inr (inObj (c :: jb) p) := by
  -- the loop body with the tests on the state decided; the closing brace looks at the depth
  cases p <;> simp [stepJ, inStr, inObj]

theorem isPlainCh_iff (c : Char) :
    isPlainCh c = true ↔ c ≠ '{' ∧ c ≠ '}' ∧ c ≠ '"' ∧ isJsonWs c = false := by
  simp [isPlainCh, and_assoc]

theorem stepJ_first_open : stepJ '{' {} = .inr (inObj ['{'] 0) := by
  simp [stepJ, inObj]

theorem stepJ_lead (c : Char) (h : c ≠ '{' ∧ c ≠ '}' ∧ c ≠ '"') : stepJ c {} = .inr {} := by
  obtain ⟨h1, h2, h3⟩ := h
  simp [stepJ, h1, h2, h3]

theorem getJson_plain_cons (c : Char) (x : Str) (st : JState) :
    getJson (plain (c :: x)) st =
      match stepJ c st with
      | .inl r => (r, plain x)
      | .inr st' => getJson (plain x) st' := by
  rw [plain_cons, getJson_byte]

theorem scan_body (body : List StrCh) : ∀ (jb : Str) (p : Nat) (k : Str),
    getJson (plain (flatBody body ++ '"' :: k)) (inStr jb p false)
      = getJson (plain k) (inObj ('"' :: ((flatBody body).reverse ++ jb)) p) := by
  induction body with
  | nil => intro jb p k; simp [flatBody, getJson_plain_cons, stepJ_inStr]
  | cons x xs ih =>
    intro jb p k
    cases x with
    | plain c h => simp [flatBody, StrCh.flat, getJson_plain_cons, stepJ_inStr, h.1, h.2, ih]
    | esc c => simp [flatBody, StrCh.flat, getJson_plain_cons, stepJ_inStr, ih]

mutual
/-- one item inside an object: the scanner appends its text minus outer white space and stays
    at the same depth, outside strings -/
theorem scan_item : ∀ (i : Item) (jb : Str) (p : Nat) (k : Str),
    getJson (plain (flat i ++ k)) (inObj jb p)
      = getJson (plain k) (inObj ((flatNoWs i).reverse ++ jb) p)
  | .ch c h, jb, p, k => by
      simp [flat, flatNoWs, getJson_plain_cons, stepJ_inObj, (isPlainCh_iff c).1 h]
  | .ws c h, jb, p, k => by
      have : c ≠ '{' ∧ c ≠ '}' ∧ c ≠ '"' := by
        refine ⟨?_, ?_, ?_⟩ <;> (rintro rfl; simp [isJsonWs] at h)
      simp [flat, flatNoWs, getJson_plain_cons, stepJ_inObj, this, h]
  | .str b, jb, p, k => by
      simp [flat, flatNoWs, getJson_plain_cons, stepJ_inObj, scan_body]
  | .obj items, jb, p, k => by
      simp [flat, flatNoWs, getJson_plain_cons, stepJ_inObj, scan_items items]
theorem scan_items : ∀ (is : List Item) (jb : Str) (p : Nat) (k : Str),
    getJson (plain (flatList is ++ k)) (inObj jb p)
      = getJson (plain k) (inObj ((flatNoWsList is).reverse ++ jb) p)
  | [], jb, p, k => by simp [flatList, flatNoWsList]
  | i :: is, jb, p, k => by
      simp only [flatList, flatNoWsList, List.append_assoc, scan_item i, scan_items is]
      simp
end

theorem scan_lead (lead : Str) (h : ∀ c ∈ lead, c ≠ '{' ∧ c ≠ '}' ∧ c ≠ '"') (k : Str) :
    getJson (plain (lead ++ k)) {} = getJson (plain k) {} := by
  induction lead with
  | nil => rfl
  | cons c l ih =>
    rw [List.cons_append, getJson_plain_cons, stepJ_lead c (h c (List.mem_cons_self ..))]
    exact ih (fun x hx => h x (List.mem_cons_of_mem _ hx))

theorem getJson_obj (lead : Str) (hlead : ∀ c ∈ lead, c ≠ '{' ∧ c ≠ '}' ∧ c ≠ '"')
    (items : List Item) (rest : Str) :
    getJson (plain (lead ++ flat (.obj items) ++ rest)) {}
      = (.doc (flatNoWs (.obj items)), plain rest) := by
  rw [List.append_assoc, scan_lead lead hlead]
  simp [flat, flatNoWs, getJson_plain_cons, stepJ_first_open, scan_items items, stepJ_inObj]

theorem getJson_trail (trail : Str) (h : ∀ c ∈ trail, c ≠ '{' ∧ c ≠ '}' ∧ c ≠ '"') :
    getJson (plain trail) {} = (.eof [], []) := by
  have := scan_lead trail h []
  rw [List.append_nil] at this
  rw [this]; simp [plain_nil, getJson_nil, endRes]

/-- inside a document: the state has one of the two shapes `inObj`, `inStr` (an opening brace
    was seen and not all braces are closed) -/
inductive InDoc : JState → Prop
  | obj (jb : Str) (p : Nat) : InDoc (inObj jb p)
  | str (jb : Str) (p : Nat) (esc : Bool) : InDoc (inStr jb p esc)

/-- a step that does not end the scan stays inside the document: every branch of the two step
    equations that goes on does so in a state of one of the two shapes -/
theorem stepJ_inDoc (c : Char) (st : JState) (h : InDoc st) :
    Sum.elim (fun _ => True) InDoc (stepJ c st) := by
  cases h with
  | obj jb p =>
    cases p <;> simp only [stepJ_inObj, apply_ite (Sum.elim (fun _ => True) InDoc), Sum.elim_inl,
      Sum.elim_inr, InDoc.obj, InDoc.str, ite_self]
  | str jb p esc =>
    simp only [stepJ_inStr, Sum.elim_inr, apply_ite InDoc, InDoc.obj, InDoc.str, ite_self]

/-- input that runs out while the scanner is inside an object: "no closing }".  The hypothesis
    says that with `b ≠ []` appended the scan does not stop before the end of `a ++ b`. -/
theorem getJson_cut_inDoc (a : Str) : ∀ (st : JState) (b : Str), b ≠ [] → InDoc st →
    (getJson (plain (a ++ b)) st).2 = [] →
    ∃ raw, getJson (plain a) st = (.noClose raw, []) := by
  induction a with
  | nil =>
    -- the end of input in either of the two shapes: the scanner's answer is "no closing }"
    intro st b _ hg _
    cases hg <;> exact ⟨_, rfl⟩
  | cons c a ih =>
    intro st b hb hg
    have hg' := stepJ_inDoc c st hg
    revert hg'
    rw [List.cons_append, getJson_plain_cons, getJson_plain_cons]
    cases stepJ c st with
    | inl r =>
      -- the scan stops at `c`: what it leaves unread, `plain (a ++ b)`, is not `[]`
      simp [plain, hb]
    | inr st' => exact ih st' b hb

theorem getJson_doc_append (a : Str) : ∀ (st : JState) (raw : Str) (r s : Sched),
    getJson (plain a) st = (.doc raw, r) → getJson (plain a ++ s) st = (.doc raw, r ++ s) := by
  induction a with
  | nil =>
    intro st raw r s h
    rw [plain_nil, getJson_nil] at h
    unfold endRes at h
    split at h <;> cases h
  | cons c a ih =>
    intro st raw r s
    rw [plain_cons, List.cons_append, getJson_byte, getJson_byte]
    cases stepJ c st with
    | inl x => rintro ⟨⟩; rfl
    | inr st' => exact ih st' raw r s

/-- call `getJson` from the initial state until it returns something else than a document;
    result: the documents in order and the final non-document result -/
def readAll : Nat → Sched → List Str × Option JRes
  | 0, _ => ([], none)
  | f + 1, s =>
    match getJson s {} with
    | (.doc raw, rest) => let (ds, e) := readAll f rest; (raw :: ds, e)
    | (r, _) => ([], some r)

/-- the text of a stream of documents: each an object preceded by skippable characters -/
def docsText : List (Str × List Item) → Str
  | [] => []
  | d :: ds => d.1 ++ flat (.obj d.2) ++ docsText ds

theorem readAll_docs (docs : List (Str × List Item))
    (hlead : ∀ d ∈ docs, ∀ c ∈ d.1, c ≠ '{' ∧ c ≠ '}' ∧ c ≠ '"')
    (trail : Str) (htrail : ∀ c ∈ trail, c ≠ '{' ∧ c ≠ '}' ∧ c ≠ '"') :
    ∀ n, docs.length < n →
      readAll n (plain (docsText docs ++ trail))
        = (docs.map (fun d => flatNoWs (.obj d.2)), some (.eof [])) := by
  induction docs with
  | nil =>
    intro n hn
    cases n with
    | zero => simp at hn
    | succ f => simp [docsText, readAll, getJson_trail trail htrail]
  | cons d ds ih =>
    intro n hn
    cases n with
    | zero => simp at hn
    | succ f =>
      have hf : ds.length < f := by simp at hn; omega
      have h1 := getJson_obj d.1 (hlead d (List.mem_cons_self ..)) d.2 (docsText ds ++ trail)
      simp only [docsText, List.append_assoc] at h1 ⊢
      simp only [readAll, h1, ih (fun x hx => hlead x (List.mem_cons_of_mem _ hx)) f hf,
        List.map_cons]

theorem readAll_sched_free (n : Nat) (s : Sched) (hs : Tame s = true) :
    readAll n s = readAll n (plain (bytesOf s)) := by
  fun_induction readAll n s
  · rfl
  all_goals
    -- the scanner's answer on the plain schedule, and the rest tame again behind a document
    obtain ⟨h1, h2⟩ := getJson_tame _ {} hs
    simp only [*] at h1 h2
  · rename_i hr ih
    simp [readAll, h1, ← ih (h2 _ rfl), hr]
  · simp [readAll, *]

end Mxj.Stream
