/-
  Mxj.Lemmas.CastSeq — casting in the sequence decoder (C14ExtSeq).  The decoder is parametric
  in the leaf cast: on the same tokens, two cast configurations / `Strconv`s whose leaf casts are
  `L`-related give the same control flow, the same unread tokens and `LRel L`-related values; the
  statements about "all leaves" (`AllLeaves`) are read off the left side of such a relation.  A run
  of adjacent CharData tokens acts like the one token holding their concatenation.
-/
import Mxj.Lemmas.Cast
import Mxj.Lemmas.Total
import Mxj.Lemmas.Seq
import Mxj.Lemmas.SeqIndent
namespace Mxj
namespace CastSeq

/-! ### numbering a child keeps the relation -/

section Rel
variable {L : Val → Val → Prop} (hS : ScalarRight L)
include hS

theorem LRel_seqChild (c : SeqCfg) (seq : Nat) {v w : Val} (hn : LRel L (seqNum seq) (seqNum seq))
    (h : LRel L v w) : LRel L (seqChild c seq v) (seqChild c seq w) := by
  have leaf : LRel L (.map [(c.textK, v), (c.seqK, seqNum seq)]) (.map [(c.textK, w), (c.seqK, seqNum seq)]) :=
    LRel_map_cons h (LRel_map_cons hn LRel_map_nil)
  have hm := (LRel_shape hS h).2
  cases v with
  | map a =>
    obtain ⟨b, rfl, hab⟩ := h
    exact LRel_map.2 (LRelEntries_insert _ hn hab)
  | null | bool _ | num _ | str _ | list _ =>
    cases w with
    | map _ => cases hm
    | null | bool _ | num _ | str _ | list _ => exact leaf

end Rel

/-! ### parametricity of the sequence decoder in the leaf cast -/

def withCast (c : SeqCfg) (cc : CastCfg) : SeqCfg := { c with cast := cc }

theorem withCast_self (c : SeqCfg) : withCast c c.cast = c := rfl

/-- what the two runs must have in common: `L` relates leaves to leaves, the two leaf casts of
    every text, every string with itself, every sequence number with itself -/
structure LeafHyp (L : Val → Val → Prop) (S1 S2 : Strconv) (cc1 cc2 : CastCfg) : Prop where
  scalar : ScalarRight L
  hcast : ∀ s, L (cast S1 cc1 s []) (cast S2 cc2 s [])
  str : ∀ s, L (.str s) (.str s)
  seq : ∀ n, L (seqNum n) (seqNum n)

section Param
variable {L : Val → Val → Prop} {S1 S2 : Strconv} {cc1 cc2 : CastCfg}
variable (H : LeafHyp L S1 S2 cc1 cc2) (c : SeqCfg)
include H

theorem LRel_cast (s : Str) : LRel L (cast S1 cc1 s []) (cast S2 cc2 s []) :=
  (LRel_scalar (Dec.cast_scalar ..)).2 (H.hcast s)

theorem LRel_str (s : Str) : LRel L (.str s) (.str s) := H.str s

theorem LRel_seqNum (n : Nat) : LRel L (seqNum n) (seqNum n) := H.seq n

theorem LRel_metaText (k s : Str) (n : Nat) :
    LRel L (.map [(k, .str s), (c.seqK, seqNum n)]) (.map [(k, .str s), (c.seqK, seqNum n)]) :=
  LRel_map_cons (LRel_str H s) (LRel_map_cons (LRel_seqNum H n) LRel_map_nil)

theorem LRel_seqAttrs : ∀ (attrs : List Attr) (i : Nat) (a b : Entries), LRelEntries L a b →
    LRelEntries L (seqAttrs (withCast c cc1) S1 i attrs a) (seqAttrs (withCast c cc2) S2 i attrs b)
  | [], _, _, _, h => h
  | _ :: rest, i, _, _, h =>
      LRel_seqAttrs rest (i + 1) _ _ (LRelEntries_insert _ (LRel_map_cons (LRel_cast H _)
        (LRel_map_cons (LRel_seqNum H i) LRel_map_nil)) h)

theorem LRel_seqInitNa (attrs : List Attr) :
    LRelEntries L (seqInitNa (withCast c cc1) S1 attrs) (seqInitNa (withCast c cc2) S2 attrs) := by
  unfold seqInitNa
  split
  · exact LRelEntries_nil
  · exact LRelEntries_cons.2 ⟨rfl,
      LRel_map.2 (LRel_seqAttrs H c attrs 0 [] [] LRelEntries_nil), LRelEntries_nil⟩

/-- the CharData step: related entries, same sequence counter and pending run -/
theorem LRel_onText {na nb : Entries} {seq : Nat} {pend : Option (Str × Bool)} {s : Str}
    (hE : LRelEntries L na nb) :
    LRelEntries L (SeqFold.onText (withCast c cc1) S1 na seq pend s).1
        (SeqFold.onText (withCast c cc2) S2 nb seq pend s).1 ∧
      (SeqFold.onText (withCast c cc2) S2 nb seq pend s).2
        = (SeqFold.onText (withCast c cc1) S1 na seq pend s).2 := by
  have ht := fun s => LRelEntries_insert c.textK (LRel_cast H s) hE
  -- the two runs differ in the cast only: their tests are the same up to unfolding `withCast`, so
  -- what selects the branch of the first run selects that of the second
  fun_cases SeqFold.onText (withCast c cc1) S1 na seq pend s with
  | case1 _ _ _ h =>
    rw [show SeqFold.onText (withCast c cc2) S2 nb seq pend s = _ from if_pos h]
    exact ⟨hE, rfl⟩
  | case2 _ _ _ h1 h2 =>
    rw [show SeqFold.onText (withCast c cc2) S2 nb seq pend s = _ from (if_neg h1).trans (if_pos h2)]
    exact ⟨ht _, rfl⟩
  | case3 _ _ _ h1 h2 =>
    rw [show SeqFold.onText (withCast c cc2) S2 nb seq pend s = _ from (if_neg h1).trans (if_neg h2)]
    exact ⟨LRelEntries_insert _ (LRel_seqNum H _) (ht _), rfl⟩

/-- outcomes of the element loop: identical control flow, related values, same unread tokens -/
def LRelOut (L : Val → Val → Prop) :
    Outcome (Val × List Tok) → Outcome (Val × List Tok) → Prop
  | .ok (v, r), .ok (w, r') => LRel L v w ∧ r = r'
  | .eof, .eof => True
  | .syntax, .syntax => True
  | .err a, .err b => a = b
  | .panic a, .panic b => a = b
  | _, _ => False

omit H in
theorem LRelOut_iff (x y : Outcome (Val × List Tok)) :
    LRelOut L x y ↔ Outcome.Rel (fun p q => LRel L p.1 q.1 ∧ p.2 = q.2) x y := by
  rcases x with ⟨v, r⟩ | _ | _ | _ | _ <;> rcases y with ⟨w, r'⟩ | _ | _ | _ | _ <;> exact Iff.rfl

theorem LRel_seqElem (fin : StreamEnd) :
    ∀ (f : Nat) {skey : Str} {na nb : Entries} {seq : Nat} {pend : Option (Str × Bool)}
      {toks : List Tok}, LRelEntries L na nb →
      Outcome.Rel (fun p q => LRel L p.1 q.1 ∧ p.2 = q.2)
        (seqElem (withCast c cc1) S1 fin f skey na seq pend toks)
        (seqElem (withCast c cc2) S2 fin f skey nb seq pend toks) := by
  intro f
  induction f with
  | zero => intro _ _ _ _ _ _ _; exact rfl
  | succ f ih =>
    intro skey na nb seq pend toks hE
    cases toks with
    | nil => rw [SeqL.seqElem_nil, SeqL.seqElem_nil]; exact Outcome.Rel.finErr _ fin
    | cons tok toks =>
      cases tok with
      | start sp name attrs =>
        rw [SeqL.seqElem_start, SeqL.seqElem_start]
        refine (ih (LRel_seqInitNa H c attrs)).bind ?_
        intro p q _ _ hpq
        rw [← hpq.2]
        exact ih (LRelEntries_addChild H.scalar _ hE
          (LRel_seqChild H.scalar c seq (LRel_seqNum H seq) hpq.1))
      | stop sp name =>
        simp only [seqElem]
        rw [show qualName (withCast c cc1) sp name = qualName (withCast c cc2) sp name from rfl,
          LRelEntries_isEmpty hE]
        split
        · exact rfl
        · refine ⟨?_, rfl⟩
          split
          · exact LRel_str H []
          · exact LRel_map.2 hE
      | text s =>
        rw [SeqL.seqElem_text, SeqL.seqElem_text, (LRel_onText H c hE).2]
        exact ih (LRel_onText H c hE).1
      | comment s | directive s =>
        exact ih (LRelEntries_insert _ (LRel_metaText H c c.textK s seq) hE)
      | procinst t i =>
        exact ih (LRelEntries_insert _ (LRel_map_cons (LRel_str H t)
          (LRel_metaText H c c.instK i seq)) hE)

/-- the no-root results: the text of a comment or directive, or the target and instruction of a
    processing instruction, as strings under the configured keys -/
def NoRootVal (c : SeqCfg) (m : Val) : Prop :=
  (∃ s, m = .map [(c.commentK, .str s)]) ∨ (∃ s, m = .map [(c.directiveK, .str s)]) ∨
    (∃ t i, m = .map [(c.procinstK, .map [(c.targetK, .str t), (c.instK, .str i)])])

/-- results of the first call: same kind; a document's values are related, a no-root result
    (which holds no cast value) is identical and of one of the three shapes -/
def LRelTopRes (c : SeqCfg) (L : Val → Val → Prop) : SeqTop → SeqTop → Prop
  | .doc v, .doc w => LRel L v w
  | .noRoot v, .noRoot w => LRel L v w ∧ w = v ∧ NoRootVal c v
  | _, _ => False

def LRelTop (c : SeqCfg) (L : Val → Val → Prop) : Outcome SeqTop → Outcome SeqTop → Prop :=
  Outcome.Rel (LRelTopRes c L)

theorem LRel_seqTop (fin : StreamEnd) : ∀ (f : Nat) (toks : List Tok),
    LRelTop c L (seqTop (withCast c cc1) S1 fin f toks) (seqTop (withCast c cc2) S2 fin f toks) := by
  intro f
  induction f with
  | zero => intro toks; exact rfl
  | succ f ih =>
    intro toks
    cases toks with
    | nil => rw [SeqL.seqTop_nil, SeqL.seqTop_nil]; exact Outcome.Rel.finErr _ fin
    | cons tok toks =>
      cases tok with
      | start sp name attrs =>
        rw [SeqL.seqTop_start, SeqL.seqTop_start]
        refine (LRel_seqElem H c fin f (LRel_seqInitNa H c attrs)).bind ?_
        exact fun p q _ _ hpq => LRel_map_cons hpq.1 LRel_map_nil
      | stop sp name => exact rfl
      | text s => exact ih _
      | comment s =>
        exact ⟨LRel_map_cons (LRel_str H s) LRel_map_nil, rfl, .inl ⟨s, rfl⟩⟩
      | directive s =>
        exact ⟨LRel_map_cons (LRel_str H s) LRel_map_nil, rfl, .inr (.inl ⟨s, rfl⟩)⟩
      | procinst t i =>
        exact ⟨LRel_map_cons (LRel_map_cons (LRel_str H t)
          (LRel_map_cons (LRel_str H i) LRel_map_nil)) LRel_map_nil, rfl,
          .inr (.inr ⟨t, i, rfl⟩)⟩

theorem LRel_newMapXmlSeq (fin : StreamEnd) (toks : List Tok) :
    LRelTop c L (newMapXmlSeq (withCast c cc1) S1 toks fin) (newMapXmlSeq (withCast c cc2) S2 toks fin) :=
  LRel_seqTop H c fin _ toks

end Param

/-! ### "every leaf satisfies `P`", read off the left side of `LRel` -/

mutual
/-- every leaf (null, boolean, number, string) of the value satisfies `P` -/
def AllLeaves (P : Val → Prop) : Val → Prop
  | .list xs => AllLeavesList P xs
  | .map kvs => AllLeavesEntries P kvs
  | .null => P .null
  | .bool b => P (.bool b)
  | .num x => P (.num x)
  | .str s => P (.str s)
def AllLeavesList (P : Val → Prop) : List Val → Prop
  | [] => True
  | x :: xs => AllLeaves P x ∧ AllLeavesList P xs
def AllLeavesEntries (P : Val → Prop) : Entries → Prop
  | [] => True
  | (_, v) :: rest => AllLeaves P v ∧ AllLeavesEntries P rest
end

mutual
theorem AllLeaves_of_LRel_left {L : Val → Val → Prop} {P : Val → Prop} (hL : ∀ v w, L v w → P v) :
    ∀ (v w : Val), LRel L v w → AllLeaves P v
  | .list xs, w, h => by
      obtain ⟨ys, rfl, h⟩ := h
      exact AllLeavesList_of_LRel_left hL xs ys h
  | .map a, w, h => by
      obtain ⟨b, rfl, h⟩ := h
      exact AllLeavesEntries_of_LRel_left hL a b h
  | .null, w, h | .bool _, w, h | .num _, w, h | .str _, w, h => hL _ _ h
theorem AllLeavesList_of_LRel_left {L : Val → Val → Prop} {P : Val → Prop} (hL : ∀ v w, L v w → P v) :
    ∀ (xs ys : List Val), LRelList L xs ys → AllLeavesList P xs
  | [], _, _ => trivial
  | x :: xs, ys, h => by
      obtain ⟨y, ys', rfl, h1, h2⟩ := h
      exact ⟨AllLeaves_of_LRel_left hL x y h1, AllLeavesList_of_LRel_left hL xs ys' h2⟩
theorem AllLeavesEntries_of_LRel_left {L : Val → Val → Prop} {P : Val → Prop} (hL : ∀ v w, L v w → P v) :
    ∀ (a b : Entries), LRelEntries L a b → AllLeavesEntries P a
  | [], _, _ => trivial
  | (k, v) :: rest, b, h => by
      obtain ⟨w, b', rfl, h1, h2⟩ := h
      exact ⟨AllLeaves_of_LRel_left hL v w h1, AllLeavesEntries_of_LRel_left hL rest b' h2⟩
end

mutual
theorem AllLeaves_mono {P Q : Val → Prop} (hPQ : ∀ v, P v → Q v) :
    ∀ (v : Val), AllLeaves P v → AllLeaves Q v
  | .list xs, h => AllLeavesList_mono hPQ xs h
  | .map a, h => AllLeavesEntries_mono hPQ a h
  | .null, h | .bool _, h | .num _, h | .str _, h => hPQ _ h
theorem AllLeavesList_mono {P Q : Val → Prop} (hPQ : ∀ v, P v → Q v) :
    ∀ (xs : List Val), AllLeavesList P xs → AllLeavesList Q xs
  | [], _ => trivial
  | x :: xs, h => ⟨AllLeaves_mono hPQ x h.1, AllLeavesList_mono hPQ xs h.2⟩
theorem AllLeavesEntries_mono {P Q : Val → Prop} (hPQ : ∀ v, P v → Q v) :
    ∀ (a : Entries), AllLeavesEntries P a → AllLeavesEntries Q a
  | [], _ => trivial
  | (_, v) :: rest, h => ⟨AllLeaves_mono hPQ v h.1, AllLeavesEntries_mono hPQ rest h.2⟩
end

/-- the value of a successful top-level result, document or no-root -/
def _root_.Mxj.SeqTop.val : SeqTop → Val
  | .doc m => m
  | .noRoot m => m

/-- a leaf property that holds of every cast result, every string and every sequence number
    holds of every leaf of every decoded value -/
theorem AllLeaves_newMapXmlSeq {P : Val → Prop} {c : SeqCfg} {S : Strconv}
    (hcast : ∀ s, P (cast S c.cast s [])) (hstr : ∀ s, P (.str s)) (hseq : ∀ n, P (seqNum n))
    {fin : StreamEnd} {toks : List Tok} {top : SeqTop}
    (h : newMapXmlSeq c S toks fin = .ok top) : AllLeaves P (SeqTop.val top) := by
  have H : LeafHyp (fun v w => P v ∧ Dec.scalar w = true) S S c.cast c.cast :=
    { scalar := fun _ _ h => Dec.scalar_leaf h.2
      hcast := fun s => ⟨hcast s, Dec.cast_scalar _ _ _ _⟩
      str := fun s => ⟨hstr s, rfl⟩
      seq := fun n => ⟨hseq n, rfl⟩ }
  have hr := LRel_newMapXmlSeq H c fin toks
  rw [withCast_self, h] at hr
  cases top with
  | doc v => exact AllLeaves_of_LRel_left (fun _ _ h => h.1) v v hr
  | noRoot v => exact AllLeaves_of_LRel_left (fun _ _ h => h.1) v v hr.1

/-! ### runs of CharData tokens -/
section Runs
variable {c : SeqCfg} {S : Strconv} {fin : StreamEnd}
/-- the merge step of the stream decoder: `.text a :: .text b` is `.text (a ++ b)` (one unit of
    fuel less) -/
theorem seqElem_merge {f : Nat} {skey : Str}
    {na : Entries} {seq : Nat} {pend : Option (Str × Bool)} {a b : Str} {rest : List Tok}
    (hts : c.textK ≠ c.seqK) :
    seqElem c S fin (f + 2) skey na seq pend (.text a :: .text b :: rest) =
      seqElem c S fin (f + 1) skey na seq pend (.text (a ++ b) :: rest) := by
  rw [SeqL.seqElem_text, SeqL.seqElem_text, SeqL.seqElem_text, SeqIL.onText_merge c S hts na seq pend a b]

/-- `t2` is `t1`, or `t1` with one pair of adjacent CharData tokens merged into one -/
inductive Merge : List Tok → List Tok → Prop
  | refl (t : List Tok) : Merge t t
  | here (a b : Str) (rest : List Tok) : Merge (.text a :: .text b :: rest) (.text (a ++ b) :: rest)
  | cons (t : Tok) {t1 t2 : List Tok} : Merge t1 t2 → Merge (t :: t1) (t :: t2)

theorem Merge_at (pre : List Tok) (a b : Str) (post : List Tok) :
    Merge (pre ++ .text a :: .text b :: post) (pre ++ .text (a ++ b) :: post) := by
  induction pre with
  | nil => exact Merge.here a b post
  | cons t pre ih => exact Merge.cons t ih

/-- results of the element loop on two streams that differ by one merge: same value, unread
    tokens again differing by at most that merge -/
def MergeRes (p q : Val × List Tok) : Prop := p.1 = q.1 ∧ Merge p.2 q.2

theorem MergeRes_refl (o : Outcome (Val × List Tok)) : Outcome.Rel MergeRes o o :=
  .refl (fun _ => ⟨rfl, Merge.refl _⟩) o

theorem Merge_seqElem (hts : c.textK ≠ c.seqK) :
    ∀ (f : Nat) {t1 t2 : List Tok}, Merge t1 t2 → t1.length < f →
      ∀ {skey : Str} {na : Entries} {seq : Nat} {pend : Option (Str × Bool)},
        Outcome.Rel MergeRes (seqElem c S fin f skey na seq pend t1)
          (seqElem c S fin f skey na seq pend t2) := by
  intro f
  induction f with
  | zero => intro _ _ _ h; cases h
  | succ f ih =>
    intro t1 t2 hM hlen skey na seq pend
    cases hM with
    | refl => exact MergeRes_refl _
    | here a b rest =>
      have hlen' : (Tok.text (a ++ b) :: rest).length < f := Nat.lt_of_succ_lt_succ hlen
      obtain ⟨f', rfl⟩ := exists_add_one_of_le hlen'
      rw [seqElem_merge hts, Total.seqElem_fuel _ hlen' (Nat.le_succ _)]
      exact MergeRes_refl _
    | @cons t t1' t2' hM' =>
      have hlen' : t1'.length < f := Nat.lt_of_succ_lt_succ hlen
      cases t with
      | text s =>
        rw [SeqL.seqElem_text, SeqL.seqElem_text]
        exact ih hM' hlen'
      | comment | directive | procinst => exact ih hM' hlen'
      | stop sp name =>
        simp only [seqElem]
        split
        · exact rfl
        · exact ⟨rfl, hM'⟩
      | start sp name attrs =>
        rw [SeqL.seqElem_start, SeqL.seqElem_start]
        refine (ih hM' hlen').bind ?_
        intro p q hp _ hpq
        rw [← hpq.1]
        exact ih hpq.2 (Nat.lt_trans (Total.seqElem_rest_length hlen' hp) hlen')

theorem Merge_seqTop (hts : c.textK ≠ c.seqK) :
    ∀ (f : Nat) {t1 t2 : List Tok}, Merge t1 t2 → t1.length < f →
      seqTop c S fin f t1 = seqTop c S fin f t2 := by
  intro f
  induction f with
  | zero => intro t1 t2 _ h; cases h
  | succ f ih =>
    intro t1 t2 hM hlen
    cases hM with
    | refl => rfl
    | here a b rest =>
      have hlen' : rest.length + 1 < f := Nat.lt_of_succ_lt_succ hlen
      obtain ⟨f', rfl⟩ := exists_add_one_of_le hlen'
      exact Total.seqTop_fuel rest (Nat.lt_of_succ_lt_succ hlen') (Nat.le_succ _)
    | @cons t t1' t2' hM' =>
      have hlen' : t1'.length < f := Nat.lt_of_succ_lt_succ hlen
      cases t with
      | text s => exact ih hM' hlen'
      | comment | directive | procinst | stop => rfl
      | start sp name attrs =>
        rw [SeqL.seqTop_start, SeqL.seqTop_start]
        exact (Merge_seqElem hts f hM' hlen').bind_eq fun p q h => by rw [h.1]

/-- a whole run `a, t1, …, tn` merged into one token -/
theorem seqElem_run (hts : c.textK ≠ c.seqK)
    {skey : Str} {na : Entries} {seq : Nat} {pend : Option (Str × Bool)} {rest : List Tok} :
    ∀ (ts : List Str) (a : Str) (f : Nat),
      seqElem c S fin (f + ts.length + 1) skey na seq pend (.text a :: (ts.map Tok.text ++ rest)) =
        seqElem c S fin (f + 1) skey na seq pend (.text (a ++ ts.flatten) :: rest)
  | [], a, f => by simp
  | b :: ts, a, f => by
      have e : f + (b :: ts).length + 1 = (f + ts.length) + 2 := rfl
      rw [e, List.map_cons, List.cons_append, seqElem_merge hts,
        seqElem_run hts ts (a ++ b) f]
      simp [List.append_assoc]

end Runs

end CastSeq
end Mxj
