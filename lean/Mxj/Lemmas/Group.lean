/-
  Mxj.Lemmas.Group — what the decoder line (`Lemmas/Decode`) and the encoder line (`Lemmas/EncodeBase`)
  share about `Model/Conv` and `Model/Decode`: `Conv.groupOnto` as a fold of one step per distinct key
  (`gStep`, `groupOnto_eq`), what the grouped entries hold under a key (`lookup_groupOnto`) and that
  their keys stay distinct; `Dec.valsOf` on `++` and on an absent key; the invariant principle of
  `loadAttrs` (`Dec.loadAttrs_inv`); `Conv.value` of an element by its text runs
  (`Enc.value_elem_nil`, `Enc.value_elem_cons`); induction over a forest of `Node`s
  (`Node.forest_ind`); the tokens of a concatenation of children; `noAdjTextKids` on a cons.
  Facts about grouping are at the root, facts about the decoder's own functions and about `Dec.valsOf`
  under `Dec`.
-/
import Mxj.Model.Conv
import Mxj.Lemmas.Assoc
namespace Mxj

def Dec.valsOf (k : Str) (cs : List (Str × Val)) : List Val := (cs.filter (·.1 = k)).map (·.2)

def gStep (cs : List (Str × Val)) (b : Entries) (k : Str) : Entries :=
  match Conv.collect (lookup k b) (Dec.valsOf k cs) with
  | some val => insert k val b
  | none => b

theorem groupOnto_eq (base : Entries) (cs : List (Str × Val)) :
    Conv.groupOnto base cs = ((cs.map (·.1)).eraseDups).foldl (gStep cs) base := rfl

theorem collect_eq_none {o : Option Val} {vs : List Val} (h : Conv.collect o vs = none) : o = none := by
  unfold Conv.collect at h
  split at h <;> simp_all

theorem lookup_gStep (cs : List (Str × Val)) (b : Entries) (k q : Str) :
    lookup q (gStep cs b k)
      = if q = k then Conv.collect (lookup k b) (Dec.valsOf k cs) else lookup q b := by
  unfold gStep
  split
  · rename_i val hval
    rw [lookup_insert]
    by_cases e : q = k <;> simp [e, hval]
  · rename_i hnone
    by_cases e : q = k
    · subst e
      simp only [if_true, hnone]
      exact collect_eq_none hnone
    · simp [e]

theorem nodup_keys_gStep (cs : List (Str × Val)) (b : Entries) (k : Str) (h : (keys b).Nodup) :
    (keys (gStep cs b k)).Nodup := by
  unfold gStep
  split
  · exact nodup_keys_insert h
  · exact h

theorem lookup_foldl_gStep (cs : List (Str × Val)) (q : Str) : ∀ (ks : List Str) (b : Entries),
    ks.Nodup → lookup q (ks.foldl (gStep cs) b)
      = if q ∈ ks then Conv.collect (lookup q b) (Dec.valsOf q cs) else lookup q b
  | [], b, _ => by simp
  | k :: ks, b, h => by
      rw [List.nodup_cons] at h
      rw [List.foldl_cons, lookup_foldl_gStep cs q ks _ h.2, lookup_gStep]
      by_cases e : q = k
      · subst e
        simp [h.1]
      · simp [e]

theorem Dec.valsOf_eq_nil {k : Str} {cs : List (Str × Val)} (h : k ∉ keys cs) : Dec.valsOf k cs = [] := by
  unfold Dec.valsOf
  simp only [List.map_eq_nil_iff, List.filter_eq_nil_iff, decide_eq_true_eq]
  intro c hc e
  exact h (mem_keys.2 ⟨c, hc, e⟩)

theorem Dec.valsOf_append (k : Str) (a b : List (Str × Val)) :
    Dec.valsOf k (a ++ b) = Dec.valsOf k a ++ Dec.valsOf k b := by
  simp only [Dec.valsOf, List.filter_append, List.map_append]

theorem Enc.mem_valsOf {q : Str} {cs : List (Str × Val)} {x : Val} :
    x ∈ Dec.valsOf q cs ↔ (q, x) ∈ cs := by
  simp only [Dec.valsOf, List.mem_map, List.mem_filter, decide_eq_true_eq]
  constructor
  · rintro ⟨c, ⟨hc, rfl⟩, rfl⟩; exact hc
  · exact fun h => ⟨_, ⟨h, rfl⟩, rfl⟩

theorem lookup_groupOnto (base : Entries) (cs : List (Str × Val)) (q : Str) :
    lookup q (Conv.groupOnto base cs)
      = if q ∈ keys cs then Conv.collect (lookup q base) (Dec.valsOf q cs) else lookup q base := by
  rw [groupOnto_eq, lookup_foldl_gStep cs q _ _ (nodup_eraseDups _)]
  simp only [List.mem_eraseDups, keys]
  by_cases e : q ∈ List.map (fun x => x.fst) cs <;> simp [e]

theorem nodup_keys_groupOnto (base : Entries) (cs : List (Str × Val)) (h : (keys base).Nodup) :
    (keys (Conv.groupOnto base cs)).Nodup := by
  rw [groupOnto_eq]; exact List.foldlRecOn (motive := fun b => (keys b).Nodup) _ _ h fun b hb k _ => nodup_keys_gStep cs b k hb

/-- what holds of `[]` and is kept by every `na[key] = cast(value, r, key)` holds of the loaded
    attributes -/
theorem Dec.loadAttrs_inv (cfg : DecCfg) (S : Strconv) {P : Entries → Prop} (h0 : P [])
    (hstep : ∀ na k s, P na → P (insert k (cast S cfg.cast s k) na)) (attrs : List Attr) :
    P (loadAttrs cfg S attrs) :=
  List.foldlRecOn attrs _ h0 fun _ h _ _ => hstep _ _ _ h

theorem Dec.nodup_keys_loadAttrs (cfg : DecCfg) (S : Strconv) (attrs : List Attr) :
    (keys (loadAttrs cfg S attrs)).Nodup :=
  loadAttrs_inv cfg S (P := fun na => (keys na).Nodup) List.nodup_nil
    (fun _ _ _ => nodup_keys_insert) attrs

namespace Enc

theorem value_elem_nil (cfg : DecCfg) (S : Strconv) (sp name : Str) (attrs : List Attr)
    (kids : List Node)
    (h : Conv.textRuns cfg (!(loadAttrs cfg S attrs).isEmpty || cfg.asMap) kids = []) :
    Conv.value cfg S (.elem sp name attrs kids) =
      if (Conv.groupOnto (loadAttrs cfg S attrs) (Conv.childVals cfg S 0 kids)).isEmpty
      then .str [] else .map (Conv.groupOnto (loadAttrs cfg S attrs) (Conv.childVals cfg S 0 kids)) := by
  simp only [Conv.value, h]

theorem value_elem_cons (cfg : DecCfg) (S : Strconv) (sp name : Str) (attrs : List Attr)
    (kids : List Node) (t : Conv.TextRun) (r : List Conv.TextRun)
    (h : Conv.textRuns cfg (!(loadAttrs cfg S attrs).isEmpty || cfg.asMap) kids = t :: r) :
    Conv.value cfg S (.elem sp name attrs kids) =
      if t.early then
        if (Conv.groupOnto (loadAttrs cfg S attrs) (Conv.childVals cfg S 0 kids)).isEmpty
        then cast S cfg.cast t.value (elemKey cfg S name)
        else .map (insert cfg.textK (cast S cfg.cast t.value (elemKey cfg S name))
              (Conv.groupOnto (loadAttrs cfg S attrs) (Conv.childVals cfg S 0 kids)))
      else .map (insert cfg.textK (cast S cfg.cast t.value cfg.textK)
              (Conv.groupOnto (loadAttrs cfg S attrs) (Conv.childVals cfg S 0 kids))) := by
  simp only [Conv.value, h]

end Enc

/-- induction over a forest of nodes: an element brings its children and its right siblings -/
theorem Node.forest_ind {P : List Node → Prop} (nil : P [])
    (elem : ∀ sp n as ks r, P ks → P r → P (.elem sp n as ks :: r))
    (text : ∀ s r, P r → P (.text s :: r)) (comment : ∀ s r, P r → P (.comment s :: r))
    (procinst : ∀ t i r, P r → P (.procinst t i :: r))
    (directive : ∀ s r, P r → P (.directive s :: r)) (ks : List Node) : P ks :=
  Node.rec_1 (motive_1 := fun k => ∀ r, P r → P (k :: r)) (motive_2 := P)
    (fun sp n as ks ihk r ihr => elem sp n as ks r ihk ihr) text comment procinst directive nil
    (fun _ r ihk ihr => ihk r ihr) ks

theorem Dec.flattenKids_append : ∀ (a b : List Node), flattenKids (a ++ b) = flattenKids a ++ flattenKids b
  | [], _ => rfl
  | k :: a, b => by simp [flattenKids, flattenKids_append a b]

theorem Dec.noAdjTextKids_cons {k : Node} {rest : List Node} (h : noAdjTextKids (k :: rest) = true) :
    noAdjText k = true ∧ noAdjTextKids rest = true := by
  unfold noAdjTextKids at h
  split at h
  · rename_i heq; cases heq
  · cases h
  · rename_i heq
    cases heq
    exact Bool.and_eq_true_iff.1 h

end Mxj
