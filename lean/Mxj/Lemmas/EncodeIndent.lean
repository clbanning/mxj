/-
  The indented encoder `marshalI` writes the indented rendering `renderI` of the tree `encTree`
  builds (on `Plain`, `Regular` values); `renderI` is the canonical rendering of the layout tree
  `layI`, which adds text nodes made of newlines, the prefix and the indent only, and a decoder
  that trims those characters does not see them.
-/
import Mxj.Model.EncodeIndent
import Mxj.Lemmas.Encode
import Mxj.Lemmas.Decode
import Mxj.Lemmas.SurfaceSplit
import Mxj.Lemmas.Trim
namespace Mxj.Enc
open Mxj

@[simp] theorem Pretty.outdent_indent (p : Pretty) (ind : Str) :
    (p.indentP ind).outdentP ind = p := by
  cases p
  simp [Pretty.indentP, Pretty.outdentP]

@[simp] theorem Pretty.indentP_start (p : Pretty) (ind : Str) : (p.indentP ind).start = p.start := rfl
@[simp] theorem Pretty.indentP_cnt (p : Pretty) (ind : Str) : (p.indentP ind).cnt = p.cnt + 1 := rfl
@[simp] theorem Pretty.indentP_padding (p : Pretty) (ind : Str) :
    (p.indentP ind).padding = p.padding ++ ind := rfl
@[simp] theorem Pretty.deeper_start (p : Pretty) : p.deeper.start = p.start := rfl
@[simp] theorem Pretty.deeper_cnt (p : Pretty) : p.deeper.cnt = p.cnt := rfl
@[simp] theorem Pretty.deeper_padding (p : Pretty) : p.deeper.padding = p.padding := rfl

/-- the newline that ends everything below the root -/
def nlOf (cnt : Nat) : Str := if cnt > 0 then ['\n'] else []

theorem nlIf_eq (p : Pretty) (h : p.start = 0) : nlIf p = nlOf p.cnt := by
  simp [nlIf, nlOf, h]

/-- the layout strings are made of newlines, the padding and the indent: what holds of a newline
    holds of every character of an optional newline (`nlOf cnt`; the newline that goes before the
    first element child) -/
theorem forall_mem_optNl {P : Char → Prop} (h : P '\n') {b : Prop} [Decidable b] :
    ∀ c ∈ (if b then ['\n'] else []), P c := by
  split <;> simp [h]

mutual
/-- the indented rendering of an element at nesting count `cnt` with padding `pad`:
    `pad`, the start tag, the content, the end tag, and a newline when `cnt > 0`.
    * no children, or no ELEMENT child (text only): the content is written exactly as `render`
      writes it — nothing is inserted inside such an element;
    * at least one element child: a newline goes before the first element child (that is,
      directly after `>` or after the leading text), every element child is rendered one level
      deeper (`cnt + 1`, `pad ++ indent`), and `pad` goes before the end tag.
    Anything that is not an element is rendered as `render` does. -/
def renderI (cfg : EncCfg) (indent : Str) : Nat → Str → Node → Str
  | cnt, pad, .elem _ name attrs kids =>
      pad ++ "<".toList ++ name ++ renderAttrs cfg attrs ++
        (if kids.isEmpty then endOf cfg name 0
         else if kids.any isElem then
           ">".toList ++ renderBodyI cfg indent (cnt + 1) (pad ++ indent) true kids ++ pad ++ closeTag name
         else ">".toList ++ renderKids cfg kids ++ closeTag name) ++ nlOf cnt
  | _, _, .text s => escIf cfg s
  | _, _, _ => []
/-- the children of an element that has element children; `first`: no element child yet -/
def renderBodyI (cfg : EncCfg) (indent : Str) : Nat → Str → Bool → List Node → Str
  | _, _, _, [] => []
  | cnt, pad, first, k :: ks =>
      (if first && isElem k then ['\n'] else []) ++ renderI cfg indent cnt pad k
        ++ renderBodyI cfg indent cnt pad (first && !isElem k) ks
end

def renderSibsI (cfg : EncCfg) (indent : Str) (cnt : Nat) (pad : Str) (ns : List Node) : Str :=
  ns.flatMap (renderI cfg indent cnt pad)

/-! ### `Regular`: the values on which the layout is a function of the tree

  The tree does not tell an empty list from `nil`/`""` (all are `<key/>`), a list inside a list
  from its flattened members, or a map with two text-key entries (impossible for a Go map; the
  association-list model allows it) from a simple element — but the Go code lays these out
  differently (see Model/EncodeIndent.lean). -/

/-- at most one entry under the text key (always so for a Go map) -/
def textOnce (cfg : EncCfg) (kvs : Entries) : Bool := decide (textCount cfg kvs ≤ 1)

mutual
def Regular (cfg : EncCfg) : Val → Bool
  | .list xs => !xs.isEmpty && RegularMembers cfg xs
  | .map kvs => textOnce cfg kvs && RegularEntries cfg kvs
  | _ => true
def RegularMembers (cfg : EncCfg) : List Val → Bool
  | [] => true
  | x :: xs => !x.isList && Regular cfg x && RegularMembers cfg xs
def RegularEntries (cfg : EncCfg) : Entries → Bool
  | [] => true
  | (_, v) :: rest => Regular cfg v && RegularEntries cfg rest
end

theorem encMembers_all_elem (cfg : EncCfg) (key : Str) : ∀ (xs : List Val) (ns : List Node),
    encMembers cfg key xs = .ok ns → ∀ n ∈ ns, isElem n = true :=
  encMembers_isElem cfg key


theorem renderBodyI_elems {cfg : EncCfg} {ind : Str} {cnt : Nat} {pad : Str} :
    ∀ (first : Bool) (ks : List Node), (∀ k ∈ ks, isElem k = true) →
      renderBodyI cfg ind cnt pad first ks
        = (if first && !ks.isEmpty then ['\n'] else []) ++ ks.flatMap (renderI cfg ind cnt pad)
  | _, [], _ => by simp [renderBodyI]
  | first, k :: ks, h => by
      simp [renderBodyI, h k (List.mem_cons_self ..),
        renderBodyI_elems false ks fun x hx => h x (List.mem_cons_of_mem _ hx)]

theorem any_isElem_of_all {ks : List Node} (h : ∀ k ∈ ks, isElem k = true) (hne : ks.isEmpty = false) :
    ks.any isElem = true := by
  cases ks with
  | nil => simp at hne
  | cons k ks => simp [h k (List.mem_cons_self ..)]

theorem renderI_simple {cfg : EncCfg} {ind : Str} {cnt : Nat} {pad sp name : Str}
    {attrs : List Attr} {kids : List Node} (h : kids.any isElem = false) :
    renderI cfg ind cnt pad (.elem sp name attrs kids)
      = pad ++ render cfg (.elem sp name attrs kids) ++ nlOf cnt := by
  simp only [renderI, render, h, Bool.false_eq_true, if_false, List.append_assoc]

theorem renderBodyI_nonElems {cfg : EncCfg} {ind : Str} {cnt : Nat} {pad : Str} {first : Bool}
    {ks : List Node} : ∀ {txt : List Node}, txt.any isElem = false →
    renderBodyI cfg ind cnt pad first (txt ++ ks)
      = renderKids cfg txt ++ renderBodyI cfg ind cnt pad first ks
  | [], _ => rfl
  | t :: txt, h => by
      simp only [List.any_cons, Bool.or_eq_false_iff] at h
      cases t <;> simp only [isElem, Bool.true_eq_false, false_and] at h <;>
        simp only [List.cons_append, renderBodyI, isElem, Bool.and_false, Bool.false_eq_true, if_false,
          Bool.not_false, Bool.and_true, renderI, renderKids, render, renderBodyI_nonElems h.2,
          List.nil_append, List.append_assoc]

theorem renderI_nested {cfg : EncCfg} {ind : Str} {cnt : Nat} {pad sp name : Str}
    {attrs : List Attr} (txt kids : List Node) {all : List Node} (e : all = txt ++ kids)
    (htxt : txt.any isElem = false) (hall : ∀ k ∈ kids, isElem k = true) (hne : kids ≠ []) :
    renderI cfg ind cnt pad (.elem sp name attrs all)
      = pad ++ "<".toList ++ name ++ renderAttrs cfg attrs ++ ">".toList ++ renderKids cfg txt
          ++ '\n' :: kids.flatMap (renderI cfg ind (cnt + 1) (pad ++ ind)) ++ pad
          ++ closeTag name ++ nlOf cnt := by
  subst e
  have hk := List.isEmpty_eq_false_iff.2 hne
  -- `kids` decides the two tests `renderI` makes on `txt ++ kids`
  simp only [renderI, List.isEmpty_iff, List.append_eq_nil_iff, hne, and_false, List.any_append,
    any_isElem_of_all hall hk, hk, Bool.or_true, if_false, if_true, renderBodyI_nonElems htxt,
    renderBodyI_elems true kids hall, Bool.not_false, Bool.and_self, List.append_assoc,
    List.cons_append, List.nil_append]

mutual
/-- the indented encoder writes the indented rendering of the encoder's tree (and fails exactly
    when the tree builder fails), for a value that is not a list -/
theorem marshalI_eq (cfg : EncCfg) (ind : Str) : ∀ (p : Pretty) (key : Str) (v : Val),
    p.start = 0 → Plain cfg v = true → Regular cfg v = true → v.isList = false →
    marshalI cfg ind p key v
      = (encTree cfg key v).map (renderSibsI cfg ind p.cnt p.padding)
  | p, key, .null, hs, _, _, _ => by
      simp only [marshalI, encTree, Except.map, renderSibsI, List.flatMap_singleton,
        renderI_simple (kids := []) rfl, render_empty, renderAttrs,
        nlIf_eq p hs, List.append_nil, List.append_assoc]
  | p, key, .str s, hs, _, _, _ => by
      have h : (if s.isEmpty then [] else [Node.text s]).any isElem = false := by cases s <;> rfl
      simp only [marshalI, encTree, Except.map, renderSibsI, List.flatMap_singleton,
        renderI_simple h, render_leaf, nlIf_eq p hs, List.append_assoc]
  | p, key, .bool b, hs, _, _, _ => by
      obtain ⟨t, hf, hne, hp⟩ := fmtV_bool cfg b
      simp only [marshalI, encTree, hf, Except.map, renderSibsI, List.flatMap_singleton,
        renderI_simple (kids := [.text _]) rfl,
        render_leaf_plain cfg key hne hp, nlIf_eq p hs, List.append_assoc]
  | p, key, .num t, hs, hp, _, _ => by
      simp only [Plain, Bool.and_eq_true, Bool.not_eq_true'] at hp
      simp only [marshalI, encTree, fmtV, Except.map, renderSibsI, List.flatMap_singleton,
        renderI_simple (kids := [.text _]) rfl,
        render_leaf_plain cfg key hp.1 (plainText_eq hp.2), nlIf_eq p hs, List.append_assoc]
  | p, key, .list xs, _, _, _, hl => by simp [Val.isList] at hl
  | p, key, .map vv, hs, hp, hr, _ => by
      simp only [Plain] at hp
      simp only [Regular, Bool.and_eq_true] at hr
      simp only [marshalI, encTree, attrsText_eq cfg vv hp, nlIf_eq p hs,
        marshalElemsI_eq cfg ind p.deeper vv hs hp hr.2]
      cases hA : encAttrs cfg vv with
      | error e => rfl
      | ok attrs =>
        simp only [Except.map]
        by_cases hn : countAttrs cfg vv = vv.length
        · rw [if_pos hn, if_pos hn]
          simp only [renderSibsI, List.flatMap_singleton,
            renderI_simple (kids := []) rfl, render_empty, endOf_zero,
            List.append_assoc]
        · rw [if_neg hn, if_neg hn]
          cases hl : lookup cfg.textK vv with
          | some tv =>
            simp only [textValue_eq hp hl]
            cases hf : fmtV tv with
            | none => rfl
            | some txt =>
              simp only [Option.map_some]
              by_cases hn1 : countAttrs cfg vv + 1 = vv.length
              · rw [if_pos hn1, if_pos hn1]
                simp only [renderSibsI,
                  renderI_simple (kids := [.text txt]) rfl,
                  render_nonempty cfg [] key attrs (List.cons_ne_nil _ _), List.flatMap_cons,
                  List.flatMap_nil, render_text, endOf_pos cfg key Nat.one_pos, List.append_nil,
                  List.append_assoc]
              · rw [if_neg hn1, if_neg hn1]
                cases hE : encElems cfg vv with
                | error e => rfl
                | ok kids =>
                  have h3 : textCount cfg vv ≤ 1 := of_decide_eq_true hr.1
                  have h4 := countAttrs_le cfg vv
                  have hne := encElems_ne_nil_of_count cfg vv kids (by omega) hE
                  simp only [renderSibsI, List.flatMap_singleton,
                    renderI_nested [.text txt] kids (all := .text txt :: kids) rfl rfl
                      (encElems_isElem cfg vv kids hE) hne, renderKids, render_text,
                    endOf_pos cfg key Nat.one_pos, Pretty.deeper_cnt, Pretty.deeper_padding,
                    List.append_nil, List.append_assoc, List.cons_append, List.nil_append]
          | none =>
            cases hE : encElems cfg vv with
            | error e => rfl
            | ok kids =>
              have hne := encElems_ne_nil cfg vv kids hn hl hE
              simp only [renderSibsI, List.flatMap_singleton, renderKids,
                renderI_nested [] kids (all := kids) rfl rfl
                  (encElems_isElem cfg vv kids hE) hne,
                endOf_pos cfg key Nat.one_pos, Pretty.deeper_cnt, Pretty.deeper_padding,
                List.append_nil, List.append_assoc, List.cons_append, List.nil_append]
theorem marshalMembersI_eq (cfg : EncCfg) (ind : Str) : ∀ (p : Pretty) (key : Str) (xs : List Val),
    p.start = 0 → PlainList cfg xs = true → RegularMembers cfg xs = true →
    marshalMembersI cfg ind p key xs
      = (encMembers cfg key xs).map (renderSibsI cfg ind (p.cnt + 1) (p.padding ++ ind))
  | _, _, [], _, _, _ => rfl
  | p, key, x :: xs, hs, hp, hr => by
      simp only [PlainList, Bool.and_eq_true] at hp
      simp only [RegularMembers, Bool.and_eq_true, Bool.not_eq_true'] at hr
      simp only [marshalMembersI, encMembers, Pretty.outdent_indent,
        marshalI_eq cfg ind (p.indentP ind) key x hs hp.1 hr.1.2 hr.1.1,
        marshalMembersI_eq cfg ind p key xs hs hp.2 hr.2]
      cases encTree cfg key x <;> cases encMembers cfg key xs <;>
        simp only [Except.map, renderSibsI, List.flatMap_append, Pretty.indentP_cnt,
          Pretty.indentP_padding]
theorem marshalElemsI_eq (cfg : EncCfg) (ind : Str) : ∀ (p : Pretty) (kvs : Entries),
    p.start = 0 → PlainEntries cfg kvs = true → RegularEntries cfg kvs = true →
    marshalElemsI cfg ind p kvs
      = (encElems cfg kvs).map (renderSibsI cfg ind (p.cnt + 1) (p.padding ++ ind))
  | _, [], _, _, _ => rfl
  | p, (k, v) :: rest, hs, hp, hr => by
      simp only [PlainEntries, Bool.and_eq_true] at hp
      simp only [RegularEntries, Bool.and_eq_true] at hr
      simp only [marshalElemsI, encElems]
      by_cases hk : (decide (k = cfg.textK) || isAttrK cfg k) = true
      · rw [if_pos hk, if_pos hk]
        exact marshalElemsI_eq cfg ind p rest hs hp.2 hr.2
      · rw [if_neg hk, if_neg hk]
        cases hl : v.isList with
        | true =>
          cases v with
          | null | bool _ | num _ | str _ | map _ => exact nomatch hl
          | list xs =>
            have hr1 := hr.1
            have hp1 := hp.1.2
            simp only [Regular, Bool.and_eq_true, Bool.not_eq_true'] at hr1
            simp only [Plain] at hp1
            simp only [if_true, marshalI, encTree, hr1.1, Bool.false_eq_true, if_false,
              marshalMembersI_eq cfg ind p k xs hs hp1 hr1.2,
              marshalElemsI_eq cfg ind p rest hs hp.2 hr.2]
            cases encMembers cfg k xs <;> cases encElems cfg rest <;>
              simp only [Except.map, renderSibsI, List.flatMap_append]
        | false =>
          simp only [Bool.false_eq_true, if_false, Pretty.outdent_indent,
            marshalI_eq cfg ind (p.indentP ind) k v hs hp.1.2 hr.1 hl,
            marshalElemsI_eq cfg ind p rest hs hp.2 hr.2]
          cases encTree cfg k v <;> cases encElems cfg rest <;>
            simp only [Except.map, renderSibsI, List.flatMap_append, Pretty.indentP_cnt,
              Pretty.indentP_padding]
end

/-- success or which error, the bytes forgotten: in this the indented and the compact encoder
    agree on every value, `Regular` or not (`marshalI_err`) -/
def unitE (r : Except ErrKind Str) : Except ErrKind Unit := r.map (fun _ => ())

/-- equal after `unitE`: the same failures -/
theorem error_iff_of_unitE {a b : Except ErrKind Str} (h : unitE a = unitE b) (e : ErrKind) :
    a = .error e ↔ b = .error e := by
  cases a <;> cases b <;> simp_all [unitE, Except.map]

/-- one step of the encoders' loops (first error, else the concatenation): the bodies of
    `marshalMembers`, `marshalElems` and their indented counterparts unfold to this -/
def seqE (a b : Except ErrKind Str) : Except ErrKind Str :=
  match a with
  | .error e => .error e
  | .ok x => match b with
    | .error e => .error e
    | .ok r => .ok (x ++ r)

theorem unitE_seq {a a' b b' : Except ErrKind Str} (h1 : unitE a = unitE a') (h2 : unitE b = unitE b') :
    unitE (seqE a b) = unitE (seqE a' b') := by
  have key : ∀ a b : Except ErrKind Str, unitE (seqE a b) = (unitE a).bind fun _ => unitE b :=
    fun a b => by cases a <;> cases b <;> rfl
  rw [key, key, h1, h2]

theorem unitE_wrap (a : Except ErrKind Str) (f : Str → Str) :
    unitE (match a with
      | .error e => .error e
      | .ok k => .ok (f k)) = unitE a := by
  cases a <;> rfl

mutual
theorem marshalI_err (cfg : EncCfg) (ind : Str) : ∀ (p : Pretty) (key : Str) (v : Val),
    unitE (marshalI cfg ind p key v) = unitE (marshalN cfg key v)
  | p, key, .null | p, key, .str s | p, key, .num t => by
      simp only [marshalI, marshalN, fmtV, unitE, Except.map]
  | p, key, .bool b => by cases b <;> simp only [marshalI, marshalN, fmtV, unitE, Except.map]
  | p, key, .list xs => by
      simp only [marshalI, marshalN]
      split
      · rfl
      · exact marshalMembersI_err cfg ind p key xs
  | p, key, .map vv => by
      have hE := marshalElemsI_err cfg ind p.deeper vv
      simp only [marshalI, marshalN]
      cases attrsText cfg vv with
      | error e => rfl
      | ok attrs =>
        simp only
        by_cases hn : countAttrs cfg vv = vv.length
        · rw [if_pos hn, if_pos hn]; rfl
        · rw [if_neg hn, if_neg hn]
          cases lookup cfg.textK vv with
          | none =>
            exact (unitE_wrap _ _).trans (hE.trans (unitE_wrap _ _).symm)
          | some tv =>
            simp only
            cases textValue cfg tv with
            | none => rfl
            | some txt =>
              simp only
              by_cases hn1 : countAttrs cfg vv + 1 = vv.length
              · rw [if_pos hn1, if_pos hn1]; rfl
              · rw [if_neg hn1, if_neg hn1]
                exact (unitE_wrap _ _).trans (hE.trans (unitE_wrap _ _).symm)
theorem marshalMembersI_err (cfg : EncCfg) (ind : Str) : ∀ (p : Pretty) (key : Str) (xs : List Val),
    unitE (marshalMembersI cfg ind p key xs) = unitE (marshalMembers cfg key xs)
  | _, _, [] => rfl
  | p, key, x :: xs => by
      simp only [marshalMembersI, marshalMembers]
      exact unitE_seq (marshalI_err cfg ind _ key x) (marshalMembersI_err cfg ind _ key xs)
theorem marshalElemsI_err (cfg : EncCfg) (ind : Str) : ∀ (p : Pretty) (kvs : Entries),
    unitE (marshalElemsI cfg ind p kvs) = unitE (marshalElems cfg kvs)
  | _, [] => rfl
  | p, (k, v) :: rest => by
      simp only [marshalElemsI, marshalElems]
      by_cases hk : (decide (k = cfg.textK) || isAttrK cfg k) = true
      · rw [if_pos hk, if_pos hk]
        exact marshalElemsI_err cfg ind p rest
      · rw [if_neg hk, if_neg hk]
        exact unitE_seq (marshalI_err cfg ind _ k v) (marshalElemsI_err cfg ind _ rest)
end

theorem mapXmlIndent_err (cfg : EncCfg) (pfx ind : Str) (m : Entries) (rt : Option Str) :
    unitE (mapXmlIndent cfg pfx ind m rt)
      = unitE (marshal cfg (mapXmlIndentRoot m rt).1 (mapXmlIndentRoot m rt).2) :=
  marshalI_err cfg ind _ _ _

theorem RegularEntries_iff (cfg : EncCfg) : ∀ (l : Entries),
    RegularEntries cfg l = true ↔ ∀ e ∈ l, Regular cfg e.2 = true
  | [] => by simp [RegularEntries]
  | (k, v) :: rest => by
      simp only [RegularEntries, Bool.and_eq_true, RegularEntries_iff cfg rest, List.mem_cons,
        forall_eq_or_imp]

mutual
theorem Regular_norm (cfg : EncCfg) : ∀ (v : Val), Regular cfg v = true → Regular cfg v.norm = true
  | .null, _ => rfl
  | .bool _, _ => rfl
  | .num _, _ => rfl
  | .str _, _ => rfl
  | .list xs, h => by
      simp only [Regular, Bool.and_eq_true, Bool.not_eq_true'] at h
      simp only [Val.norm, Regular, Bool.and_eq_true, Bool.not_eq_true']
      refine ⟨?_, RegularMembers_norm cfg xs h.2⟩
      cases xs with
      | nil => simp at h
      | cons _ _ => rfl
  | .map kvs, h => by
      simp only [Regular, Bool.and_eq_true] at h
      simp only [Val.norm, Regular, Bool.and_eq_true]
      constructor
      · have := h.1
        simp only [textOnce, decide_eq_true_eq] at this ⊢
        rw [textCount_eq, ← keys_normEntries kvs] at this
        rw [textCount_eq]
        unfold keys at this ⊢
        rwa [ ((sortByKey_perm _).map _).count_eq]
      · exact entrywise_sortByKey (RegularEntries_iff cfg) (RegularEntries_norm cfg kvs h.2)
theorem RegularMembers_norm (cfg : EncCfg) : ∀ (xs : List Val), RegularMembers cfg xs = true →
    RegularMembers cfg (Val.normList xs) = true
  | [], _ => rfl
  | x :: xs, h => by
      simp only [RegularMembers, Bool.and_eq_true, Bool.not_eq_true'] at h
      simp only [Val.normList, RegularMembers, Bool.and_eq_true, Bool.not_eq_true', isList_norm]
      exact ⟨⟨h.1.1, Regular_norm cfg x h.1.2⟩, RegularMembers_norm cfg xs h.2⟩
theorem RegularEntries_norm (cfg : EncCfg) : ∀ (kvs : Entries), RegularEntries cfg kvs = true →
    RegularEntries cfg (Val.normEntries kvs) = true
  | [], _ => rfl
  | (k, v) :: rest, h => by
      simp only [RegularEntries, Bool.and_eq_true] at h
      simp only [Val.normEntries, RegularEntries, Bool.and_eq_true]
      exact ⟨Regular_norm cfg v h.1, RegularEntries_norm cfg rest h.2⟩
end

/-- the root `XmlIndent` picks holds the whole Map, or the value of its only entry when that
    value is not a list -/
theorem mapXmlIndentRoot_of {P : Val → Prop} (m : Entries) (rt : Option Str) (hm : P (.map m))
    (h1 : ∀ k v, m = [(k, v)] → v.isList = false → P v) : P (mapXmlIndentRoot m rt).2 := by
  fun_cases mapXmlIndentRoot m rt with
  | case3 key v hnl =>
    refine h1 key v rfl ?_
    cases v with
    | list xs => exact absurd rfl (hnl xs)
    | null | bool _ | num _ | str _ | map _ => rfl
  | _ => exact hm

theorem mapXmlIndentRoot_not_list (m : Entries) (rt : Option Str) :
    (mapXmlIndentRoot m rt).2.isList = false :=
  mapXmlIndentRoot_of (P := fun v => v.isList = false) m rt rfl fun _ _ _ h => h

theorem mapXmlIndentRoot_norm_not_list (m : Entries) (rt : Option Str) :
    (mapXmlIndentRoot m rt).2.norm.isList = false := by
  rw [isList_norm]; exact mapXmlIndentRoot_not_list m rt

theorem mapXmlIndentRoot_plain (cfg : EncCfg) (m : Entries) (rt : Option Str)
    (h : Plain cfg (.map m) = true) : Plain cfg (mapXmlIndentRoot m rt).2 = true := by
  refine mapXmlIndentRoot_of (P := fun v => Plain cfg v = true) m rt h ?_
  rintro k v rfl _
  simp only [Plain, PlainEntries, Bool.and_eq_true] at h
  exact h.1.2

theorem mapXmlIndentRoot_regular (cfg : EncCfg) (m : Entries) (rt : Option Str)
    (h : Regular cfg (.map m) = true) : Regular cfg (mapXmlIndentRoot m rt).2 = true := by
  refine mapXmlIndentRoot_of (P := fun v => Regular cfg v = true) m rt h ?_
  rintro k v rfl _
  simp only [Regular, RegularEntries, Bool.and_eq_true] at h
  exact h.2.1

theorem mapXmlIndent_eq (cfg : EncCfg) (pfx ind : Str) (m : Entries) (rt : Option Str)
    (hp : Plain cfg (.map m) = true) (hr : Regular cfg (.map m) = true) :
    mapXmlIndent cfg pfx ind m rt
      = (encTree cfg (mapXmlIndentRoot m rt).1 (mapXmlIndentRoot m rt).2.norm).map
          (renderSibsI cfg ind 0 pfx) := by
  unfold mapXmlIndent
  exact marshalI_eq cfg ind (Pretty.init pfx) _ _ rfl
    (Plain_norm cfg _ (mapXmlIndentRoot_plain cfg m rt hp))
    (Regular_norm cfg _ (mapXmlIndentRoot_regular cfg m rt hr))
    (mapXmlIndentRoot_norm_not_list m rt)

/-- a white-space run as a text node; an empty run is no node at all -/
def wsNode (s : Str) : List Node := if s.isEmpty then [] else [.text s]

mutual
/-- the tree whose canonical rendering is the indented rendering (`renderI_eq_render_layI`):
    an element with at least one element child gets, among its children, a text node
    `"\n" ++ pad'` before its first element child, `pad'` before every later element child,
    `"\n"` after every element child, and `pad` after the last child (`pad' = pad ++ indent`);
    an element without element children is left exactly as it is. -/
def layI (indent : Str) : Nat → Str → Node → Node
  | cnt, pad, .elem sp name attrs kids =>
      if kids.any isElem then
        .elem sp name attrs (layBodyI indent (cnt + 1) (pad ++ indent) true kids ++ wsNode pad)
      else .elem sp name attrs kids
  | _, _, n => n
def layBodyI (indent : Str) : Nat → Str → Bool → List Node → List Node
  | _, _, _, [] => []
  | cnt, pad, first, k :: ks =>
      if isElem k then
        wsNode ((if first then ['\n'] else []) ++ pad)
          ++ layI indent cnt pad k :: (wsNode (nlOf cnt) ++ layBodyI indent cnt pad false ks)
      else k :: layBodyI indent cnt pad first ks
end

/-- the layout touches the children of an element only -/
theorem layI_elem (indent : Str) (cnt : Nat) (pad sp name : Str) (attrs : List Attr)
    (kids : List Node) :
    layI indent cnt pad (.elem sp name attrs kids) = .elem sp name attrs
      (if kids.any isElem then layBodyI indent (cnt + 1) (pad ++ indent) true kids ++ wsNode pad
       else kids) := by
  simp only [layI]
  split <;> rfl

theorem layI_simple {indent : Str} {cnt : Nat} {pad sp name : Str} {attrs : List Attr}
    {kids : List Node} (h : kids.any isElem = false) :
    layI indent cnt pad (.elem sp name attrs kids) = .elem sp name attrs kids := by
  simp [layI, h]

theorem layI_nonElem {indent : Str} {cnt : Nat} {pad : Str} {k : Node} (h : isElem k = false) :
    layI indent cnt pad k = k := by
  cases k with
  | elem _ _ _ _ => simp [isElem] at h
  | text _ | comment _ | procinst _ _ | directive _ => rfl

theorem escIf_append (cfg : EncCfg) (a b : Str) : escIf cfg (a ++ b) = escIf cfg a ++ escIf cfg b := by
  unfold escIf; split
  · exact escapeChars_append a b
  · rfl

theorem escIf_nl (cfg : EncCfg) : escIf cfg ['\n'] = ['\n'] := escIf_of_plain cfg (by decide)

theorem escIf_nlOf (cfg : EncCfg) (cnt : Nat) : escIf cfg (nlOf cnt) = nlOf cnt :=
  escIf_of_plain cfg (forall_mem_optNl (by decide))

theorem renderKids_append (cfg : EncCfg) (a b : List Node) :
    renderKids cfg (a ++ b) = renderKids cfg a ++ renderKids cfg b := by
  simp [renderKids_eq]

theorem renderKids_wsNode (cfg : EncCfg) (s : Str) : renderKids cfg (wsNode s) = escIf cfg s := by
  unfold wsNode
  cases s with
  | nil => simp [renderKids, escIf_nil]
  | cons c t => simp [renderKids, render]

theorem layBodyI_isEmpty {indent : Str} {cnt : Nat} {pad : Str} {r : List Node} :
    ∀ (first : Bool) (ks : List Node),
    ks.isEmpty = false → (layBodyI indent cnt pad first ks ++ r).isEmpty = false
  | _, [], h => by simp at h
  | first, k :: ks, _ => by
      simp only [layBodyI]
      split <;> simp

/-- the indented rendering of an element is the canonical rendering of its layout tree, between
    the padding and the final newline (white space that needs no escaping), once the same is known
    of its children -/
theorem renderI_eq_render_layI (cfg : EncCfg) (ind : Str) (hind : plainText cfg ind = true)
    {sp name : Str} {attrs : List Attr} {kids : List Node}
    (hb : ∀ (cnt : Nat) (pad : Str) (first : Bool), plainText cfg pad = true →
      renderBodyI cfg ind cnt pad first kids = renderKids cfg (layBodyI ind cnt pad first kids))
    (cnt : Nat) (pad : Str) (hpad : plainText cfg pad = true) :
    renderI cfg ind cnt pad (.elem sp name attrs kids)
      = pad ++ render cfg (layI ind cnt pad (.elem sp name attrs kids)) ++ nlOf cnt := by
  have hpad' : plainText cfg (pad ++ ind) = true :=
    beq_iff_eq.2 (by rw [escIf_append, plainText_eq hpad, plainText_eq hind])
  cases hany : kids.any isElem with
  | true =>
    have hne : kids.isEmpty = false := by cases kids <;> simp_all
    simp only [renderI, layI, hany, hne, if_true, render, layBodyI_isEmpty true kids hne,
      hb _ _ _ hpad', renderKids_append, renderKids_wsNode, plainText_eq hpad]
    simp
  | false =>
    simp only [renderI_simple hany, layI_simple hany]

theorem renderBodyI_eq_render (cfg : EncCfg) (ind : Str) (hind : plainText cfg ind = true) :
    ∀ (ks : List Node) (cnt : Nat) (pad : Str) (first : Bool), plainText cfg pad = true →
    renderBodyI cfg ind cnt pad first ks = renderKids cfg (layBodyI ind cnt pad first ks) := by
  intro ks
  induction ks using Node.forest_ind with
  | nil => exact fun _ _ _ _ => rfl
  | elem sp name attrs kids r ihk ihr =>
    intro cnt pad first hpad
    simp only [renderBodyI, layBodyI, isElem, if_true, Bool.and_true, Bool.not_true, Bool.and_false,
      renderI_eq_render_layI cfg ind hind ihk cnt pad hpad, ihr cnt pad false hpad, renderKids_append,
      renderKids_wsNode, renderKids, escIf_append, plainText_eq hpad, escIf_nlOf]
    cases first <;> simp [escIf_nil, escIf_nl]
  | text _ r ih | comment _ r ih | procinst _ _ r ih | directive _ r ih =>
    intro cnt pad first hpad
    simp only [renderBodyI, layBodyI, isElem, Bool.and_false, Bool.false_eq_true, if_false,
      Bool.not_false, Bool.and_true, renderI, render, renderKids, ih cnt pad first hpad]
    rfl

/-- `WsExt ok a b`: the token sequence `a` is `b` with extra text tokens, each satisfying `ok` -/
inductive WsExt (ok : Str → Prop) : List Tok → List Tok → Prop
  | nil : WsExt ok [] []
  | keep (t : Tok) {a b : List Tok} : WsExt ok a b → WsExt ok (t :: a) (t :: b)
  | ws (s : Str) {a b : List Tok} : ok s → WsExt ok a b → WsExt ok (Tok.text s :: a) b

theorem WsExt.refl (ok : Str → Prop) : ∀ (a : List Tok), WsExt ok a a
  | [] => .nil
  | t :: a => .keep t (WsExt.refl ok a)

theorem WsExt.append {ok : Str → Prop} {a b c d : List Tok} (h1 : WsExt ok a b) (h2 : WsExt ok c d) :
    WsExt ok (a ++ c) (b ++ d) := by
  induction h1 with
  | nil => exact h2
  | keep t _ ih => exact .keep t ih
  | ws s hs _ ih => exact .ws s hs ih

theorem WsExt.sublist {ok : Str → Prop} {a b : List Tok} (h : WsExt ok a b) : b.Sublist a := by
  induction h with
  | nil => exact .slnil
  | keep t _ ih => exact .cons_cons t ih
  | ws s _ _ ih => exact .cons _ ih

/-- a layout text: not empty, made of newlines and characters of `cs` (those of prefix and indent) -/
def wsOk (cs : List Char) (s : Str) : Prop := s ≠ [] ∧ ∀ c ∈ s, c = '\n' ∨ c ∈ cs

theorem wsExt_wsNode {cs : List Char} (s : Str) (hs : ∀ c ∈ s, c = '\n' ∨ c ∈ cs) :
    WsExt (wsOk cs) (flattenKids (wsNode s)) [] := by
  unfold wsNode
  cases s with
  | nil => exact .nil
  | cons c t => exact .ws _ ⟨by simp, hs⟩ .nil

mutual
theorem flatten_layI (ind : Str) (cs : List Char) (hind : ∀ c ∈ ind, c ∈ cs) :
    ∀ (n : Node) (cnt : Nat) (pad : Str), (∀ c ∈ pad, c ∈ cs) →
    WsExt (wsOk cs) (flatten (layI ind cnt pad n)) (flatten n)
  | .elem sp name attrs kids, cnt, pad, hpad => by
      rw [layI_elem]
      split
      · have hb := flattenKids_layBodyI ind cs hind kids (cnt + 1) (pad ++ ind) true
          (List.forall_mem_append.2 ⟨hpad, hind⟩)
        have hw : WsExt (wsOk cs) (flattenKids (wsNode pad)) [] :=
          wsExt_wsNode pad (fun c hc => .inr (hpad c hc))
        simp only [flatten, Dec.flattenKids_append, List.append_assoc]
        exact .keep _ (hb.append (hw.append (WsExt.refl _ _)))
      · exact WsExt.refl _ _
  | .text _, _, _, _ | .comment _, _, _, _ | .procinst _ _, _, _, _ | .directive _, _, _, _ =>
      WsExt.refl _ _
theorem flattenKids_layBodyI (ind : Str) (cs : List Char) (hind : ∀ c ∈ ind, c ∈ cs) :
    ∀ (ks : List Node) (cnt : Nat) (pad : Str) (first : Bool), (∀ c ∈ pad, c ∈ cs) →
    WsExt (wsOk cs) (flattenKids (layBodyI ind cnt pad first ks)) (flattenKids ks)
  | [], _, _, _, _ => .nil
  | k :: ks, cnt, pad, first, hpad => by
      cases hk : isElem k with
      | true =>
        have h1 := flatten_layI ind cs hind k cnt pad hpad
        have h2 := flattenKids_layBodyI ind cs hind ks cnt pad false hpad
        have hw1 : WsExt (wsOk cs) (flattenKids (wsNode ((if first then ['\n'] else []) ++ pad))) [] :=
          wsExt_wsNode _ (List.forall_mem_append.2
            ⟨forall_mem_optNl (.inl rfl), fun c hc => .inr (hpad c hc)⟩)
        have hw2 : WsExt (wsOk cs) (flattenKids (wsNode (nlOf cnt))) [] :=
          wsExt_wsNode _ (forall_mem_optNl (.inl rfl))
        simp only [layBodyI, hk, if_true, Dec.flattenKids_append, flattenKids]
        exact hw1.append (h1.append (hw2.append h2))
      | false =>
        have h2 := flattenKids_layBodyI ind cs hind ks cnt pad first hpad
        simp only [layBodyI, hk, Bool.false_eq_true, if_false, flattenKids]
        exact (WsExt.refl _ (flatten k)).append h2
end

/-- every character of `s` is one the decoder trims (`trimSet`: with keep-spaces the blank is not
    among them); asked of the prefix and the indent -/
def inTrim (cfg : DecCfg) (s : Str) : Prop := ∀ c ∈ s, (trimSet cfg).contains c = true

theorem inTrim_nil (cfg : DecCfg) : inTrim cfg [] := by intro c hc; simp at hc

theorem inTrim_append {cfg : DecCfg} {a b : Str} (ha : inTrim cfg a) (hb : inTrim cfg b) :
    inTrim cfg (a ++ b) :=
  List.forall_mem_append.2 ⟨ha, hb⟩

theorem trimSet_nl (cfg : DecCfg) : (trimSet cfg).contains '\n' = true := by
  unfold trimSet
  cases cfg.keepSpace <;> decide

theorem inTrim_of_blank (cfg : DecCfg) (hk : cfg.keepSpace = false) (s : Str)
    (hs : ∀ c ∈ s, c = ' ' ∨ c = '\t') : inTrim cfg s := by
  intro c hc
  unfold trimSet
  rw [hk]
  rcases hs c hc with h | h <;> subst h <;> decide

/-- `onText` sees a run through `strings.Trim` only -/
theorem onText_trim (cfg : DecCfg) (S : Strconv) (skey : Str) (na : Entries) (n : Option Val)
    {w w' : Str} (r : Str) (hw : inTrim cfg w) (hw' : inTrim cfg w') :
    onText cfg S skey na n (w ++ r ++ w') = onText cfg S skey na n r := by
  unfold onText; rw [trimChars_ws _ w r w' hw hw']

theorem onText_blank (cfg : DecCfg) (S : Strconv) (skey : Str) (na : Entries) (n : Option Val)
    {a : Str} (h : inTrim cfg a) : onText cfg S skey na n a = (na, n) := by
  unfold onText
  rw [(trimChars_eq_nil_iff _ a).2 h]
  simp [escDecIf, escapeChars]

/-- the pending character data of the laid-out run (`pend`) and of the original run (`pend0`):
    they differ by leading trimmed characters, and the original pending text, seen again, changes
    nothing (it has been processed already) -/
def PendRel (cfg : DecCfg) (S : Strconv) (skey : Str) (na : Entries) (n : Option Val)
    (pend pend0 : Option Str) : Prop :=
  match pend0 with
  | none => pend = none ∨ ∃ w, pend = some w ∧ inTrim cfg w
  | some r0 => (∃ w, pend = some (w ++ r0) ∧ inTrim cfg w) ∧ onText cfg S skey na n r0 = (na, n)

theorem PendRel.split {cfg : DecCfg} {S : Strconv} {skey : Str} {na : Entries} {n : Option Val}
    {pend pend0 : Option Str} (h : PendRel cfg S skey na n pend pend0) :
    ∃ w, pend.getD [] = w ++ pend0.getD [] ∧ inTrim cfg w
      ∧ onText cfg S skey na n (pend0.getD []) = (na, n) := by
  cases pend0 with
  | none =>
    have h0 := onText_blank cfg S skey na n (inTrim_nil cfg)
    rcases h with rfl | ⟨w, rfl, hw⟩
    · exact ⟨[], rfl, inTrim_nil cfg, h0⟩
    · exact ⟨w, (List.append_nil w).symm, hw, h0⟩
  | some r0 =>
    obtain ⟨⟨w, rfl, hw⟩, hfix⟩ := h
    exact ⟨w, rfl, hw, hfix⟩

theorem PendRel.onText_ws {cfg : DecCfg} {S : Strconv} {skey : Str} {na : Entries} {n : Option Val}
    {pend pend0 : Option Str} (h : PendRel cfg S skey na n pend pend0) (s : Str) (hs : inTrim cfg s) :
    onText cfg S skey na n (pend.getD [] ++ s) = (na, n) := by
  obtain ⟨w, hw1, hw2, hfix⟩ := h.split
  rw [hw1, onText_trim cfg S skey na n _ hw2 hs]
  exact hfix

theorem PendRel.onText_text {cfg : DecCfg} {S : Strconv} {skey : Str} {na : Entries} {n : Option Val}
    {pend pend0 : Option Str} (h : PendRel cfg S skey na n pend pend0) (s : Str) :
    onText cfg S skey na n (pend.getD [] ++ s) = onText cfg S skey na n (pend0.getD [] ++ s)
    ∧ PendRel cfg S skey (onText cfg S skey na n (pend0.getD [] ++ s)).1
        (onText cfg S skey na n (pend0.getD [] ++ s)).2
        (some (pend.getD [] ++ s)) (some (pend0.getD [] ++ s)) := by
  obtain ⟨w, hw1, hw2, _⟩ := h.split
  have ht := onText_trim cfg S skey na n (pend0.getD [] ++ s) hw2 (inTrim_nil cfg)
  rw [List.append_nil, ← List.append_assoc, ← hw1] at ht
  -- the run seen a second time changes nothing: `Surf.onText_split` with nothing added
  have hfix := Surf.onText_split cfg S skey na n (pend0.getD [] ++ s) []
  rw [List.append_nil] at hfix
  refine ⟨ht, ⟨w, ?_, hw2⟩, hfix⟩
  rw [hw1, List.append_assoc]

theorem kids'_append (cfg : DecCfg) (S : Strconv) (skey : Str) : ∀ (a b : List Node)
    (st : Entries × Option Val × Nat × Option Str),
    Fold.kids' cfg S skey st (a ++ b) = Fold.kids' cfg S skey (Fold.kids' cfg S skey st a) b
  | [], _, _ => by simp [Fold.kids']
  | k :: a, b, (na, n, seq, pend) => by
      cases k <;> simp only [List.cons_append, Fold.kids', kids'_append cfg S skey a b]

/-- a white-space node changes nothing but the pending text, which stays white space when the
    original run has no pending text -/
theorem kids'_wsNode (cfg : DecCfg) (S : Strconv) (skey : Str)
    (st : Entries × Option Val × Nat × Option Str) (pend0 : Option Str)
    (h : PendRel cfg S skey st.1 st.2.1 st.2.2.2 pend0) (s : Str) (hs : inTrim cfg s) :
    ∃ pend', Fold.kids' cfg S skey st (wsNode s) = (st.1, st.2.1, st.2.2.1, pend')
      ∧ (pend0 = none → PendRel cfg S skey st.1 st.2.1 pend' none) := by
  obtain ⟨na, n, seq, pend⟩ := st
  unfold wsNode
  split
  · exact ⟨pend, by simp [Fold.kids'], fun e => e ▸ h⟩
  · refine ⟨some (pend.getD [] ++ s), ?_, ?_⟩
    · simp only [Fold.kids', PendRel.onText_ws h s hs]
    · rintro rfl
      refine .inr ⟨_, rfl, inTrim_append ?_ hs⟩
      rcases h with rfl | ⟨w, rfl, hw⟩
      · exact inTrim_nil cfg
      · exact hw

/-- two states of the fold over children that differ at most in the pending text, and there
    only as `PendRel` allows (`a`: over the laid-out children, `b`: over the children) -/
def SameUpToPend (cfg : DecCfg) (S : Strconv) (skey : Str)
    (a b : Entries × Option Val × Nat × Option Str) : Prop :=
  a.1 = b.1 ∧ a.2.1 = b.2.1 ∧ a.2.2.1 = b.2.2.1 ∧ PendRel cfg S skey b.1 b.2.1 a.2.2.2 b.2.2.2

/-- the layout leaves the value of an element unchanged, once it leaves the fold over its
    children unchanged (`hK`: what `fold_layBodyI` says of the children, started as `Fold.value`
    starts the fold) -/
theorem fold_layI (cfg : DecCfg) (S : Strconv) {ind : Str} {sp name : Str} {attrs : List Attr}
    {kids : List Node} {cnt : Nat} {pad : Str} (hpad : inTrim cfg pad)
    (hK : SameUpToPend cfg S (elemKey cfg S name)
      (Fold.kids' cfg S (elemKey cfg S name) (loadAttrs cfg S attrs, none, 0, none)
        (layBodyI ind (cnt + 1) (pad ++ ind) true kids))
      (Fold.kids' cfg S (elemKey cfg S name) (loadAttrs cfg S attrs, none, 0, none) kids)) :
    Fold.value cfg S (layI ind cnt pad (.elem sp name attrs kids))
      = Fold.value cfg S (.elem sp name attrs kids) := by
  rw [layI_elem]
  split
  · obtain ⟨h1, h2, _, h4⟩ := hK
    rw [← h1, ← h2] at h4
    obtain ⟨pend', hw, _⟩ := kids'_wsNode cfg S _ _ _ h4 pad hpad
    simp only [Fold.value, kids'_append, hw, h1, h2]
  · rfl

/-- folding the laid-out children ends in the same state `(na, n, seq)` as folding the children,
    with the pending texts `PendRel`-related (`SameUpToPend` written out: the four conjuncts are
    the components of the state) -/
theorem fold_layBodyI (cfg : DecCfg) (S : Strconv) (ind : Str) (hind : inTrim cfg ind) :
    ∀ (ks : List Node) (cnt : Nat) (pad : Str) (first : Bool) (skey : Str) (na : Entries)
      (n : Option Val) (seq : Nat) (pend pend0 : Option Str), inTrim cfg pad →
      PendRel cfg S skey na n pend pend0 →
      (Fold.kids' cfg S skey (na, n, seq, pend) (layBodyI ind cnt pad first ks)).1
          = (Fold.kids' cfg S skey (na, n, seq, pend0) ks).1
      ∧ (Fold.kids' cfg S skey (na, n, seq, pend) (layBodyI ind cnt pad first ks)).2.1
          = (Fold.kids' cfg S skey (na, n, seq, pend0) ks).2.1
      ∧ (Fold.kids' cfg S skey (na, n, seq, pend) (layBodyI ind cnt pad first ks)).2.2.1
          = (Fold.kids' cfg S skey (na, n, seq, pend0) ks).2.2.1
      ∧ PendRel cfg S skey (Fold.kids' cfg S skey (na, n, seq, pend0) ks).1
          (Fold.kids' cfg S skey (na, n, seq, pend0) ks).2.1
          (Fold.kids' cfg S skey (na, n, seq, pend) (layBodyI ind cnt pad first ks)).2.2.2
          (Fold.kids' cfg S skey (na, n, seq, pend0) ks).2.2.2 := by
  intro ks
  induction ks using Node.forest_ind with
  | nil =>
    intro _ _ _ _ _ _ _ _ _ _ h
    simpa only [layBodyI, Fold.kids', true_and] using h
  | elem sp name attrs kids ks ihk ihr =>
    intro cnt pad first skey na n seq pend pend0 hpad h
    have hv := fold_layI cfg S (sp := sp) hpad (ihk (cnt + 1) (pad ++ ind) true (elemKey cfg S name)
      (loadAttrs cfg S attrs) none 0 none none (inTrim_append hpad hind) (.inl rfl))
    rw [layI_elem] at hv
    have hw1 : inTrim cfg ((if first then ['\n'] else []) ++ pad) :=
      inTrim_append (forall_mem_optNl (trimSet_nl cfg)) hpad
    -- the layout text before the child changes nothing but the pending text (`hp1`) …
    obtain ⟨p1, hp1, _⟩ := kids'_wsNode cfg S skey (na, n, seq, pend) pend0 h _ hw1
    simp only [layBodyI, isElem, if_true, kids'_append, hp1, layI_elem]
    -- … the laid-out child has the value of the child (`hv`) and resets the pending text …
    simp only [Fold.kids', hv]
    generalize addChild na (elemKey cfg S name)
      (seqDecorate cfg seq (Fold.value cfg S (.elem sp name attrs kids))).1 = na1
    generalize (seqDecorate cfg seq (Fold.value cfg S (.elem sp name attrs kids))).2 = seq1
    -- … the newline after it leaves white space pending (`hrel`), and the rest follows with `pend0 = none`
    obtain ⟨p2, hp2, hrel⟩ := kids'_wsNode cfg S skey (na1, n, seq1, none) none (.inl rfl) (nlOf cnt)
      (forall_mem_optNl (trimSet_nl cfg))
    rw [kids'_append, hp2]
    exact ihr cnt pad false skey na1 n seq1 p2 none hpad (hrel rfl)
  | text s ks ih =>
    intro cnt pad first skey na n seq pend pend0 hpad h
    obtain ⟨he, hrel⟩ := PendRel.onText_text h s
    simp only [layBodyI, isElem, Bool.false_eq_true, if_false, Fold.kids', he]
    exact ih cnt pad first skey _ _ seq _ _ hpad hrel
  | comment _ ks ih | procinst _ _ ks ih | directive _ ks ih =>
    intro cnt pad first skey na n seq pend pend0 hpad _
    simp only [layBodyI, isElem, Bool.false_eq_true, if_false, Fold.kids']
    exact ih cnt pad first skey na n seq none none hpad (.inl rfl)

theorem plainText_of_blank (cfg : EncCfg) (s : Str) (h : ∀ c ∈ s, c = ' ' ∨ c = '\t') :
    plainText cfg s = true :=
  beq_iff_eq.2 (escIf_of_plain cfg fun c hc => by rcases h c hc with rfl | rfl <;> rfl)

/-- the token stream of the indented document: the prefix as a text token (if not empty), then
    the tokens of the layout tree (the root has no trailing newline) -/
def docToksI (pfx ind : Str) (t : Node) : List Tok :=
  flattenKids (wsNode pfx) ++ flatten (layI ind 0 pfx t)

theorem wsNode_not_start (s : Str) : ∀ t ∈ flattenKids (wsNode s), ¬ isStart t := by
  unfold wsNode
  split
  · intro t ht; simp [flattenKids] at ht
  · intro t ht
    simp only [flattenKids, flatten, List.append_nil, List.mem_singleton] at ht
    subst ht
    simp [isStart]

theorem newMapXml_docToksI (cfg : DecCfg) (S : Strconv) (fin : StreamEnd) (pfx ind : Str)
    (hpfx : inTrim cfg pfx) (hind : inTrim cfg ind) : ∀ (n : Node), isElem n = true →
    newMapXml cfg S (docToksI pfx ind n) fin = newMapXml cfg S (flatten n) fin
  | .elem sp name attrs kids, _ => by
      have hv := fold_layI cfg S (sp := sp) hpfx (fold_layBodyI cfg S ind hind kids 1 (pfx ++ ind) true
        (elemKey cfg S name) (loadAttrs cfg S attrs) none 0 none none (inTrim_append hpfx hind) (.inl rfl))
      have h1 := Dec.newMapXml_tree cfg S fin (flattenKids (wsNode pfx)) [] (wsNode_not_start pfx)
        sp name attrs
      have h2 := Dec.newMapXml_tree cfg S fin [] [] (by simp) sp name attrs kids
      simp only [List.append_nil, List.nil_append] at h1 h2
      unfold docToksI
      rw [layI_elem] at hv ⊢
      rw [h1, h2]
      simp only [Fold.doc, hv]

end Mxj.Enc
