/-
  Mxj.Lemmas.EncodeSym2 — C02 for every symmetric option pair: a value of the decoded shape is
  its own image (up to entry order), the shape is invariant under normalisation, the decoding
  conventions produce it.
-/
import Mxj.Lemmas.EncodeSym1
namespace Mxj.EncSym
open Mxj Mxj.Enc

variable {d : DecCfg} {S : Strconv} {e : EncCfg}

theorem textImg_of_textOk {v : Val} (h : textOk d S v = true) :
    textImg d S (leafText v) = some v := by
  have hr := attrOk_reparse (textOk_attrOk h)
  simp only [textOk, Bool.and_eq_true, beq_iff_eq, Bool.not_eq_true'] at h
  simp only [textImg, h.1.2, h.2, Bool.false_eq_true, if_false, hr]

theorem finishImageG_leaf (e : EncCfg) {v : Val} (h : leafChildOk d S v = true) :
    finishImageG d e [] (textImg d S (leafText v)) = v := by
  simp only [leafChildOk, Bool.or_eq_true, decide_eq_true_eq, Bool.and_eq_true,
    Bool.not_eq_true'] at h
  rcases h with rfl | ⟨hm, h⟩
  · rfl
  · rw [textImg_of_textOk h]
    simp [finishImageG, hm]

/-- the text-key entries (at most one on a map with distinct keys) -/
def textEntriesG (e : EncCfg) : Entries → Entries
  | [] => []
  | (k, v) :: rest =>
      if isAttrK e k then textEntriesG e rest
      else if k = e.textK then (k, v) :: textEntriesG e rest
      else textEntriesG e rest

theorem textEntriesG_of_not_mem (e : EncCfg) :
    ∀ (kvs : Entries), e.textK ∉ keys kvs → textEntriesG e kvs = []
  | [], _ => rfl
  | (k, v) :: rest, h => by
      simp only [keys_cons, List.mem_cons, not_or] at h
      have hk : ¬ k = e.textK := fun he => h.1 he.symm
      simp only [textEntriesG, hk, if_false, ite_self]
      exact textEntriesG_of_not_mem e rest h.2

theorem textEntriesG_lookup (hta : isAttrK e e.textK = false) :
    ∀ (kvs : Entries), (keys kvs).Nodup →
    textEntriesG e kvs = match lookup e.textK kvs with
      | some v => [(e.textK, v)]
      | none => []
  | [], _ => rfl
  | (k, v) :: rest, hd => by
      simp only [keys_cons, List.nodup_cons] at hd
      by_cases hk : k = e.textK
      · subst hk
        simp only [textEntriesG, hta, Bool.false_eq_true, if_false, if_true, lookup,
          textEntriesG_of_not_mem e rest hd.1]
      · have hk' : ¬ e.textK = k := fun he => hk he.symm
        simp only [textEntriesG, hk, if_false, ite_self, lookup, hk']
        exact textEntriesG_lookup hta rest hd.2

/-- the middle clause of the decoded shape of a map (an entry besides the text entry, or with
    simple-values-as-map any entry) reads the keys only, up to order -/
theorem notTextOnly_perm (k : Str) (b : Bool) {l l' : Entries} (h : l.Perm (Val.normEntries l')) :
    (l.any (fun x => x.1 != k) || (b && !l.isEmpty))
      = (l'.any (fun x => x.1 != k) || (b && !l'.isEmpty)) := by
  rw [h.any_eq, h.isEmpty_eq, normEntries_eq_map, List.any_map, List.isEmpty_map]
  rfl

/-- `finishImageG` is the map of the entries and the text entry whenever that map passes the middle
    clause of the decoded shape (`T` is a variable so that the lemma can be used with
    `T := textEntriesG e kvs`) -/
theorem finishImageG_map (d : DecCfg) (e : EncCfg) (base T : Entries) (txt : Option Val)
    (hT : T = match txt with | some t => [(e.textK, t)] | none => [])
    (h : ((base ++ T).any (fun x => x.1 != e.textK) || (d.asMap && !(base ++ T).isEmpty)) = true) :
    finishImageG d e base txt = .map (base ++ T) := by
  subst hT
  cases base with
  | cons _ _ => cases txt <;> simp [finishImageG]
  | nil =>
    cases txt with
    | none => simp at h
    | some t =>
      have hm : d.asMap = true := by simpa using h
      simp [finishImageG, hm]

/- The image of a map lists the attribute entries, then the element entries, then the text entry
   (`finishImageG`), whatever their order in the map: on a decoded map it is the map itself only up
   to the order of the entries.  Hence the entries leg is a permutation between normalised entry
   lists, and `textEntriesG e kvs` stands for the text entry moved to the end (`hT` below shows it
   is what `finishImageG` appends). -/
mutual
theorem image_decodedChildG (d : DecCfg) (S : Strconv) (e : EncCfg)
    (hta : isAttrK e e.textK = false) : ∀ (v : Val), DecodedChildG d S e v = true →
    (imageSibsG d S e v).map Val.norm = (sibsOf v).map Val.norm
  | .null, h => by cases h
  | .bool _, h | .num _, h | .str _, h => by
      rw [imageSibsG_scalar rfl, finishImageG_leaf e h]; rfl
  | .list [], h => by cases (DecodedChildG_list h).1
  | .list (x :: xs), h => image_decodedListG d S e hta (x :: xs) (DecodedChildG_list h).2
  | .map kvs, h => by
      obtain ⟨hnd, hE⟩ := DecodedChildG_map h
      simp only [DecodedChildG, Bool.and_eq_true] at h
      have hperm := image_decodedEntriesG d S e hta kvs hE
      have hT : textEntriesG e kvs = match imageTextG d S e kvs with
          | some t => [(e.textK, t)]
          | none => [] := by
        rw [textEntriesG_lookup hta kvs hnd]
        unfold imageTextG
        cases hl : lookup e.textK kvs with
        | none => rfl
        | some tv => simp only [textImg_of_textOk (textEntry_okG hta kvs tv hE hl)]
      -- the middle clause holds of the image's entries too: it reads their normal forms, which
      -- are those of the map up to order
      have hC := ((notTextOnly_perm e.textK d.asMap (.refl _)).symm.trans
        (notTextOnly_perm e.textK d.asMap hperm)).trans h.1.2
      simp only [imageSibsG, sibsOf, List.map_cons, List.map_nil, List.cons.injEq, and_true]
      rw [finishImageG_map d e _ (textEntriesG e kvs) _ hT hC]
      exact (norm_map_congr hnd hperm.symm).symm
theorem image_decodedListG (d : DecCfg) (S : Strconv) (e : EncCfg)
    (hta : isAttrK e e.textK = false) : ∀ (xs : List Val), DecodedListG d S e xs = true →
    (imageMembersG d S e xs).map Val.norm = xs.map Val.norm
  | [], _ => rfl
  | x :: xs, h => by
      have h := DecodedListG_cons h
      have h1 := image_decodedChildG d S e hta x h.1.2
      have hs : sibsOf x = [x] := by
        cases x <;> first | rfl | cases h.1.1
      rw [hs] at h1
      simp only [imageMembersG, List.map_append, h1, image_decodedListG d S e hta xs h.2,
        List.map_cons, List.map_nil, List.singleton_append]
theorem image_decodedEntriesG (d : DecCfg) (S : Strconv) (e : EncCfg)
    (hta : isAttrK e e.textK = false) : ∀ (kvs : Entries), DecodedEntriesG d S e kvs = true →
    (Val.normEntries (imageAttrsG d S e kvs ++ imageElemsG d S e kvs ++ textEntriesG e kvs)).Perm
      (Val.normEntries kvs)
  | [], _ => .nil
  | (k, v) :: rest, h => by
      obtain ⟨hr, hc⟩ := DecodedEntriesG_cons h
      have ih := image_decodedEntriesG d S e hta rest hr
      simp only [normEntries_eq_map, List.map_append] at ih ⊢
      rcases hc with ⟨ha, hv, _⟩ | ⟨ha, rfl, _⟩ | ⟨ha, hk, _, hv⟩
      · have hlt : (attrValue v).getD [] = leafText v := by
          cases v <;> first | rfl | cases attrOk_scalar hv
          rename_i b; cases b <;> rfl
        simp only [imageAttrsG, imageElemsG, textEntriesG, ha, if_true, Bool.or_true, hlt,
          attrOk_reparse hv, List.map_cons, List.cons_append]
        exact ih.cons _
      · simp only [imageAttrsG, imageElemsG, textEntriesG, ha, decide_true, Bool.true_or,
          Bool.false_eq_true, if_false, if_true, List.map_cons]
        exact List.perm_middle.trans (ih.cons _)
      · have hc : (collectV (imageSibsG d S e v)).norm = v.norm := by
          apply collectV_sibsOf_norm _ _ (image_decodedChildG d S e hta v hv)
          rintro xs rfl
          exact (DecodedChildG_list hv).1
        simp only [imageAttrsG, imageElemsG, textEntriesG, ha, hk, decide_false, Bool.or_false,
          Bool.false_eq_true, if_false, List.map_cons, hc]
        simp only [List.append_assoc, List.cons_append] at ih ⊢
        exact List.perm_middle.trans (ih.cons _)
end

/-- a value of the shape the decoder produces is, up to entry order, its own image -/
theorem image_decodedG (hta : isAttrK e e.textK = false) {v : Val}
    (h : DecodedG d S e v = true) : imageG d S e v ≈ᵥ v := by
  rw [DecodedG_iff] at h
  apply collectV_sibsOf_norm _ _ (image_decodedChildG d S e hta v h.2)
  rintro xs rfl
  cases h.1

theorem attrOk_norm (d : DecCfg) (S : Strconv) (v : Val) : attrOk d S v.norm = attrOk d S v := by
  cases h : isScalar v
  · simp only [attrOk, isScalar_norm, h, Bool.false_and]
  · rw [norm_of_scalar h]

theorem textOk_norm (d : DecCfg) (S : Strconv) (v : Val) : textOk d S v.norm = textOk d S v := by
  cases h : isScalar v
  · simp only [textOk, attrOk, isScalar_norm, h, Bool.false_and]
  · rw [norm_of_scalar h]

mutual
theorem DecodedChildG_norm (d : DecCfg) (S : Strconv) (e : EncCfg) :
    ∀ (v : Val), DecodedChildG d S e v = true → DecodedChildG d S e v.norm = true
  | .null, h | .bool _, h | .num _, h | .str _, h => h
  | .list xs, h => by
      have h := DecodedChildG_list h
      simp only [Val.norm, DecodedChildG, Bool.and_eq_true, decide_eq_true_eq, length_normList]
      exact ⟨h.1, DecodedListG_norm d S e xs h.2⟩
  | .map kvs, h => by
      simp only [DecodedChildG, Bool.and_eq_true] at h
      obtain ⟨⟨hd, hany⟩, hE⟩ := h
      have hp := sortByKey_perm (Val.normEntries kvs)
      simp only [Val.norm, DecodedChildG, Bool.and_eq_true]
      refine ⟨⟨distinctKeys_norm hd, ?_⟩, ?_⟩
      · exact (notTextOnly_perm _ _ hp).trans hany
      · exact entrywise_sortByKey DecodedEntriesG_iff (DecodedEntriesG_norm d S e kvs hE)
theorem DecodedListG_norm (d : DecCfg) (S : Strconv) (e : EncCfg) :
    ∀ (xs : List Val), DecodedListG d S e xs = true →
    DecodedListG d S e (Val.normList xs) = true
  | [], _ => rfl
  | x :: xs, h => by
      have h := DecodedListG_cons h
      simp only [Val.normList, DecodedListG, Bool.and_eq_true, isList_norm, Bool.not_eq_true']
      exact ⟨⟨h.1.1, DecodedChildG_norm d S e x h.1.2⟩, DecodedListG_norm d S e xs h.2⟩
theorem DecodedEntriesG_norm (d : DecCfg) (S : Strconv) (e : EncCfg) :
    ∀ (kvs : Entries), DecodedEntriesG d S e kvs = true →
    DecodedEntriesG d S e (Val.normEntries kvs) = true
  | [], _ => rfl
  | (k, v) :: rest, h => by
      obtain ⟨hr, hc⟩ := DecodedEntriesG_cons h
      simp only [Val.normEntries, DecodedEntriesG, Bool.and_eq_true, attrOk_norm, textOk_norm,
        DecodedEntriesG_norm d S e rest hr, and_true]
      rcases hc with ⟨ha, hv, hk⟩ | ⟨ha, rfl, hv⟩ | ⟨ha, hk, hf, hv⟩
      · simp only [ha, if_true, hv, hk, decide_true, Bool.and_self]
      · simp only [ha, Bool.false_eq_true, if_false, if_true, hv]
      · simp only [ha, hk, Bool.false_eq_true, if_false, hf, decide_true,
          DecodedChildG_norm d S e v hv, Bool.and_self]
end

theorem DecodedG_norm {v : Val} (h : DecodedG d S e v = true) : DecodedG d S e v.norm = true := by
  rw [DecodedG_iff] at h ⊢
  exact ⟨by rw [isList_norm]; exact h.1, DecodedChildG_norm d S e v h.2⟩

theorem attrOk_lf (hL : LeafLaw d S) (s : Str) : attrOk d S (lf d S s) = true := by
  simp only [attrOk, hL.scalar s, hL.reparse s, decide_true, Bool.and_self]

theorem textOk_lf (hL : LeafLaw d S) {s : Str} (ht : trimG d s = s) (hne : s ≠ []) :
    textOk d S (lf d S s) = true := by
  have hc := hL.clean s ht hne
  simp only [textOk, attrOk_lf hL, hc.1, beq_self_eq_true, Bool.true_and, Bool.not_eq_true',
    List.isEmpty_eq_false_iff.2 hc.2]

theorem DecodedListG_of_all : ∀ (vs : List Val), (∀ x ∈ vs, DecodedG d S e x = true) →
    DecodedListG d S e vs = true
  | [], _ => rfl
  | x :: xs, h => by
      have hx := h x (.head _)
      unfold DecodedG at hx
      simp only [DecodedListG, hx, Bool.true_and]
      exact DecodedListG_of_all xs (fun y hy => h y (.tail _ hy))

theorem DecodedChildG_collectV {vs : List Val} (hne : vs ≠ [])
    (h : ∀ x ∈ vs, DecodedG d S e x = true) : DecodedChildG d S e (collectV vs) = true := by
  match vs, hne, h with
  | [x], _, h =>
    exact (DecodedG_iff.1 (h x (.head _))).2
  | a :: b :: r, _, h =>
    simp only [collectV, DecodedChildG, List.length_cons, Bool.and_eq_true, decide_eq_true_eq]
    exact ⟨by omega, DecodedListG_of_all _ h⟩

theorem DecodedG_map {l : Entries} (hnd : (keys l).Nodup)
    (hall : ∀ x ∈ l, entryDecodedG d S e x = true)
    (hex : (l.any (fun x => x.1 != e.textK) || (d.asMap && !l.isEmpty)) = true) :
    DecodedG d S e (.map l) = true := by
  simp only [DecodedG, Val.isList, Bool.not_false, Bool.true_and, DecodedChildG, Bool.and_eq_true]
  exact ⟨⟨(distinctKeys_iff_nodup l).2 hnd, hex⟩, (DecodedEntriesG_iff l).2 hall⟩

/-- entries of the decoded shape, none under the text key, finished with a decoded text: a value of
    the decoded shape -/
theorem DecodedG_finishImageG (hta : isAttrK e e.textK = false) {base : Entries} {txt : Option Val}
    (hnd : (keys base).Nodup) (hB : ∀ x ∈ base, entryDecodedG d S e x = true)
    (hnot : e.textK ∉ keys base) (ht : ∀ tv, txt = some tv → textOk d S tv = true) :
    DecodedG d S e (finishImageG d e base txt) = true := by
  have hany : base.any (fun x => x.1 != e.textK) = !base.isEmpty := by
    cases base with
    | nil => rfl
    | cons x r =>
      have : x.1 ≠ e.textK := fun h => hnot (h ▸ .head _)
      simp only [List.any_cons, bne_iff_ne.2 this, Bool.true_or, List.isEmpty_cons, Bool.not_false]
  cases txt with
  | none =>
    simp only [finishImageG]
    split
    · rfl
    · rename_i hne
      rw [Bool.not_eq_true] at hne
      exact DecodedG_map hnd hB (by rw [hany, hne]; rfl)
  | some tv =>
    have htv := ht tv rfl
    simp only [finishImageG]
    split
    · rename_i hc
      have hsc := textOk_scalar htv
      simp only [Bool.and_eq_true, Bool.not_eq_true'] at hc
      simp only [DecodedG, DecodedChildG_scalar hsc, leafChildOk, hc.2, htv, Bool.not_false,
        Bool.and_self, Bool.or_true, Bool.and_true, Bool.not_eq_true']
      cases tv <;> first | rfl | cases hsc
    · rename_i hc
      rw [← insert_of_not_mem hnot]
      apply DecodedG_map (nodup_keys_insert hnd)
      · intro x hx
        rcases mem_insert hx with rfl | hx
        · simp only [entryDecodedG, hta, Bool.false_eq_true, if_false, if_true, htv]
        · exact hB x hx
      · rw [insert_of_not_mem hnot, List.any_append, hany]
        cases base with
        | cons _ _ => rfl
        | nil =>
          cases hm : d.asMap
          · rw [hm] at hc; exact absurd rfl hc
          · exact Bool.or_true _

theorem value_decoded_coreG (hs : Sym d e) (hF : FoldLaw d S) (hL : LeafLaw d S)
    (sp name : Str) (attrs : List Attr) (kids : List Node)
    (hattr : ∀ a ∈ attrs, isAttrK e (attrKey d S a.name) = true)
    (hcs : ∀ c ∈ Conv.childVals d S 0 kids,
      DecodedG d S e c.2 = true ∧ isElemKG e c.1 = true ∧ elemKey d S c.1 = c.1) :
    DecodedG d S e (Conv.value d S (.elem sp name attrs kids)) = true := by
  -- every entry of `groupOnto (loadAttrs …) (childVals …)` is an attribute entry (`hA`: key under
  -- `isAttrK`, value a cast leaf) or the `collectV` of the child values under an element key that
  -- the folding fixes (`hB`, by `lookup_groupOnto`); so none sits under the text key (`hnot`),
  -- the value is `finishImageG` of these entries and the first text run (`value_finishG`), and
  -- `DecodedG_finishImageG` concludes
  have hAnd := Dec.nodup_keys_loadAttrs d S attrs
  have hBnd := nodup_keys_groupOnto (loadAttrs d S attrs) (Conv.childVals d S 0 kids) hAnd
  have hA : ∀ x ∈ loadAttrs d S attrs, isAttrK e x.1 = true ∧ entryDecodedG d S e x = true := by
    intro x hx
    obtain ⟨a, ha, rfl⟩ := mem_loadAttrsG hs attrs x hx
    have hfix : attrKey d S ((attrKey d S a.name).drop e.attrPrefix.length) = attrKey d S a.name := by
      simp only [attrKey_eq, hs.pfx, List.drop_left, hF.attr_idem]
    exact ⟨hattr a ha, by simp only [entryDecodedG, hattr a ha, if_true, attrOk_lf hL, hfix,
      decide_true, Bool.and_self]⟩
  have hB : ∀ x ∈ Conv.groupOnto (loadAttrs d S attrs) (Conv.childVals d S 0 kids),
      entryDecodedG d S e x = true ∧ x.1 ≠ e.textK := by
    rintro ⟨k, v⟩ hx
    have hl := lookup_eq_some_of_mem hBnd hx
    rw [lookup_groupOnto] at hl
    split at hl
    · rename_i hk
      obtain ⟨c, hc, rfl⟩ := mem_keys.1 hk
      obtain ⟨_, hek, hfix⟩ := hcs c hc
      obtain ⟨hne, hna⟩ := isElemKG_iff.1 hek
      have hnone : lookup c.1 (loadAttrs d S attrs) = none := by
        cases hla : lookup c.1 (loadAttrs d S attrs) with
        | none => rfl
        | some w =>
          have := (hA _ (mem_of_lookup hla)).1
          rw [hna] at this
          cases this
      rw [hnone, collect_none _ (valsOf_ne_nil hk)] at hl
      cases hl
      have hdc := DecodedChildG_collectV (valsOf_ne_nil hk)
        (fun x hx => (hcs _ (mem_valsOf.1 hx)).1)
      exact ⟨by simp only [entryDecodedG, hna, hne, Bool.false_eq_true, if_false, hdc, hfix,
        decide_true, Bool.and_self], hne⟩
    · have := hA _ (mem_of_lookup hl)
      refine ⟨this.2, ?_⟩
      rintro (rfl : k = e.textK)
      rw [hs.txt_not_attr] at this
      cases this.1
  have hnot : e.textK ∉ keys (Conv.groupOnto (loadAttrs d S attrs) (Conv.childVals d S 0 kids)) :=
    fun hm => by
      obtain ⟨x, hx, hk⟩ := mem_keys.1 hm
      exact (hB x hx).2 hk
  rw [value_finishG hs sp name attrs kids hnot]
  apply DecodedG_finishImageG hs.txt_not_attr hBnd (fun x hx => (hB x hx).1) hnot
  intro tv htv
  obtain ⟨t, ht, rfl⟩ := Option.map_eq_some_iff.1 htv
  have htr := (textRuns_spec (S := S) hs kids _ t (List.mem_of_mem_head? ht)).1
  exact textOk_lf hL htr.1 htr.2

theorem childVals_decodedG (d : DecCfg) (S : Strconv) (e : EncCfg) (hs : Sym d e)
    (hF : FoldLaw d S) (hL : LeafLaw d S) : ∀ (ks : List Node) (seq : Nat),
    Conv.inDomainKids d S ks = true → NamesOkKidsG d S e ks = true →
    ∀ c ∈ Conv.childVals d S seq ks,
      DecodedG d S e c.2 = true ∧ isElemKG e c.1 = true ∧ elemKey d S c.1 = c.1 := by
  intro ks
  induction ks using Node.forest_ind with
  | nil => exact fun _ _ _ _ h => nomatch h
  | elem sp name attrs kids rest ihk ihr =>
    intro seq hin hn c h
    simp only [Conv.inDomainKids, Conv.inDomain, Bool.and_eq_true] at hin
    simp only [NamesOkKidsG, NamesOkG, Bool.and_eq_true, Bool.not_eq_true', List.all_eq_true] at hn
    rw [childVals_elemG hs.seq] at h
    rcases List.mem_cons.1 h with rfl | h
    · refine ⟨value_decoded_coreG hs hF hL sp name attrs kids hn.1.2.1 (ihk 0 hin.1.2.2 hn.1.2.2),
        isElemKG_iff.2 ⟨?_, hn.1.1⟩, hF.elem_idem name⟩
      rw [hs.txt]; exact of_decide_eq_true hin.1.1.1
    · exact ihr seq hin.2 hn.2 c h
  | text _ r ih | comment _ r ih | procinst _ _ r ih | directive _ r ih =>
    -- domain, names and child values all skip a child that is not an element
    exact ih

theorem value_decodedG (d : DecCfg) (S : Strconv) (e : EncCfg) (hs : Sym d e)
    (hF : FoldLaw d S) (hL : LeafLaw d S) (t : Node) (hin : Conv.inDomain d S t = true)
    (hn : NamesOkG d S e t = true) (ht : isElem t = true) :
    DecodedG d S e (Conv.value d S t) = true := by
  cases t with
  | elem sp name attrs kids =>
    simp only [Conv.inDomain, Bool.and_eq_true] at hin
    simp only [NamesOkG, Bool.and_eq_true, List.all_eq_true] at hn
    exact value_decoded_coreG hs hF hL sp name attrs kids hn.1
      (childVals_decodedG d S e hs hF hL kids 0 hin.2 hn.2)
  | _ => cases ht

end Mxj.EncSym
