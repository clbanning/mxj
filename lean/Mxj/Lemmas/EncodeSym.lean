/-
  Mxj.Lemmas.EncodeSym — the trusted-base laws about `strings.ToLower` (`LowerLaw`) and
  `strconv.ParseFloat` / `%v` (`FloatLaw`, `FloatTextLaw`) from which the abstract laws of
  Lemmas/EncodeSym1 (`FoldLaw`, `LeafLaw`) and of EncodeSym3 (`NumPlainLaw`) are derived; also the
  outcomes of `cast` (`cast_shape`), and the statement `FixedPointAt` with its executable form
  `fpCheck`.
-/
import Mxj.Lemmas.EncodeSym3
import Mxj.Lemmas.DecEq   -- not used here: `DecidableEq (Except …)` for the test vectors of the Props files above
import Mxj.Lemmas.CastChain
namespace Mxj.EncSym
open Mxj Mxj.Enc

/-- TB-LOWER: what C02 needs of `strings.ToLower`: it is idempotent, and it commutes with
    replacing '-' by '_' (it maps '-' and '_' to themselves and nothing else to '-'). -/
structure LowerLaw (S : Strconv) : Prop where
  idem : ∀ s, S.lower (S.lower s) = S.lower s
  snake : ∀ s, S.lower (snakeCase s) = snakeCase (S.lower s)

theorem snakeCase_idem (s : Str) : snakeCase (snakeCase s) = snakeCase s := by
  unfold snakeCase
  rw [List.map_map]
  apply List.map_congr_left
  intro c _
  simp only [Function.comp]
  by_cases h : c = '-'
  · subst h; decide
  · simp [h]

theorem FoldLaw_of (d : DecCfg) (S : Strconv) (h : d.lowerCase = true → LowerLaw S) :
    FoldLaw d S := by
  have hi := fun hl => (h hl).idem
  have hsn := fun hl => (h hl).snake
  constructor
  · intro s
    unfold elemKey
    cases hl : d.lowerCase <;> cases d.snake <;> simp [snakeCase_idem, hi, hsn, hl]
  · intro s
    unfold attrFold
    cases hl : d.lowerCase <;> cases d.snake <;> simp [snakeCase_idem, hi, hsn, hl]

/-- ASCII lower-casing (what `strings.ToLower` does on ASCII text) -/
def lowerAscii (s : Str) : Str := s.map Char.toLower

theorem toLower_idem (c : Char) : c.toLower.toLower = c.toLower := by
  simp only [Char.toLower]
  split
  · split
    · next h1 h2 =>
      simp only [UInt32.le_iff_toNat_le, UInt32.toNat_add, seval] at h1 h2
      omega
    · simp
  · rfl

theorem toLower_ne_dash (c : Char) (h : c ≠ '-') : c.toLower ≠ '-' := by
  simp only [Char.toLower]
  split
  · next h1 =>
    intro he
    have := congrArg Char.val he
    simp only [UInt32.le_iff_toNat_le, seval] at h1
    have h2 := congrArg UInt32.toNat this
    simp only [UInt32.toNat_add, seval] at h2
    omega
  · exact h

theorem lowerAscii_law (S : Strconv) (h : S.lower = lowerAscii) : LowerLaw S := by
  constructor
  · intro s
    rw [h]; unfold lowerAscii
    rw [List.map_map]
    apply List.map_congr_left
    intro c _
    exact toLower_idem c
  · intro s
    rw [h]; unfold lowerAscii snakeCase
    rw [List.map_map, List.map_map]
    apply List.map_congr_left
    intro c _
    simp only [Function.comp]
    by_cases hc : c = '-'
    · subst hc; decide
    · simp [hc, toLower_ne_dash c hc]

/-- the text Go writes for a boolean -/
def boolText (b : Bool) : Str := if b then "true".toList else "false".toList

/-- TB-FLOAT: what C02 needs of `strconv.ParseFloat(s, 64)` together with `fmt`'s `%v` of a
    float64 (`Strconv.parseFloat s = some (t, special)`: `t` is the tagged `%v` text, `numText t`
    the text itself): the `%v` text parses back to the same float; it is non-empty and contains
    none of the five characters the decoder trims (`trimSet`, Model/Xml: blank, tab, LF, CR and
    backspace `\x08`), so trimming leaves it alone (`trimG_of_no_ws`); the text of a finite float
    is not one of the words nan / inf / -inf; and the words true / false are neither floats nor
    such words. -/
structure FloatLaw (S : Strconv) : Prop where
  reparse : ∀ s t sp, S.parseFloat s = some (t, sp) → S.parseFloat (numText t) = some (t, sp)
  clean : ∀ s t sp, S.parseFloat s = some (t, sp) →
    numText t ≠ [] ∧ ∀ c ∈ numText t, c ≠ ' ' ∧ c ≠ '\t' ∧ c ≠ '\n' ∧ c ≠ '\r' ∧ c ≠ '\x08'
  finite_word : ∀ s t, S.parseFloat s = some (t, false) → isNanInfWord S (numText t) = false
  bool_not_float : ∀ b, S.parseFloat (boolText b) = none
  bool_not_word : ∀ b, isNanInfWord S (boolText b) = false

theorem leafText_bool (b : Bool) : leafText (.bool b) = boolText b := by
  cases b <;> rfl

/-- the outcomes of the decoder's leaf conversion with integer casting off -/
theorem cast_shape (d : DecCfg) (S : Strconv) (hI : d.cast.toInt = false) (s : Str) :
    lf d S s = .str s
    ∨ (∃ t sp, lf d S s = .num t ∧ d.cast.r = true ∧ d.cast.toFloat = true
        ∧ S.parseFloat s = some (t, sp) ∧ (d.cast.nanInf = true ∨ sp = false))
    ∨ (∃ b, lf d S s = .bool b ∧ d.cast.r = true ∧ d.cast.toBool = true) := by
  unfold lf
  by_cases h : cast S d.cast s [] = .str s
  · exact .inl h
  · obtain ⟨_, hr, _, he⟩ := cast_ne_str_guards S d.cast s [] h
    rw [he] at h ⊢
    rcases castChain_cases S d.cast s with ⟨_, _, hi, _⟩ | ⟨x, sp, hx, _, hf, hp, hn⟩ | ⟨b, hb, htb, _⟩ | hs
    · rw [hI] at hi; cases hi
    · exact .inr (.inl ⟨x, sp, hx, hr, hf, hp, hn⟩)
    · exact .inr (.inr ⟨b, hb, hr, htb⟩)
    · exact absurd hs h

/-- past the guards the leaf conversion is the decision chain of Lemmas/CastChain -/
theorem lf_eq_chain (d : DecCfg) (S : Strconv) {s : Str} (hr : d.cast.r = true)
    (hg : d.cast.nanInf = true ∨ isNanInfWord S s = false) : lf d S s = castChain S d.cast s :=
  cast_eq_chain S d.cast s [] (by simp [castSkipped]) hr (by rcases hg with h | h <;> simp [h])

theorem trimG_of_no_ws (d : DecCfg) (s : Str)
    (h : ∀ c ∈ s, c ≠ ' ' ∧ c ≠ '\t' ∧ c ≠ '\n' ∧ c ≠ '\r' ∧ c ≠ '\x08') : trimG d s = s := by
  unfold trimG
  apply trimChars_of_none
  intro c hc
  obtain ⟨h1, h2, h3, h4, h5⟩ := h c hc
  unfold trimSet
  split <;> simp [h1, h2, h3, h4, h5]

theorem trimG_boolText (d : DecCfg) (b : Bool) : trimG d (boolText b) = boolText b :=
  trimG_of_no_ws d _ (by cases b <;> decide +kernel)

theorem LeafLaw_of_noCast (d : DecCfg) (S : Strconv) (h : d.cast.r = false) : LeafLaw d S := by
  have hlf : ∀ s, lf d S s = .str s := fun s => cast_off S d.cast s [] h
  constructor
  · intro s; rw [hlf]; rfl
  · intro s; rw [hlf s]; exact hlf _
  · intro s ht hne; rw [hlf s]; exact ⟨ht, hne⟩

theorem LeafLaw_of (d : DecCfg) (S : Strconv) (hI : d.cast.toInt = false)
    (hfl : d.cast.r = true → FloatLaw S) : LeafLaw d S := by
  -- the three laws, outcome by outcome
  have key : ∀ s, isScalar (lf d S s) = true ∧ lf d S (leafText (lf d S s)) = lf d S s
      ∧ (trimG d s = s → s ≠ [] →
          trimG d (leafText (lf d S s)) = leafText (lf d S s) ∧ leafText (lf d S s) ≠ []) := by
    intro s
    rcases cast_shape d S hI s with h | ⟨t, sp, h, hr, hf, hp, hn⟩ | ⟨b, h, hr, hb⟩ <;> rw [h]
    · exact ⟨rfl, h, fun ht hne => ⟨ht, hne⟩⟩
    · have hFl := hfl hr
      have hc := hFl.clean s t sp hp
      refine ⟨rfl, ?_, fun _ _ => ⟨trimG_of_no_ws d _ hc.2, hc.1⟩⟩
      have hw := hn.imp_right fun (h : sp = false) => hFl.finite_word s t (h ▸ hp)
      exact (lf_eq_chain d S hr hw).trans
        (castChain_float S d.cast _ t sp (.inl hI) hf (hFl.reparse s t sp hp) hn)
    · have hFl := hfl hr
      rw [leafText_bool, lf_eq_chain d S hr (.inr (hFl.bool_not_word b))]
      -- the words true / false pass `boolScreen` and `parseBool` reads them
      exact ⟨rfl, castChain_bool S d.cast _ b (.inl hI) (.inr (hFl.bool_not_float b)) hb
          (by cases b <;> decide +kernel) (by cases b <;> decide +kernel),
        fun _ _ => ⟨trimG_boolText d b, by cases b <;> simp [boolText]⟩⟩
  exact ⟨fun s => (key s).1, fun s => (key s).2.1, fun s => (key s).2.2⟩

/-- under a symmetric pair, "the attribute key is recognised by the encoder" says that the
    folded local name of the attribute is non-empty -/
theorem isAttrK_attrKey (d : DecCfg) (S : Strconv) (e : EncCfg) (hs : Sym d e)
    (hne : e.attrPrefix ≠ []) (n : Str) :
    isAttrK e (attrKey d S n) = !(attrFold d S n).isEmpty := by
  rw [attrKey_eq, ← hs.pfx]; exact isAttrK_append e hne _

/-- … and with the empty prefix no key is an attribute key (so `NamesOkG` admits only
    attribute-free trees) -/
theorem isAttrK_of_empty_prefix (e : EncCfg) (h : e.attrPrefix = []) (k : Str) :
    isAttrK e k = false := by
  unfold isAttrK; simp [h]

theorem not_isAttrK_of_not_prefix (e : EncCfg) (k : Str)
    (h : e.attrPrefix.isPrefixOf k = false) : isAttrK e k = false := by
  unfold isAttrK; simp [h]

/-- TB-FLOAT (bytes): the `%v` text of a float contains no character that XML escaping would
    rewrite (Go writes numbers raw) -/
structure FloatTextLaw (S : Strconv) : Prop where
  no_escape : ∀ s t sp, S.parseFloat s = some (t, sp) → escapeChars (numText t) = numText t

theorem NumPlainLaw_of (d : DecCfg) (S : Strconv) (e : EncCfg) (hI : d.cast.toInt = false)
    (hfl : d.cast.r = true → FloatLaw S ∧ FloatTextLaw S) : NumPlainLaw d S e := by
  constructor
  intro s t h
  rcases cast_shape d S hI s with h1 | ⟨t', sp, h1, hr, _, hp, _⟩ | ⟨b, h1, _⟩
  · rw [h1] at h; simp at h
  · rw [h1] at h
    obtain rfl := Val.num.inj h
    obtain ⟨hF, hT⟩ := hfl hr
    refine ⟨?_, ?_⟩
    · exact List.isEmpty_eq_false_iff.2 (hF.clean s t' sp hp).1
    · unfold plainText escIf
      split
      · rw [hT.no_escape s t' sp hp]; simp
      · simp
  · rw [h1] at h; simp at h

/-- "XML → Map → XML → Map is a fixed point at `t`" (tree level) for the pair `(d, e)` -/
def FixedPointAt (d : DecCfg) (S : Strconv) (e : EncCfg) (t : Node) : Prop :=
  ∃ root, Conv.doc d S t = .map [root] ∧
    ∃ n, encTree e root.1 root.2.norm = .ok [n] ∧ Conv.doc d S n ≈ᵥ Conv.doc d S t

/-- the same, computed -/
def fpCheck (d : DecCfg) (S : Strconv) (e : EncCfg) (t : Node) : Bool :=
  match Conv.doc d S t with
  | .map [root] =>
    (match encTree e root.1 root.2.norm with
     | .ok [n] => decide (Conv.doc d S n ≈ᵥ Conv.doc d S t)
     | _ => false)
  | _ => false

theorem fpCheck_iff (d : DecCfg) (S : Strconv) (e : EncCfg) (t : Node) :
    fpCheck d S e t = true ↔ FixedPointAt d S e t := by
  unfold fpCheck FixedPointAt
  constructor
  · intro h
    split at h
    · rename_i root hdoc
      split at h
      · rename_i n hn
        exact ⟨root, hdoc, n, hn, of_decide_eq_true h⟩
      · simp at h
    · simp at h
  · rintro ⟨root, hdoc, n, hn, heq⟩
    rw [hdoc] at heq
    simp only [hdoc, hn]
    exact decide_eq_true heq

end Mxj.EncSym
