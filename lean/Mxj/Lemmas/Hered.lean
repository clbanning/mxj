/-
  Mxj.Lemmas.Hered — hereditary properties of values: the structure `Hered P` (`P` passes from a list
  to its members and from a map to its entries), and that every query step (`selKey`, `stepKey`,
  `stepWild`, `pick`, `expand`, hence `stepFn` and `run`) returns pieces of its argument and so keeps
  every such `P`.  `wf` is hereditary (`hered_wf`, here); so are `noListInList` (`hered_noLL`,
  Lemmas.PathIdx) and `noDashKeys` (`hered_noDash`, Lemmas.Wrapper).
-/
import Mxj.Lemmas.Path
namespace Mxj
open Denote

/-- `P` passes from a list to its members and from a map to the values of its entries -/
structure Hered (P : Val → Prop) : Prop where
  list : ∀ {xs : List Val}, P (.list xs) → ∀ x ∈ xs, P x
  map : ∀ {kvs : Entries}, P (.map kvs) → ∀ e ∈ kvs, P e.2

namespace Hered
variable {P : Val → Prop} (h : Hered P)
include h

/- Each lemma of this namespace bears the name of the function it speaks of (`h.lookup`, `h.expand`,
   `h.stepFn`, …).  From its declaration on that name means the lemma here, so a later statement that
   needs the function writes it in full (`Mxj.lookup`, `Denote.expand`). -/

theorem lookup {kvs : Entries} {k : Str} {v : Val} (hv : P (.map kvs))
    (hl : Mxj.lookup k kvs = some v) : P v :=
  h.map hv (k, v) (mem_of_lookup hl)

theorem expand {v : Val} (hv : P v) : ∀ w ∈ expand v, P w := by
  cases v with
  | list xs => exact h.list hv
  | _ => intro w hw; cases List.mem_singleton.1 hw; exact hv

theorem selKey (k : Str) {v : Val} (hv : P v) : ∀ w ∈ selKey k v, P w := by
  cases v with
  | map kvs => intro w hw; exact h.lookup hv (Option.mem_toList.1 hw)
  | _ => intro w hw; cases hw

theorem wildOne {x : Val} (hx : P x) : ∀ w ∈ wildMember x, P w := by
  cases x with
  | map kvs =>
    intro w hw
    obtain ⟨e, he, rfl⟩ := List.mem_map.1 hw
    exact h.map hx e he
  | _ => intro w hw; cases List.mem_singleton.1 hw; exact hx

theorem stepFn (s : Step) {v : Val} (hv : P v) : ∀ w ∈ stepFn s v, P w := by
  cases s with
  | key k =>
    cases v with
    | list xs => exact List.forall_mem_flatMap.2 fun x hx => h.selKey k (h.list hv x hx)
    | _ => exact h.selKey k hv
  | wild =>
    cases v with
    | list xs => exact List.forall_mem_flatMap.2 fun x hx => h.wildOne (h.list hv x hx)
    | map kvs => exact h.wildOne hv
    | _ => intro w hw; cases hw
  | idx k i =>
    refine List.forall_mem_flatMap.2 fun x hx w hw => ?_
    cases x with
    | map kvs =>
      exact List.forall_mem_flatMap.2 (fun y hy => h.expand (h.selKey k (h.expand hv _ hx) y hy)) w
        (List.mem_of_getElem? (Option.mem_toList.1 hw))
    | _ => cases hw

theorem run (steps : List Step) : ∀ fr : List Val, (∀ v ∈ fr, P v) → ∀ w ∈ run steps fr, P w := by
  induction steps with
  | nil => exact fun _ hfr => hfr
  | cons s rest ih =>
    intro fr hfr
    rw [run_cons]
    exact ih _ (List.forall_mem_flatMap.2 fun v hv => h.stepFn s (hfr v hv))

end Hered

theorem hered_wf : Hered fun v => v.wf = true :=
  ⟨fun hv => (Val.wfList_iff _).1 ((Val.wf_list _).1 hv),
   fun hv => (Val.wfEntries_iff _).1 ((Val.wf_map _).1 hv).1⟩

end Mxj
