/-
  Mxj.Lemmas.Mutate — the base of the update modules (NewMap, Update; C10, C11, C12, part of C20).
  `setPath` and `erasePath` are one traversal `modPath`, with the reads (`getPath`) after it: frame,
  prefix, below.  The walker and the locations (`walkLoc`, `getLoc`, `updLoc`, `prevLoc`) on a path
  that runs through maps only (`noListBefore`, with a Boolean form `noListBeforeB`), and the Go-level
  operations (`ValuesForPath`, `Exists`, `SetValueForPath`, `Remove`, `RenameKey`) on a dot-path
  of safe keys.
-/
import Mxj.Model.Mutate
import Mxj.Model.KeySpec
import Mxj.Lemmas.PathIdx
import Mxj.Lemmas.Assoc
namespace Mxj

/-! ### lists neither of which is a prefix of the other -/

/-- the notion behind `Upd.Incomp` (locations) and `NM.incomparable` (key paths) -/
theorem incomp_cons_cons {α : Type} (k j : α) (p q : List α) :
    (¬ (k :: p) <+: (j :: q) ∧ ¬ (j :: q) <+: (k :: p)) ↔ k ≠ j ∨ (¬ p <+: q ∧ ¬ q <+: p) := by
  rw [List.cons_prefix_cons, List.cons_prefix_cons, eq_comm (a := j)]
  by_cases h : k = j <;> simp [h]

/-! ### `getPath`: equations, inversion, what descends along it

  What follows from `getPath m ks = some v` goes by the induction of `getPath` itself: the case of
  an entry found (`case2`) goes on, the two cases that fail contradict the hypothesis.  Under
  `getPath m ks = none` it is the empty path that contradicts, and the last case (no map) splits
  once more: a list is what `noListBefore` excludes, a scalar stops every walker. -/

theorem getPath_nil (m : Val) : getPath m [] = some m := by
  cases m <;> rfl

theorem getPath_map_cons (kvs : Entries) (k : Str) (ks : List Str) :
    getPath (.map kvs) (k :: ks) = (lookup k kvs).bind (fun v => getPath v ks) := by
  simp only [getPath]; cases lookup k kvs <;> rfl

/-- the last case of `getPath.induct` (every case before it takes a map) in the form the `_notMap`
    lemmas take -/
theorem isMap_of_ne {x : Val} (h : ∀ kvs, x = .map kvs → False) : x.isMap = false := by
  cases x <;> first | rfl | exact (h _ rfl).elim

theorem getPath_notMap_cons (m : Val) (k : Str) (ks : List Str) (h : m.isMap = false) :
    getPath m (k :: ks) = none := by
  cases m <;> first | exact Bool.noConfusion h | rfl

theorem getPath_empty (q : List Str) (hq : q ≠ []) : getPath (.map []) q = none := by
  cases q with
  | nil => exact absurd rfl hq
  | cons k ks => rfl

theorem getPath_insert_self (n : Entries) (k : Str) (v : Val) (ks : List Str) :
    getPath (.map (insert k v n)) (k :: ks) = getPath v ks := by
  rw [getPath_map_cons, lookup_insert_self]; rfl

theorem NM.getPath_insert_ne (n : Entries) (k k' : Str) (v : Val) (ks : List Str) (h : k' ≠ k) :
    getPath (.map (insert k v n)) (k' :: ks) = getPath (.map n) (k' :: ks) := by
  rw [getPath_map_cons, getPath_map_cons, lookup_insert_ne _ _ _ h]

theorem getPath_cons_some {m v : Val} {k : Str} {ks : List Str} (h : getPath m (k :: ks) = some v) :
    ∃ kvs, m = .map kvs ∧ ∃ c, lookup k kvs = some c ∧ getPath c ks = some v := by
  cases m with
  | map kvs =>
    rw [getPath_map_cons, Option.bind_eq_some_iff] at h
    exact ⟨kvs, rfl, h⟩
  | _ => cases h

theorem getPath_append (ks r : List Str) (m : Val) :
    getPath m (ks ++ r) = (getPath m ks).bind (fun v => getPath v r) := by
  fun_induction getPath m ks <;>
    simp only [List.cons_append, List.nil_append, getPath, *, Option.bind_some, Option.bind_none]

theorem getPath_snoc (m : Val) (ks : List Str) (x : Str) (pk : Entries)
    (hp : getPath m ks = some (.map pk)) : getPath m (ks ++ [x]) = lookup x pk := by
  rw [getPath_append, hp, Option.bind_some, getPath_map_cons]
  cases lookup x pk <;> simp [getPath_nil]

/-- a property handed down by `lookup` is handed down by `getPath` -/
theorem getPath_preserves (P : Val → Prop)
    (hP : ∀ {kvs k c}, P (.map kvs) → lookup k kvs = some c → P c)
    (ks : List Str) (m v : Val) (hm : P m) : getPath m ks = some v → P v := by
  fun_induction getPath m ks with
  | case1 => intro h; cases h; exact hm
  | case2 kvs k ks c hl ih => exact ih (hP hm hl)
  | case3 | case4 => nofun

theorem noEmptyList_lookup {kvs : Entries} {k : Str} {v : Val} :
    noEmptyList (.map kvs) = true → lookup k kvs = some v → noEmptyList v = true := by
  fun_induction lookup k kvs with
  | case1 => nofun
  | case2 w rest => intro hw h; cases h; exact (Bool.and_eq_true_iff.1 hw).1
  | case3 k' w rest hk ih => exact fun hw => ih (Bool.and_eq_true_iff.1 hw).2

theorem noEmptyList_getPath : ∀ (ks : List Str) (m v : Val),
    noEmptyList m = true → getPath m ks = some v → noEmptyList v = true :=
  getPath_preserves (noEmptyList · = true) noEmptyList_lookup

theorem wf_getPath : ∀ (ks : List Str) (m v : Val),
    m.wf = true → getPath m ks = some v → v.wf = true :=
  getPath_preserves (·.wf = true) hered_wf.lookup

/-- the leaf loader yields something for every value except the empty list -/
theorem loadLeaf_none_ne_nil (v : Val) (h : noEmptyList v = true) : loadLeaf none v ≠ [] := by
  rw [loadLeaf_none]
  cases v with
  | list xs =>
    cases xs with
    | nil => simp [noEmptyList] at h
    | cons x xs => exact List.cons_ne_nil x xs
  | _ => exact List.cons_ne_nil _ _

/-! ### `setPath` and `erasePath` are one traversal -/

/-- walk to the map holding the last key and apply `f` (given that key) to its entries -/
def modPath (f : Str → Entries → Entries) : Val → List Str → Val
  | .map kvs, [k] => .map (f k kvs)
  | .map kvs, k :: k' :: ks => match lookup k kvs with
      | some v => .map (insert k (modPath f v (k' :: ks)) kvs)
      | none => .map kvs
  | v, _ => v

/-- the two recursions have the same equations, the catch-all included (`modPath.eq_3`) -/
theorem setPath_eq_modPath (nv : Val) (m : Val) (ks : List Str) :
    setPath nv m ks = modPath (fun k => insert k nv) m ks := by
  fun_induction setPath nv m ks with
  | case1 => rfl
  | case2 kvs k k' ks v hl ih => simp only [modPath, hl, ih]
  | case3 kvs k k' ks hl => simp only [modPath, hl]
  | case4 t v h1 h2 => exact (modPath.eq_3 _ v t h1 h2).symm

theorem erasePath_eq_modPath (m : Val) (ks : List Str) : erasePath m ks = modPath erase m ks := by
  fun_induction erasePath m ks with
  | case1 => rfl
  | case2 kvs k k' ks v hl ih => simp only [modPath, hl, ih]
  | case3 kvs k k' ks hl => simp only [modPath, hl]
  | case4 t v h1 h2 => exact (modPath.eq_3 _ v t h1 h2).symm

theorem exists_snoc (segs : List Str) (h : segs ≠ []) : ∃ ks key, segs = ks ++ [key] :=
  ⟨segs.dropLast, segs.getLast h, (List.dropLast_concat_getLast h).symm⟩

section ModPath
variable (f : Str → Entries → Entries)

theorem modPath_notMap (m : Val) (ks : List Str) (h : m.isMap = false) : modPath f m ks = m := by
  cases m <;> first | exact Bool.noConfusion h | (unfold modPath; rfl)

theorem modPath_cons_ne (kvs : Entries) (k : Str) (ks : List Str) (h : ks ≠ []) :
    modPath f (.map kvs) (k :: ks) = match lookup k kvs with
      | some v => .map (insert k (modPath f v ks) kvs)
      | none => .map kvs := by
  cases ks with
  | nil => exact absurd rfl h
  | cons k' ks' => simp only [modPath]

/-- a list stays a list, and what is no list stays none -/
theorem modPath_isList (m : Val) (ks : List Str) : (modPath f m ks).isList = m.isList := by
  fun_induction modPath f m ks <;> rfl

/-- frame: a path that neither extends `segs` nor is a prefix of it keeps its value -/
theorem getPath_modPath_frame (hf : ∀ k' k, k' ≠ k → ∀ kvs, lookup k' (f k kvs) = lookup k' kvs)
    (segs q : List Str) (m : Val) (h1 : ¬ segs <+: q) (h2 : ¬ q <+: segs) :
    getPath (modPath f m segs) q = getPath m q := by
  induction q generalizing m segs with
  | nil => exact absurd List.nil_prefix h2
  | cons k2 qs ih =>
    fun_cases modPath f m segs with
    | case1 kvs k =>
      have hk : k2 ≠ k := fun e => h1 (e ▸ List.cons_prefix_cons.2 ⟨rfl, List.nil_prefix⟩)
      simp only [getPath_map_cons, hf k2 k hk kvs]
    | case2 kvs k k' ks v hl =>
      by_cases hk : k2 = k
      · subst hk
        rw [getPath_insert_self, getPath_map_cons, hl]
        exact ih _ _ (fun h => h1 (List.cons_prefix_cons.2 ⟨rfl, h⟩))
          (fun h => h2 (List.cons_prefix_cons.2 ⟨rfl, h⟩))
      · exact NM.getPath_insert_ne kvs k k2 _ qs hk
    | case3 | case4 => rfl

/-- a strict prefix `q` of the path holds the old subtree with the rest of the path applied -/
theorem getPath_modPath_prefix (q r : List Str) (m : Val) (hr : r ≠ []) :
    getPath (modPath f m (q ++ r)) q = (getPath m q).map (fun sub => modPath f sub r) := by
  fun_induction getPath m q with
  | case1 v => exact getPath_nil _
  | case2 kvs k q c hl ih =>
    rw [List.cons_append, modPath_cons_ne f kvs k (q ++ r) (by simp [hr]), hl, getPath_insert_self, ih]
  | case3 kvs k q hl =>
    rw [List.cons_append, modPath_cons_ne f kvs k (q ++ r) (by simp [hr]), hl, getPath_map_cons, hl]
    rfl
  | case4 v k q h =>
    rw [modPath_notMap _ _ _ (isMap_of_ne h), getPath_notMap_cons _ _ _ (isMap_of_ne h)]
    rfl

/-- at or below the path one reads the parent with its last step applied: the prefix law at
    the parent, then one more `lookup` -/
theorem getPath_modPath_below (segs r : List Str) (m : Val) (hne : segs ≠ []) :
    getPath (modPath f m segs) (segs ++ r) = (getPath m segs.dropLast).bind fun pm =>
      getPath (modPath f pm [segs.getLast hne]) (segs.getLast hne :: r) := by
  obtain ⟨ks, k, rfl⟩ := exists_snoc segs hne
  simp only [List.dropLast_concat, List.getLast_concat]
  rw [List.append_assoc, getPath_append, getPath_modPath_prefix f ks [k] m (by simp)]
  cases getPath m ks <;> rfl

end ModPath

theorem setPath_cons_ne (nv : Val) (kvs : Entries) (k : Str) (ks : List Str) (h : ks ≠ []) :
    setPath nv (.map kvs) (k :: ks) = match lookup k kvs with
      | some v => .map (insert k (setPath nv v ks) kvs)
      | none => .map kvs := by
  simp only [setPath_eq_modPath, modPath_cons_ne _ kvs k ks h]

theorem erasePath_cons_ne (kvs : Entries) (k : Str) (ks : List Str) (h : ks ≠ []) :
    erasePath (.map kvs) (k :: ks) = match lookup k kvs with
      | some v => .map (insert k (erasePath v ks) kvs)
      | none => .map kvs := by
  simp only [erasePath_eq_modPath, modPath_cons_ne _ kvs k ks h]

theorem setPath_isList (nv m : Val) (ks : List Str) : (setPath nv m ks).isList = m.isList := by
  rw [setPath_eq_modPath]; exact modPath_isList _ m ks

/-! ### "no list on the way" -/

/-- following `ks` from `m` through maps, no *proper* prefix of `ks` resolves to a list
    (a list met before the end is where `walk`/`walkLoc` leave the pure-map world). -/
def noListBefore (m : Val) (ks : List Str) : Prop :=
  ∀ pre xs, pre <+: ks → pre ≠ ks → getPath m pre ≠ some (.list xs)

theorem noListBefore_nil (m : Val) : noListBefore m [] :=
  fun _ _ hp hne => absurd (List.prefix_nil.1 hp) hne

theorem noListBefore_map_cons (kvs : Entries) (k : Str) (ks : List Str) :
    noListBefore (.map kvs) (k :: ks) ↔ ∀ c, lookup k kvs = some c → noListBefore c ks := by
  constructor
  · intro h c hl pre xs hp hne hg
    refine h (k :: pre) xs (List.cons_prefix_cons.2 ⟨rfl, hp⟩) (by simpa using hne) ?_
    rw [getPath_map_cons, hl]; exact hg
  · intro h pre xs hp hne hg
    cases pre with
    | nil => cases hg
    | cons k2 pre' =>
      obtain ⟨hk, hp'⟩ := List.cons_prefix_cons.1 hp
      subst hk
      obtain ⟨_, e, c, hl, hg⟩ := getPath_cons_some hg
      cases e
      exact h c hl pre' xs hp' (by simpa using hne) hg

theorem noListBefore_list_cons (xs : List Val) (k : Str) (ks : List Str) :
    ¬ noListBefore (.list xs) (k :: ks) := fun h =>
  h [] xs List.nil_prefix (by simp) rfl

theorem noListBefore_of_getPath_some (ks : List Str) (m v : Val) :
    getPath m ks = some v → noListBefore m ks := by
  fun_induction getPath m ks with
  | case1 => exact fun _ => noListBefore_nil _
  | case2 kvs k ks c hl ih =>
    intro h
    rw [noListBefore_map_cons]
    intro c' hl'
    rw [hl] at hl'; cases hl'
    exact ih h
  | case3 | case4 => nofun

theorem noListBefore_prefix (m : Val) (ks r : List Str) (h : noListBefore m (ks ++ r)) :
    noListBefore m ks := by
  intro pre xs hp hne
  exact h pre xs (hp.trans (List.prefix_append ks r))
    fun e => hne (hp.eq_of_length_le (by simp [e]))

/-- `modPath` rebuilds the maps on the way and changes entries only in the last, so it keeps
    `noListBefore` -/
theorem noListBefore_modPath (f : Str → Entries → Entries) (m : Val) (segs : List Str)
    (h : noListBefore m segs) : noListBefore (modPath f m segs) segs := by
  fun_induction modPath f m segs with
  | case1 kvs k => exact (noListBefore_map_cons _ k []).2 fun c _ => noListBefore_nil c
  | case2 kvs k k' ks v hl ih =>
    rw [noListBefore_map_cons] at h ⊢
    intro c hc
    rw [lookup_insert_self] at hc; cases hc
    exact ih (h v hl)
  | case3 | case4 => exact h

/-! ### the walker (`valuesForKeyPath`) on a pure map path -/

/-- the walker follows a star-free path that resolves through maps, and goes on from the value
    found there -/
theorem walk_getPath_append (subs : Option SubKeys) (ks r : List Str) (m v : Val) :
    (∀ k ∈ ks, k ≠ ['*']) → getPath m ks = some v → walk subs m (ks ++ r) = walk subs v r := by
  fun_induction getPath m ks with
  | case1 => intro _ h; cases h; rfl
  | case2 kvs k ks c hl ih =>
    intro hs h
    simp only [List.cons_append, walk, hs k (by simp), if_false, hl]
    exact ih (fun k' hk' => hs k' (by simp [hk'])) h
  | case3 | case4 => nofun

theorem walk_getPath_some (subs : Option SubKeys) (ks : List Str) (m v : Val)
    (hs : ∀ k ∈ ks, k ≠ ['*']) (h : getPath m ks = some v) : walk subs m ks = loadLeaf subs v := by
  rw [← walk_nil, ← walk_getPath_append subs ks [] m v hs h, List.append_nil]

theorem walk_getPath_none (subs : Option SubKeys) (ks : List Str) (m : Val) :
    (∀ k ∈ ks, k ≠ ['*']) → noListBefore m ks → getPath m ks = none → walk subs m ks = [] := by
  fun_induction getPath m ks with
  | case1 => nofun
  | case2 kvs k ks c hl ih =>
    intro hs hn h
    simp only [walk, hs k (by simp), if_false, hl]
    exact ih (fun k' hk' => hs k' (by simp [hk'])) ((noListBefore_map_cons kvs k ks).1 hn c hl) h
  | case3 kvs k ks hl =>
    intro hs _ _
    simp only [walk, hs k (by simp), if_false, hl]
  | case4 v k ks h =>
    intro hs hn _
    cases v with
    | map kvs => exact (h kvs rfl).elim
    | list xs => exact absurd hn (noListBefore_list_cons xs k ks)
    | _ => simp [walk]

/-! ### locations: `walkLoc`, `getLoc`, `updLoc`, `prevLoc` on a pure map path -/

/-- at a path that resolves through maps the walker yields the locations of the value found
    there, each behind the keys of the path -/
theorem walkLoc_getPath (ks : List Str) (m v : Val) :
    getPath m ks = some v → walkLoc m ks = (walkLoc v []).map (ks.map Seg.key ++ ·) := by
  fun_induction getPath m ks with
  | case1 => intro h; cases h; simp
  | case2 kvs k ks c hl ih =>
    intro h
    simp only [walkLoc, hl, ih h, List.map_map, List.map_cons, List.cons_append]
    rfl
  | case3 | case4 => nofun

theorem walkLoc_getPath_none (ks : List Str) (m : Val) :
    noListBefore m ks → getPath m ks = none → walkLoc m ks = [] := by
  fun_induction getPath m ks with
  | case1 => nofun
  | case2 kvs k ks c hl ih =>
    intro hn h
    simp only [walkLoc, hl, ih ((noListBefore_map_cons kvs k ks).1 hn c hl) h, List.map_nil]
  | case3 kvs k ks hl => intro _ _; simp only [walkLoc, hl]
  | case4 v k ks h =>
    intro hn _
    cases v with
    | map kvs => exact (h kvs rfl).elim
    | list xs => exact absurd hn (noListBefore_list_cons xs k ks)
    | _ => simp [walkLoc]

theorem getLoc_nil (m : Val) : getLoc m [] = some m := by
  cases m <;> rfl

theorem getLoc_keys_append : ∀ (ks : List Str) (m : Val) (rest : List Seg),
    getLoc m (ks.map Seg.key ++ rest) = (getPath m ks).bind (fun v => getLoc v rest)
  | [], m, rest => by simp [getPath_nil]
  | k :: ks, m, rest => by
    cases m with
    | map kvs =>
      simp only [List.map_cons, List.cons_append, getLoc, getPath_map_cons]
      cases lookup k kvs with
      | none => rfl
      | some c => simp [getLoc_keys_append ks c rest]
    | _ => rfl

theorem getLoc_keys (ks : List Str) (m : Val) : getLoc m (ks.map Seg.key) = getPath m ks := by
  rw [← List.append_nil (ks.map Seg.key), getLoc_keys_append]
  cases getPath m ks with
  | none => rfl
  | some v => exact getLoc_nil v

theorem updLoc_notMap (f : Entries → Entries) (m : Val) (ks : List Str) (h : m.isMap = false) :
    updLoc f m (ks.map Seg.key) = m := by
  cases m <;> first | exact Bool.noConfusion h | (cases ks <;> rfl)

/-- mutating the inner map at the parent location with the last key is `modPath` -/
theorem updLoc_eq_modPath (f : Str → Entries → Entries) (m : Val) (segs : List Str)
    (hne : segs ≠ []) :
    updLoc (f (segs.getLast hne)) m (segs.dropLast.map Seg.key) = modPath f m segs := by
  fun_induction modPath f m segs with
  | case1 kvs k => rfl
  | case2 kvs k k' ks v hl ih =>
    simp only [List.dropLast_cons_cons, List.map_cons, updLoc, hl, List.getLast_cons_cons,
      ih (List.cons_ne_nil _ _)]
  | case3 kvs k k' ks hl => simp only [List.dropLast_cons_cons, List.map_cons, updLoc, hl]
  | case4 t v h1 h2 =>
    -- the catch-all of `modPath`: a non-empty path from a value that is not a map
    refine updLoc_notMap _ v _ ?_
    cases v with
    | map kvs =>
      match t, hne with
      | [k], _ => exact (h1 kvs k rfl rfl).elim
      | k :: k' :: t, _ => exact (h2 kvs k k' t rfl rfl).elim
    | _ => rfl

/-- `cVal[key] = value` in the parent map is `setPath` -/
theorem updLoc_insert (nv : Val) (m : Val) (segs : List Str) (hne : segs ≠ []) :
    updLoc (insert (segs.getLast hne) nv) m (segs.dropLast.map Seg.key) = setPath nv m segs := by
  rw [setPath_eq_modPath]; exact updLoc_eq_modPath (fun k => insert k nv) m segs hne

/-- `delete(m, key)` in the parent map is `erasePath` -/
theorem updLoc_erase (m : Val) (segs : List Str) (hne : segs ≠ []) :
    updLoc (erase (segs.getLast hne)) m (segs.dropLast.map Seg.key) = erasePath m segs := by
  rw [erasePath_eq_modPath]; exact updLoc_eq_modPath erase m segs hne

/-- the in-place rename in the inner map = erase the old entry, then set the new one -/
theorem updLoc_rename (old nn : Str) (v : Val) (hne : old ≠ nn) (pk : Entries)
    (hv : lookup old pk = some v) (ks : List Str) (m : Val) :
    getPath m ks = some (.map pk) →
    updLoc (renameEntries old nn) m (ks.map Seg.key)
      = setPath v (erasePath m (ks ++ [old])) (ks ++ [nn]) := by
  fun_induction getPath m ks with
  | case1 =>
    intro h; cases h
    simp only [List.map_nil, updLoc, renameEntries, hv, List.nil_append, erasePath, setPath,
      erase_insert_comm old nn v hne]
  | case2 kvs k ks c hl ih =>
    intro h
    rw [List.cons_append, erasePath_cons_ne kvs k (ks ++ [old]) (by simp)]
    simp only [hl]
    rw [List.cons_append, setPath_cons_ne v _ k (ks ++ [nn]) (by simp)]
    simp only [lookup_insert_self, insert_insert, List.map_cons, updLoc, hl, ih h]
  | case3 | case4 => nofun

/-- `prevValueByPath` finds the parent exactly when the path resolves through maps -/
theorem prevLoc_eq (m : Val) (segs : List Str) (hne : segs ≠ []) :
    prevLoc m segs = (getPath m segs).map fun _ => segs.dropLast.map Seg.key := by
  fun_induction prevLoc m segs with
  | case1 kvs k h | case2 kvs k h =>
    rw [getPath_map_cons]
    cases hl : lookup k kvs <;> simp_all [getPath_nil]
  | case3 kvs k k' ks v hl ih =>
    rw [ih (by simp), getPath_map_cons, hl, Option.map_map]
    rfl
  | case4 kvs k k' ks hl => rw [getPath_map_cons, hl]; rfl
  | case5 t x h1 h2 =>
    -- the catch-all of `prevLoc`: a non-empty path from a value that is not a map
    cases t with
    | nil => exact absurd rfl hne
    | cons k t =>
      cases x with
      | map kvs => cases t with
        | nil => exact (h1 kvs k rfl rfl).elim
        | cons k' t => exact (h2 kvs k k' t rfl rfl).elim
      | _ => rfl

/-! ### dot-paths built from safe keys -/

theorem joinDot_no_bracket_mem (segs : List Str) (h : ∀ s ∈ segs, KeySpec.keySafe s = true) :
    '[' ∉ joinDot segs := by
  intro hm
  rcases mem_joinWith ['.'] '[' segs hm with h' | ⟨x, hx, hcx⟩
  · simp at h'
  · exact ((keySafe_iff x).1 (h x hx)).2.2.1 hcx

theorem pathKeys_joinDot_safe (segs : List Str) (h : ∀ s ∈ segs, KeySpec.keySafe s = true) :
    pathKeys (joinDot segs) = segs :=
  pathKeys_joinDot segs fun n hn => nameOk_of_keySafe n (h n hn)

theorem keySafe_all_ne_star (segs : List Str) (h : ∀ s ∈ segs, KeySpec.keySafe s = true) :
    ∀ k ∈ segs, k ≠ ['*'] := fun k hk => keySafe_ne_star k (h k hk)

theorem keySafe_snoc (ks : List Str) (key nn : Str) (h : ∀ s ∈ ks ++ [key], KeySpec.keySafe s = true)
    (hnn : KeySpec.keySafe nn = true) : ∀ s ∈ ks ++ [nn], KeySpec.keySafe s = true :=
  List.forall_mem_append.2 ⟨(List.forall_mem_append.1 h).1, List.forall_mem_singleton.2 hnn⟩

/-! ### evaluating the Go-level operations on a safe dot-path -/

/-- `ValuesForPath` without subkeys on a safe dot-path is the walker on its keys; `Exists` and
    `ValueForPath` both read their answer off it -/
theorem valuesForPath_joinDot (m : Val) (segs : List Str)
    (h : ∀ s ∈ segs, KeySpec.keySafe s = true) :
    valuesForPath [':'] (fun _ => none) m (joinDot segs) [] = .ok (walk none m segs) := by
  rw [valuesForPath_plain m _ (by simpa using joinDot_no_bracket_mem segs h),
    pathKeys_joinDot_safe segs h]

theorem existsNoSubs_joinDot (m : Val) (segs : List Str)
    (h : ∀ s ∈ segs, KeySpec.keySafe s = true) :
    existsNoSubs m (joinDot segs) = .ok (!(walk none m segs).isEmpty) := by
  simp only [existsNoSubs, pathExists, valuesForPath_joinDot m segs h]

theorem valueForPath_joinDot (m : Val) (segs : List Str)
    (h : ∀ s ∈ segs, KeySpec.keySafe s = true) :
    valueForPath m (joinDot segs) = match walk none m segs with
      | [] => .error .pathNotExist
      | v :: _ => .ok v := by
  simp only [valueForPath, valuesForPath_joinDot m segs h]
  cases walk none m segs <;> rfl

theorem setValueForPath_joinDot (m nv : Val) (segs : List Str) (hne : segs ≠ [])
    (h : ∀ s ∈ segs, KeySpec.keySafe s = true) :
    setValueForPath m nv (joinDot segs) =
      match (walkLoc m segs.dropLast).head? with
      | none => .error .pathNotExist
      | some loc =>
        match getLoc m loc with
        | some .null => .ok m
        | some (.map _) => .ok (updLoc (insert (segs.getLast hne) nv) m loc)
        | _ => .error .notAMap := by
  simp only [setValueForPath, splitDot_joinDot segs hne h,
    pathKeys_joinDot_safe segs.dropLast fun s hs => h s (segs.dropLast_subset hs),
    List.getLast?_eq_some_getLast hne, Option.getD_some]
  rfl

theorem removePath_joinDot (m : Val) (segs : List Str) (hne : segs ≠ [])
    (h : ∀ s ∈ segs, KeySpec.keySafe s = true) :
    removePath m (joinDot segs) =
      if (getPath m segs).isSome then .ok (erasePath m segs) else .error .prevNotFound := by
  simp only [removePath, splitDot_joinDot segs hne h, prevLoc_eq _ _ hne,
    List.getLast?_eq_some_getLast hne, Option.getD_some]
  cases getPath m segs with
  | none => rfl
  | some v => simp only [Option.map_some, updLoc_erase, Option.isSome_some, if_true]

/-- a path that resolves, in a tree without empty lists, yields something under the walker, i.e.
    `Exists` answers true -/
theorem walk_isEmpty_false (m v : Val) (segs : List Str)
    (h : ∀ s ∈ segs, KeySpec.keySafe s = true) (hv : getPath m segs = some v)
    (hne : noEmptyList m = true) : (walk none m segs).isEmpty = false := by
  rw [walk_getPath_some none _ m v (keySafe_all_ne_star _ h) hv, List.isEmpty_eq_false_iff]
  exact loadLeaf_none_ne_nil v (noEmptyList_getPath _ m v hne hv)

/-- `RenameKey` of a key that is there (and that `Exists` sees, the tree having no empty list):
    refused if the new name `Exists` beside it, else the in-place rename in the parent -/
theorem renameKey_joinDot (m v : Val) (ks : List Str) (key nn : Str)
    (h : ∀ s ∈ ks ++ [key], KeySpec.keySafe s = true) (hnn : KeySpec.keySafe nn = true)
    (hv : getPath m (ks ++ [key]) = some v) (hne : noEmptyList m = true) :
    renameKey existsNoSubs m (joinDot (ks ++ [key])) nn =
      if (walk none m (ks ++ [nn])).isEmpty
      then .ok (updLoc (renameEntries key nn) m (ks.map Seg.key))
      else .error .renameExists := by
  have hks' : ∀ s ∈ ks, s ≠ [] := fun s hs => ((keySafe_iff s).1 (h s (by simp [hs]))).1
  simp only [renameKey, parentPathOf, lastKeyOf, splitDot_joinDot (ks ++ [key]) (by simp) h,
    List.dropLast_concat, show (if (joinDot ks).isEmpty then nn else joinDot ks ++ ['.'] ++ nn) = _ from
      crumb_joinDot ks nn hks', existsNoSubs_joinDot m _ h, walk_isEmpty_false m v _ h hv hne,
    existsNoSubs_joinDot m _ (keySafe_snoc ks key nn h hnn),
    prevLoc_eq m (ks ++ [key]) (by simp), hv, List.getLast?_concat, Option.getD_some]
  cases (walk none m (ks ++ [nn])).isEmpty <;> rfl

/-! ### SetValueForPath by what the parent path resolves to -/

/-- `SetValueForPath` when the parent path resolves through maps to something that is not a list -/
theorem setValueForPath_parent (m nv pm : Val) (segs : List Str) (hne : segs ≠ [])
    (h : ∀ s ∈ segs, KeySpec.keySafe s = true) (hp : getPath m segs.dropLast = some pm)
    (hl : pm.isList = false) :
    setValueForPath m nv (joinDot segs) = match pm with
      | .null => .ok m
      | .map _ => .ok (setPath nv m segs)
      | _ => .error .notAMap := by
  rw [setValueForPath_joinDot m nv segs hne h, walkLoc_getPath _ m _ hp]
  cases pm with
  | list xs => exact Bool.noConfusion hl
  | _ => simp only [walkLoc, List.map_cons, List.map_nil, List.append_nil, List.head?_cons,
      getLoc_keys, hp, updLoc_insert]

/-- updating below a key path = `setPath` of the updated subtree -/
theorem updLoc_keys_append (f : Entries → Entries) (rest : List Seg) (ks : List Str) (m sub : Val) :
    ks ≠ [] → getPath m ks = some sub →
    updLoc f m (ks.map Seg.key ++ rest) = setPath (updLoc f sub rest) m ks := by
  fun_induction getPath m ks with
  | case1 => exact fun h => absurd rfl h
  | case2 kvs k ks c hl ih =>
    intro _ hp
    simp only [List.map_cons, List.cons_append, updLoc, hl]
    cases ks with
    | nil =>
      rw [getPath_nil] at hp; cases hp
      rfl
    | cons k' ks' =>
      rw [setPath_cons_ne _ kvs k (k' :: ks') (by simp)]
      simp only [hl, ih (by simp) hp]
  | case3 | case4 => nofun

/-! ### RenameKey -/

theorem renameKey_not_found (m : Val) (path nn : Str) (h : existsNoSubs m path = .ok false) :
    renameKey existsNoSubs m path nn = .error .renameNotFound := by
  simp only [renameKey, h]

/-- a key that is present differs from a sibling name that is absent -/
theorem ne_of_present_of_fresh (m v : Val) (ks : List Str) (key nn : Str) (pk : Entries)
    (hparent : getPath m ks = some (.map pk)) (hv : getPath m (ks ++ [key]) = some v)
    (hfresh : lookup nn pk = none) : key ≠ nn := by
  intro e; subst e
  rw [getPath_snoc m ks key pk hparent, hfresh] at hv; cases hv

/-! ### well-formedness is preserved -/

theorem wf_map_insert (v : Val) (hv : v.wf = true) (k : Str) (kvs : Entries)
    (hw : (Val.map kvs).wf = true) : (Val.map (insert k v kvs)).wf = true := by
  rw [Val.wf_map] at hw ⊢
  exact ⟨Val.wfEntries_insert k v hv kvs hw.1, distinctKeys_insert k v kvs hw.2⟩

theorem wf_map_erase (k : Str) (kvs : Entries) (hw : (Val.map kvs).wf = true) :
    (Val.map (erase k kvs)).wf = true := by
  rw [Val.wf_map] at hw ⊢
  exact ⟨Val.wfEntries_erase k kvs hw.1, distinctKeys_erase k kvs hw.2⟩

theorem wf_modPath (f : Str → Entries → Entries)
    (hf : ∀ k kvs, (Val.map kvs).wf = true → (Val.map (f k kvs)).wf = true)
    (segs : List Str) (m : Val) (hw : m.wf = true) : (modPath f m segs).wf = true := by
  fun_induction modPath f m segs with
  | case1 kvs k => exact hf k kvs hw
  | case2 kvs k k' ks v hl ih => exact wf_map_insert _ (ih (hered_wf.lookup hw hl)) k kvs hw
  | case3 | case4 => exact hw

/-! ### a decidable form of `noListBefore` (for concrete instances) -/

def noListBeforeB : Val → List Str → Bool
  | _, [] => true
  | .map kvs, k :: ks => match lookup k kvs with
      | some c => noListBeforeB c ks
      | none => true
  | .list _, _ :: _ => false
  | _, _ :: _ => true

theorem noListBefore_scalar (m : Val) (ks : List Str) (hm : m.isMap = false)
    (hl : m.isList = false) : noListBefore m ks := by
  intro pre xs _ _ hg
  cases pre with
  | nil =>
    rw [getPath_nil] at hg
    cases hg
    exact Bool.noConfusion hl
  | cons k pre' => rw [getPath_notMap_cons _ _ _ hm] at hg; cases hg

theorem noListBefore_of_B : ∀ (ks : List Str) (m : Val),
    noListBeforeB m ks = true → noListBefore m ks := by
  intro ks
  induction ks with
  | nil => intro m _; exact noListBefore_nil m
  | cons k ks ih =>
    intro m h
    cases m with
    | map kvs =>
      rw [noListBefore_map_cons]
      intro c hl
      simp only [noListBeforeB, hl] at h
      exact ih c h
    | list xs => simp [noListBeforeB] at h
    | _ => exact noListBefore_scalar _ _ rfl rfl

end Mxj
