/-
  Mxj.Lemmas.Norm — `Val.norm` (entries sorted by key at every level) on well-formed values: it is
  idempotent, keeps `Val.wf`, and identifies maps whose entries are permutations of each other; then
  entry lists that agree key by key up to `norm` (`Dec.EqN`): as maps they have the same normal form.
  The names keep the namespaces of the modules the lemmas first stood in: `Mxj.Enc` (the encoder's),
  and `Mxj.Dec` (the Map decoder's) for `EqN`.
-/
import Mxj.Lemmas.Assoc
namespace Mxj.Enc

theorem strLe_refl (a : Str) : strLe a a = true :=
  (strLe_total a a).elim id id

theorem sortByKey_cons (x : Str × Val) (xs : Entries) :
    sortByKey (x :: xs) = insertByKey x (sortByKey xs) := rfl

theorem normEntries_eq_map : ∀ (l : Entries), Val.normEntries l = l.map (fun e => (e.1, e.2.norm))
  | [] => rfl
  | (k, v) :: rest => by simp [Val.normEntries, normEntries_eq_map rest]

theorem normList_eq_map : ∀ (l : List Val), Val.normList l = l.map Val.norm
  | [] => rfl
  | x :: xs => by simp [Val.normList, normList_eq_map xs]

theorem isList_norm (v : Val) : v.norm.isList = v.isList := by cases v <;> rfl

theorem isMap_norm (v : Val) : v.norm.isMap = v.isMap := by cases v <;> rfl

theorem nodup_keys_sortByKey {l : Entries} (h : (keys l).Nodup) : (keys (sortByKey l)).Nodup :=
  (keys_nodup_perm (sortByKey_perm l)).2 h

theorem distinctKeys_norm {kvs : Entries} (h : distinctKeys kvs = true) :
    distinctKeys (sortByKey (Val.normEntries kvs)) = true := by
  rw [distinctKeys_iff_nodup] at h ⊢
  exact nodup_keys_sortByKey (by rwa [keys_normEntries])

theorem insertByKey_map (f : Val → Val) (e : Str × Val) (l : Entries) :
    (insertByKey e l).map (fun x => (x.1, f x.2))
      = insertByKey (e.1, f e.2) (l.map (fun x => (x.1, f x.2))) := by
  fun_induction insertByKey e l <;> simp [insertByKey, *]

theorem sortByKey_map (f : Val → Val) : ∀ (l : Entries),
    (sortByKey l).map (fun x => (x.1, f x.2)) = sortByKey (l.map (fun x => (x.1, f x.2)))
  | [] => rfl
  | x :: xs => by
      rw [sortByKey_cons, insertByKey_map, sortByKey_map f xs]; rfl

theorem normEntries_sortByKey (l : Entries) :
    Val.normEntries (sortByKey l) = sortByKey (Val.normEntries l) := by
  rw [normEntries_eq_map, normEntries_eq_map, sortByKey_map]

theorem sortByKey_of_sorted {l : Entries} (hs : KeySorted l) (hd : (keys l).Nodup) :
    sortByKey l = l :=
  sorted_perm_eq (sortByKey_sorted l) hs (nodup_keys_sortByKey hd) (sortByKey_perm l)

theorem sortByKey_idem {l : Entries} (hd : (keys l).Nodup) : sortByKey (sortByKey l) = sortByKey l :=
  sortByKey_of_sorted (sortByKey_sorted l) (nodup_keys_sortByKey hd)

mutual
theorem norm_idem : ∀ (v : Val), v.wf = true → v.norm.norm = v.norm
  | .null, _ => rfl
  | .bool _, _ => rfl
  | .num _, _ => rfl
  | .str _, _ => rfl
  | .list xs, h => by
      simp only [Val.wf] at h
      simp only [Val.norm, normList_idem xs h]
  | .map kvs, h => by
      simp only [Val.wf, Bool.and_eq_true] at h
      simp only [Val.norm]
      rw [normEntries_sortByKey, normEntries_idem kvs h.1, sortByKey_idem]
      rw [keys_normEntries]; exact (distinctKeys_iff_nodup kvs).1 h.2
theorem normList_idem : ∀ (xs : List Val), Val.wfList xs = true →
    Val.normList (Val.normList xs) = Val.normList xs
  | [], _ => rfl
  | x :: xs, h => by
      simp only [Val.wfList, Bool.and_eq_true] at h
      simp only [Val.normList, norm_idem x h.1, normList_idem xs h.2]
theorem normEntries_idem : ∀ (kvs : Entries), Val.wfEntries kvs = true →
    Val.normEntries (Val.normEntries kvs) = Val.normEntries kvs
  | [], _ => rfl
  | (k, v) :: rest, h => by
      simp only [Val.wfEntries, Bool.and_eq_true] at h
      simp only [Val.normEntries, norm_idem v h.1, normEntries_idem rest h.2]
end

theorem wfList_iff : ∀ (l : List Val), Val.wfList l = true ↔ ∀ x ∈ l, x.wf = true :=
  Val.wfList_iff

/-- a test that looks at the entries one by one does not depend on their order -/
theorem entrywise_sortByKey {P : Entries → Bool} {p : Str × Val → Bool}
    (hP : ∀ l, P l = true ↔ ∀ e ∈ l, p e = true) {l : Entries} (h : P l = true) :
    P (sortByKey l) = true :=
  (hP _).2 fun e he => (hP l).1 h e ((sortByKey_perm l).mem_iff.1 he)

mutual
theorem wf_norm : ∀ (v : Val), v.wf = true → v.norm.wf = true
  | .null, _ => rfl
  | .bool _, _ => rfl
  | .num _, _ => rfl
  | .str _, _ => rfl
  | .list xs, h => by
      simp only [Val.wf] at h
      simp only [Val.norm, Val.wf, wfList_norm xs h]
  | .map kvs, h => by
      simp only [Val.wf, Bool.and_eq_true] at h
      simp only [Val.norm, Val.wf, Bool.and_eq_true]
      constructor
      · exact entrywise_sortByKey Val.wfEntries_iff (wfEntries_norm kvs h.1)
      · exact distinctKeys_norm h.2
theorem wfList_norm : ∀ (xs : List Val), Val.wfList xs = true → Val.wfList (Val.normList xs) = true
  | [], _ => rfl
  | x :: xs, h => by
      simp only [Val.wfList, Bool.and_eq_true] at h
      simp only [Val.normList, Val.wfList, wf_norm x h.1, wfList_norm xs h.2, Bool.and_self]
theorem wfEntries_norm : ∀ (kvs : Entries), Val.wfEntries kvs = true →
    Val.wfEntries (Val.normEntries kvs) = true
  | [], _ => rfl
  | (k, v) :: rest, h => by
      simp only [Val.wfEntries, Bool.and_eq_true] at h
      simp only [Val.normEntries, Val.wfEntries, wf_norm v h.1, wfEntries_norm rest h.2, Bool.and_self]
end

theorem perm_normEntries {a b : Entries} (hp : a.Perm b) :
    (Val.normEntries a).Perm (Val.normEntries b) := by
  rw [normEntries_eq_map, normEntries_eq_map]; exact hp.map _

/-- maps with distinct keys whose normalised entries agree up to order have the same normal form -/
theorem norm_map_congr {m m' : Entries} (hd : (keys m).Nodup)
    (hp : (Val.normEntries m).Perm (Val.normEntries m')) : (Val.map m).norm = (Val.map m').norm :=
  congrArg Val.map (sortByKey_congr (by rwa [keys_normEntries]) hp)

theorem equiv_map_of_perm {m m' : Entries} (hp : m.Perm m') (hd : distinctKeys m = true) :
    Val.map m ≈ᵥ Val.map m' :=
  norm_map_congr ((distinctKeys_iff_nodup m).1 hd) (perm_normEntries hp)

/-- `≈ᵥ` maps split by their common number of entries, 0 / 1 / at least 2, on both sides at once;
    from two entries on nothing more is said -/
theorem equiv_map_cases {m m' : Entries} (h : Val.map m ≈ᵥ Val.map m') :
    (m = [] ∧ m' = []) ∨ (∃ k v v', m = [(k, v)] ∧ m' = [(k, v')] ∧ v.norm = v'.norm)
      ∨ ∃ e1 e2 r e1' e2' r', m = e1 :: e2 :: r ∧ m' = e1' :: e2' :: r' := by
  -- the normalised entries agree up to order
  have hp : (m.map fun e => (e.1, e.2.norm)).Perm (m'.map fun e => (e.1, e.2.norm)) := by
    rw [← normEntries_eq_map, ← normEntries_eq_map]
    exact (sortByKey_perm _).symm.trans (Val.map.inj h ▸ sortByKey_perm _)
  have hlen : m.length = m'.length := by simpa using hp.length_eq
  -- of the nine pairings the six of different lengths go
  rcases m with _ | ⟨⟨k, v⟩, _ | ⟨e2, r⟩⟩ <;> rcases m' with _ | ⟨⟨k', v'⟩, _ | ⟨e2', r'⟩⟩ <;>
    try cases hlen
  · exact .inl ⟨rfl, rfl⟩
  · obtain ⟨rfl, hv⟩ := Prod.mk.inj (List.singleton_perm_singleton.1 hp)
    exact .inr (.inl ⟨k, v, v', rfl, rfl, hv⟩)
  · exact .inr (.inr ⟨(k, v), e2, r, (k', v'), e2', r', rfl, rfl⟩)

end Mxj.Enc

namespace Mxj.Dec

/-- both lists are duplicate-free as lists of pairs, and a pair is in such a list exactly when the
    lookup of its key returns its value -/
theorem perm_of_lookup_eq (l l' : Entries) (hd : (keys l).Nodup) (hd' : (keys l').Nodup)
    (h : ∀ k, lookup k l = lookup k l') : l.Perm l' :=
  have nd : ∀ {l : Entries}, (keys l).Nodup → l.Nodup :=
    List.Pairwise.of_map Prod.fst fun _ _ h e => h (e ▸ rfl)
  (List.perm_ext_iff_of_nodup (nd hd) (nd hd')).2 fun (k, v) => by
    rw [← lookup_eq_some_iff hd, ← lookup_eq_some_iff hd', h]

/-- the two entry lists hold `≈ᵥ` values under the same keys -/
def EqN (l l' : Entries) : Prop := ∀ k, (lookup k l).map Val.norm = (lookup k l').map Val.norm

theorem EqN.refl (l : Entries) : EqN l l := fun _ => rfl
theorem EqN.trans {a b c : Entries} (h1 : EqN a b) (h2 : EqN b c) : EqN a c :=
  fun k => (h1 k).trans (h2 k)
theorem EqN.of_lookup {l l' : Entries} (h : ∀ k, lookup k l = lookup k l') : EqN l l' :=
  fun k => by rw [h k]

theorem EqN.norm_map {l l' : Entries} (hd : (keys l).Nodup) (hd' : (keys l').Nodup)
    (h : EqN l l') : (Val.map l).norm = (Val.map l').norm := by
  refine Enc.norm_map_congr hd ?_
  refine perm_of_lookup_eq _ _ (by rw [keys_normEntries]; exact hd)
    (by rw [keys_normEntries]; exact hd') ?_
  intro k
  rw [lookup_normEntries, lookup_normEntries]
  exact h k

theorem EqN.isEmpty : ∀ {l l' : Entries}, EqN l l' → l.isEmpty = l'.isEmpty
  | [], [], _ => rfl
  | _ :: _, _ :: _, _ => rfl
  | [], e :: _, h => by have := h e.1; simp [lookup] at this
  | e :: _, [], h => by have := h e.1; simp [lookup] at this

theorem EqN.insert {l l' : Entries} (h : EqN l l') (k : Str) {v v' : Val}
    (hv : v.norm = v'.norm) : EqN (insert k v l) (insert k v' l') := by
  intro q
  rw [lookup_insert, lookup_insert]
  by_cases e : q = k
  · simp [e, hv]
  · simp only [e, if_false]; exact h q

end Mxj.Dec
