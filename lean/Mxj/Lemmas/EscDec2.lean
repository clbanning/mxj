/-
  Mxj.Lemmas.EscDec2 — decoder-side escaping (`XMLEscapeCharsDecoder`), the encoder and the
  tokenizer: on values whose leaves are all strings (`StrOnly`: what the decoder stores with the
  cast flag off) the encoder's tree commutes with `mapLeaves`; `rawView` is how the tokenizer
  reads text written raw, and on escaped values it gives the original tree back.
-/
import Mxj.Lemmas.EscDec1
namespace Mxj.EscDec
open Mxj Mxj.Enc Mxj.EncSym

def mapAttr (f : Str → Str) (a : Attr) : Attr := ⟨a.space, a.name, f a.value⟩

mutual
/-- `f` on every text node and every attribute value -/
def mapNode (f : Str → Str) : Node → Node
  | .elem sp name attrs kids => .elem sp name (attrs.map (mapAttr f)) (mapKids f kids)
  | .text s => .text (f s)
  | .comment s => .comment s
  | .procinst t i => .procinst t i
  | .directive s => .directive s
def mapKids (f : Str → Str) : List Node → List Node
  | [] => []
  | k :: ks => mapNode f k :: mapKids f ks
end

theorem mapKids_eq (f : Str → Str) : ∀ (ks : List Node), mapKids f ks = ks.map (mapNode f)
  | [] => rfl
  | k :: ks => by simp only [mapKids, List.map_cons, mapKids_eq f ks]

theorem mapKids_append (f : Str → Str) (a b : List Node) :
    mapKids f (a ++ b) = mapKids f a ++ mapKids f b := by
  simp only [mapKids_eq, List.map_append]

theorem mapKids_isEmpty (f : Str → Str) (ks : List Node) : (mapKids f ks).isEmpty = ks.isEmpty := by
  cases ks <;> rfl

mutual
/-- the text nodes and attribute values of a tree, in document order -/
def nodeVals : Node → List Str
  | .elem _ _ attrs kids => attrs.map (·.value) ++ kidsVals kids
  | .text s => [s]
  | _ => []
def kidsVals : List Node → List Str
  | [] => []
  | k :: ks => nodeVals k ++ kidsVals ks
end

mutual
theorem nodeVals_mapNode (f : Str → Str) : ∀ (n : Node),
    nodeVals (mapNode f n) = (nodeVals n).map f
  | .elem sp name attrs kids => by
      simp only [mapNode, nodeVals, List.map_append, List.map_map, kidsVals_mapKids f kids]
      rfl
  | .text _ | .comment _ | .procinst _ _ | .directive _ => rfl
theorem kidsVals_mapKids (f : Str → Str) : ∀ (ks : List Node),
    kidsVals (mapKids f ks) = (kidsVals ks).map f
  | [] => rfl
  | k :: ks => by
      simp only [mapKids, kidsVals, List.map_append, nodeVals_mapNode f k, kidsVals_mapKids f ks]
end

mutual
def StrOnly : Val → Bool
  | .str _ => true
  | .list xs => StrOnlyList xs
  | .map kvs => StrOnlyEntries kvs
  | _ => false
def StrOnlyList : List Val → Bool
  | [] => true
  | x :: xs => StrOnly x && StrOnlyList xs
def StrOnlyEntries : Entries → Bool
  | [] => true
  | (_, v) :: rest => StrOnly v && StrOnlyEntries rest
end

theorem StrOnly_lookup (k : Str) (kvs : Entries) (v : Val) : StrOnlyEntries kvs = true →
    lookup k kvs = some v → StrOnly v = true := by
  fun_induction lookup k kvs with
  | case1 => nofun
  | case2 v' rest => rintro hs ⟨⟩; exact (Bool.and_eq_true_iff.1 hs).1
  | case3 k' v' rest _ ih => exact fun hs => ih (Bool.and_eq_true_iff.1 hs).2

mutual
theorem StrOnly_mapLeaves (f : Str → Str) : ∀ (v : Val), StrOnly (mapLeaves f v) = StrOnly v
  | .null | .bool _ | .num _ | .str _ => rfl
  | .list xs => StrOnlyList_mapLeaves f xs
  | .map kvs => StrOnlyEntries_mapLeaves f kvs
theorem StrOnlyList_mapLeaves (f : Str → Str) : ∀ (xs : List Val),
    StrOnlyList (mapLeavesList f xs) = StrOnlyList xs
  | [] => rfl
  | x :: xs => by
      simp only [mapLeavesList, StrOnlyList, StrOnly_mapLeaves f x, StrOnlyList_mapLeaves f xs]
theorem StrOnlyEntries_mapLeaves (f : Str → Str) : ∀ (kvs : Entries),
    StrOnlyEntries (mapLeavesEntries f kvs) = StrOnlyEntries kvs
  | [] => rfl
  | (k, v) :: rest => by
      simp only [mapLeavesEntries, StrOnlyEntries, StrOnly_mapLeaves f v,
        StrOnlyEntries_mapLeaves f rest]
end

theorem attrOk_str {d : DecCfg} {S : Strconv} (hc : d.cast.r = false) {v : Val}
    (h : attrOk d S v = true) : StrOnly v = true := by
  rw [← attrOk_reparse h, lf, cast_off S d.cast _ _ hc]; rfl

mutual
theorem DecodedChildG_StrOnly (d : DecCfg) (S : Strconv) (e : EncCfg) (hc : d.cast.r = false) :
    ∀ (v : Val), DecodedChildG d S e v = true → StrOnly v = true
  | .str s, _ => rfl
  | .num _, h | .bool _, h => by
      simp only [DecodedChildG, leafChildOk, Bool.or_eq_true, decide_eq_true_eq,
        Bool.and_eq_true, reduceCtorEq, false_or] at h
      exact attrOk_str hc (textOk_attrOk h.2)
  | .null, h => by cases h
  | .map kvs, h => DecodedEntriesG_StrOnly d S e hc kvs (DecodedChildG_map h).2
  | .list xs, h => DecodedListG_StrOnly d S e hc xs (DecodedChildG_list h).2
theorem DecodedListG_StrOnly (d : DecCfg) (S : Strconv) (e : EncCfg) (hc : d.cast.r = false) :
    ∀ (xs : List Val), DecodedListG d S e xs = true → StrOnlyList xs = true
  | [], _ => rfl
  | x :: xs, h => by
      have h := DecodedListG_cons h
      simp only [StrOnlyList, DecodedChildG_StrOnly d S e hc x h.1.2,
        DecodedListG_StrOnly d S e hc xs h.2, Bool.and_self]
theorem DecodedEntriesG_StrOnly (d : DecCfg) (S : Strconv) (e : EncCfg) (hc : d.cast.r = false) :
    ∀ (kvs : Entries), DecodedEntriesG d S e kvs = true → StrOnlyEntries kvs = true
  | [], _ => rfl
  | (k, v) :: rest, h => by
      obtain ⟨hr, hv⟩ := DecodedEntriesG_cons h
      simp only [StrOnlyEntries, DecodedEntriesG_StrOnly d S e hc rest hr, Bool.and_true]
      rcases hv with ⟨_, hv, _⟩ | ⟨_, _, hv⟩ | ⟨_, _, _, hv⟩
      · exact attrOk_str hc hv
      · exact attrOk_str hc (textOk_attrOk hv)
      · exact DecodedChildG_StrOnly d S e hc v hv
end

theorem DecodedG_StrOnly (d : DecCfg) (S : Strconv) (e : EncCfg) (hc : d.cast.r = false) (v : Val)
    (h : DecodedG d S e v = true) : StrOnly v = true :=
  DecodedChildG_StrOnly d S e hc v (DecodedG_iff.1 h).2

theorem attrValue_mapLeaves (f : Str → Str) (v : Val) (h : StrOnly v = true) :
    attrValue (mapLeaves f v) = (attrValue v).map f := by
  cases v <;> first | rfl | cases h

theorem fmtV_mapLeaves (f : Str → Str) (v : Val) (h : StrOnly v = true) :
    fmtV (mapLeaves f v) = (fmtV v).map f := by
  cases v <;> first | rfl | cases h

theorem encAttr_mapLeaves (e : EncCfg) (f : Str → Str) (k : Str) (v : Val)
    (h : StrOnly v = true) :
    encAttr e k (mapLeaves f v) = (encAttr e k v).map (mapAttr f) := by
  unfold encAttr
  rw [attrValue_mapLeaves f v h]
  cases attrValue v <;> rfl

theorem encAttrs_mapLeaves (e : EncCfg) (f : Str → Str) : ∀ (kvs : Entries),
    StrOnlyEntries kvs = true →
    encAttrs e (mapLeavesEntries f kvs) = (encAttrs e kvs).map (List.map (mapAttr f))
  | [], _ => rfl
  | (k, v) :: rest, h => by
      simp only [StrOnlyEntries, Bool.and_eq_true] at h
      simp only [mapLeavesEntries, encAttrs]
      rw [encAttr_mapLeaves e f k v h.1, encAttrs_mapLeaves e f rest h.2]
      split
      · cases encAttr e k v <;> cases encAttrs e rest <;> rfl
      · rfl

theorem countAttrs_mapLeaves (e : EncCfg) (f : Str → Str) (kvs : Entries) :
    countAttrs e (mapLeavesEntries f kvs) = countAttrs e kvs := by
  simp only [countAttrs, mapLeavesEntries_eq, List.filter_map, List.length_map, Function.comp_def,
    mapPair]

theorem length_mapLeavesEntries (f : Str → Str) (kvs : Entries) :
    (mapLeavesEntries f kvs).length = kvs.length := by
  rw [mapLeavesEntries_eq, List.length_map]

theorem mapLeavesList_isEmpty (f : Str → Str) (xs : List Val) :
    (mapLeavesList f xs).isEmpty = xs.isEmpty := by
  cases xs <;> rfl

abbrev mapSibs (f : Str → Str) (r : Except ErrKind (List Node)) : Except ErrKind (List Node) :=
  r.map (mapKids f)

mutual
/-- on values with only string leaves, the encoder's tree of `mapLeaves f v` is `mapNode f` of
    the encoder's tree of `v` (same success / failure) -/
theorem encTree_mapLeaves (e : EncCfg) (f : Str → Str) (hf : ∀ s, (f s).isEmpty = s.isEmpty) :
    ∀ (key : Str) (v : Val), StrOnly v = true →
    encTree e key (mapLeaves f v) = mapSibs f (encTree e key v)
  | key, .map vv, h => by
      simp only [mapLeaves, encTree]
      rw [encAttrs_mapLeaves e f vv h, countAttrs_mapLeaves, length_mapLeavesEntries,
        lookup_mapLeaves, encElems_mapLeaves e f hf vv h]
      cases encAttrs e vv with
      | error err => rfl
      | ok attrs =>
        simp only [Except.map]
        -- the two count tests do not look at the leaves: the same branch on both sides
        split
        · rfl
        cases hl : lookup e.textK vv with
        | none => cases encElems e vv <;> rfl
        | some tv =>
          simp only [Option.map_some, fmtV_mapLeaves f tv (StrOnly_lookup _ vv tv h hl)]
          cases fmtV tv with
          | none => rfl
          | some txt =>
            simp only [Option.map_some]
            split
            · rfl
            cases encElems e vv <;> rfl
  | key, .list xs, h => by
      simp only [mapLeaves, encTree]
      rw [mapLeavesList_isEmpty, encMembers_mapLeaves e f hf key xs h]
      split <;> rfl
  | key, .str s, _ => by
      simp only [mapLeaves, encTree, hf s]
      split <;> rfl
  | _, .null, h | _, .num _, h | _, .bool _, h => by cases h
theorem encMembers_mapLeaves (e : EncCfg) (f : Str → Str) (hf : ∀ s, (f s).isEmpty = s.isEmpty)
    (key : Str) : ∀ (xs : List Val), StrOnlyList xs = true →
    encMembers e key (mapLeavesList f xs) = mapSibs f (encMembers e key xs)
  | [], _ => rfl
  | x :: xs, h => by
      simp only [StrOnlyList, Bool.and_eq_true] at h
      simp only [mapLeavesList, encMembers]
      rw [encTree_mapLeaves e f hf key x h.1, encMembers_mapLeaves e f hf key xs h.2]
      cases encTree e key x with
      | error err => rfl
      | ok a =>
        cases encMembers e key xs with
        | error err => rfl
        | ok r => simp only [mapSibs, Except.map, mapKids_append]
theorem encElems_mapLeaves (e : EncCfg) (f : Str → Str) (hf : ∀ s, (f s).isEmpty = s.isEmpty) :
    ∀ (kvs : Entries), StrOnlyEntries kvs = true →
    encElems e (mapLeavesEntries f kvs) = mapSibs f (encElems e kvs)
  | [], _ => rfl
  | (k, v) :: rest, h => by
      simp only [StrOnlyEntries, Bool.and_eq_true] at h
      simp only [mapLeavesEntries, encElems]
      rw [encTree_mapLeaves e f hf k v h.1, encElems_mapLeaves e f hf rest h.2]
      split
      · rfl
      · cases encTree e k v with
        | error err => rfl
        | ok a =>
          cases encElems e rest with
          | error err => rfl
          | ok r => simp only [mapSibs, Except.map, mapKids_append]
end

theorem encTree_mapLeaves_single (e : EncCfg) (f : Str → Str)
    (hf : ∀ s, (f s).isEmpty = s.isEmpty) (key : Str) (v : Val) (n : Node)
    (hs : StrOnly v = true) (h : encTree e key v = .ok [n]) :
    encTree e key (mapLeaves f v) = .ok [mapNode f n] := by
  rw [encTree_mapLeaves e f hf key v hs, h]; rfl

/-- attribute values written raw, as the tokenizer reads them -/
def rawAttrs : List Attr → Option (List Attr)
  | [] => some []
  | a :: as =>
    match unesc a.value, rawAttrs as with
    | some v, some r => some (⟨a.space, a.name, v⟩ :: r)
    | _, _ => none

mutual
/-- what the tokenizer returns for a tree whose text nodes and attribute values were written
    raw: each value `r` is read as `unesc r`; `none` = syntax error (bare '&', unknown entity,
    raw '<') -/
def rawView : Node → Option Node
  | .elem sp name attrs kids =>
    match rawAttrs attrs, rawViewKids kids with
    | some a, some k => some (.elem sp name a k)
    | _, _ => none
  | .text s => (unesc s).map Node.text
  | .comment s => some (.comment s)
  | .procinst t i => some (.procinst t i)
  | .directive s => some (.directive s)
def rawViewKids : List Node → Option (List Node)
  | [] => some []
  | k :: ks =>
    match rawView k, rawViewKids ks with
    | some a, some r => some (a :: r)
    | _, _ => none
end

theorem rawAttrs_escape : ∀ (as : List Attr), rawAttrs (as.map (mapAttr escapeChars)) = some as
  | [] => rfl
  | a :: as => by
      simp only [List.map_cons, rawAttrs, mapAttr, unesc_escapeChars, rawAttrs_escape as]

mutual
/-- reading the escaped values back gives the original tree (`unesc ∘ escapeChars = id`, C05) -/
theorem rawView_mapNode_escape : ∀ (n : Node), rawView (mapNode escapeChars n) = some n
  | .elem sp name attrs kids => by
      simp only [mapNode, rawView, rawAttrs_escape attrs, rawViewKids_mapKids_escape kids]
  | .text s => by simp only [mapNode, rawView, unesc_escapeChars, Option.map_some]
  | .comment _ | .procinst _ _ | .directive _ => rfl
theorem rawViewKids_mapKids_escape : ∀ (ks : List Node),
    rawViewKids (mapKids escapeChars ks) = some ks
  | [] => rfl
  | k :: ks => by
      simp only [mapKids, rawViewKids, rawView_mapNode_escape k, rawViewKids_mapKids_escape ks]
end

def escOn (e : EncCfg) : EncCfg := { e with escape := true }
def escOff (e : EncCfg) : EncCfg := { e with escape := false }

theorem renderAttrs_escape (e : EncCfg) (h : e.escape = false) : ∀ (as : List Attr),
    renderAttrs e (as.map (mapAttr escapeChars)) = renderAttrs (escOn e) as
  | [] => rfl
  | a :: as => by
      simp only [List.map_cons, renderAttrs, renderAttrs_escape e h as]
      simp [escIf, h, escOn, mapAttr]

mutual
/-- with the encoder's escaping off, the bytes of the tree with escaped values are the bytes the
    encoder with escaping ON writes for the original tree -/
theorem render_mapNode_escape (e : EncCfg) (h : e.escape = false) : ∀ (n : Node),
    render e (mapNode escapeChars n) = render (escOn e) n
  | .elem sp name attrs kids => by
      simp only [mapNode, render, renderAttrs_escape e h attrs, mapKids_isEmpty,
        renderKids_mapKids_escape e h kids]
      rfl
  | .text s => by simp [mapNode, render, escIf, h, escOn]
  | .comment _ | .procinst _ _ | .directive _ => rfl
theorem renderKids_mapKids_escape (e : EncCfg) (h : e.escape = false) : ∀ (ks : List Node),
    renderKids e (mapKids escapeChars ks) = renderKids (escOn e) ks
  | [] => rfl
  | k :: ks => by
      simp only [mapKids, renderKids, render_mapNode_escape e h k,
        renderKids_mapKids_escape e h ks]
end

theorem render_escaped (cfg : EncCfg) (hesc : cfg.escape = true) (n : Node) :
    render cfg n = render (escOff cfg) (mapNode escapeChars n) := by
  have hcfg : escOn (escOff cfg) = cfg := by
    cases cfg
    simp only [escOn, escOff] at hesc ⊢
    simp only [hesc]
  rw [render_mapNode_escape (escOff cfg) rfl n, hcfg]

theorem nullTextOk_StrOnly (e : EncCfg) (k : Str) (v : Val) (h : StrOnly v = true) :
    nullTextOk e k v = true := by
  cases v <;> first | rfl | cases h

mutual
theorem StrOnly_Plain (e : EncCfg) : ∀ (v : Val), StrOnly v = true → Plain e v = true
  | .str _, _ => rfl
  | .list xs, h => StrOnlyList_Plain e xs h
  | .map kvs, h => StrOnlyEntries_Plain e kvs h
  | .null, h | .num _, h | .bool _, h => by cases h
theorem StrOnlyList_Plain (e : EncCfg) : ∀ (xs : List Val), StrOnlyList xs = true →
    PlainList e xs = true
  | [], _ => rfl
  | x :: xs, h => by
      simp only [StrOnlyList, Bool.and_eq_true] at h
      simp only [PlainList, StrOnly_Plain e x h.1, StrOnlyList_Plain e xs h.2, Bool.and_self]
theorem StrOnlyEntries_Plain (e : EncCfg) : ∀ (kvs : Entries), StrOnlyEntries kvs = true →
    PlainEntries e kvs = true
  | [], _ => rfl
  | (k, v) :: rest, h => by
      simp only [StrOnlyEntries, Bool.and_eq_true] at h
      simp only [PlainEntries, nullTextOk_StrOnly e k v h.1, StrOnly_Plain e v h.1,
        StrOnlyEntries_Plain e rest h.2, Bool.and_self]
end

mutual
/-- the string leaves of a value (text and attribute values), in entry order -/
def leaves : Val → List Str
  | .str s => [s]
  | .list xs => leavesList xs
  | .map kvs => leavesEntries kvs
  | _ => []
def leavesList : List Val → List Str
  | [] => []
  | x :: xs => leaves x ++ leavesList xs
def leavesEntries : Entries → List Str
  | [] => []
  | (_, v) :: rest => leaves v ++ leavesEntries rest
end

mutual
theorem leaves_mapLeaves (f : Str → Str) : ∀ (v : Val),
    leaves (mapLeaves f v) = (leaves v).map f
  | .null | .bool _ | .num _ | .str _ => rfl
  | .list xs => leavesList_mapLeaves f xs
  | .map kvs => leavesEntries_mapLeaves f kvs
theorem leavesList_mapLeaves (f : Str → Str) : ∀ (xs : List Val),
    leavesList (mapLeavesList f xs) = (leavesList xs).map f
  | [] => rfl
  | x :: xs => by
      simp only [mapLeavesList, leavesList, List.map_append, leaves_mapLeaves f x,
        leavesList_mapLeaves f xs]
theorem leavesEntries_mapLeaves (f : Str → Str) : ∀ (kvs : Entries),
    leavesEntries (mapLeavesEntries f kvs) = (leavesEntries kvs).map f
  | [] => rfl
  | (k, v) :: rest => by
      simp only [mapLeavesEntries, leavesEntries, List.map_append, leaves_mapLeaves f v,
        leavesEntries_mapLeaves f rest]
end

/-- no raw '<' (markup), '>' (so no "]]>") and '"' (the attribute delimiter) in a raw value -/
def rawSafeStr (r : Str) : Bool := r.all (fun c => c != '<' && c != '>' && c != '"')

def rawSafe (n : Node) : Bool := (nodeVals n).all rawSafeStr

theorem rawSafeStr_escape (s : Str) : rawSafeStr (escapeChars s) = true := by
  unfold rawSafeStr
  rw [List.all_eq_true]
  intro c hc
  have := escapeChars_no_specials s c hc
  simp [this.1, this.2.1, this.2.2.1]

theorem rawSafe_mapNode_escape (n : Node) : rawSafe (mapNode escapeChars n) = true := by
  unfold rawSafe
  rw [nodeVals_mapNode, List.all_eq_true]
  intro r hr
  obtain ⟨v, _, rfl⟩ := List.mem_map.1 hr
  exact rawSafeStr_escape v

end Mxj.EscDec
