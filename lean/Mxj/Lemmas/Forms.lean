/-
  Mxj.Lemmas.Forms — the two loop shapes of the `Maps` string forms (`mapsLoop`, `mapsLoopSep`,
  Mxj.Model.Forms) for an ARBITRARY byte-returning encoder `enc`.  Each loop is a fixed function
  of the RUN of the encoder's results — the encodings before the first error, and that error
  (`mapsLoop_eq`: concatenation, `mapsLoopSep_eq`: joined by "\n") — so success, first error,
  splitting the list and congruence are facts about `run`, stated once for both loops.
-/
import Mxj.Model.Forms
import Mxj.Lemmas.Str
namespace Mxj.Forms
open Mxj

/-- a "\n" BEFORE every member: what the loop of `JsonStringIndent` appends once `haveFirst` is
    set -/
def nlEach (xs : List Str) : Str := xs.flatMap (fun x => '\n' :: x)

theorem nlEach_nil : nlEach [] = [] := rfl
theorem nlEach_cons (x : Str) (xs : List Str) : nlEach (x :: xs) = '\n' :: x ++ nlEach xs := by
  simp [nlEach]
theorem nlEach_append (xs ys : List Str) : nlEach (xs ++ ys) = nlEach xs ++ nlEach ys := by
  simp [nlEach]

/-- `strings.Join(x :: xs, "\n")` -/
theorem joinNl_cons (x : Str) (xs : List Str) : joinWith ['\n'] (x :: xs) = x ++ nlEach xs :=
  joinWith_cons ['\n'] x xs

/-- ONE "\n" between the two parts, when there are two -/
theorem joinNl_append : ∀ (xs ys : List Str),
    joinWith ['\n'] (xs ++ ys)
      = joinWith ['\n'] xs ++ (if xs.isEmpty || ys.isEmpty then [] else ['\n']) ++ joinWith ['\n'] ys
  | [], _ => by simp [joinWith]
  | _ :: _, [] => by simp [joinWith]
  | x :: xs, y :: ys => by
    rw [List.cons_append, joinNl_cons, joinNl_cons, joinNl_cons, nlEach_append, nlEach_cons]
    simp

/-- the encodings before the first error, and that error -/
def run : List Bytes → List Str × Option ErrKind
  | [] => ([], none)
  | .error e :: _ => ([], some e)
  | .ok x :: l => (x :: (run l).1, (run l).2)

theorem run_ok : ∀ xs : List Str, run (xs.map .ok) = (xs, none)
  | [] => rfl
  | x :: xs => by simp [run, run_ok xs]

theorem run_append (b : List Bytes) : ∀ a : List Bytes,
    run (a ++ b) = match run a with
      | (xs, some e) => (xs, some e)
      | (xs, none) => (xs ++ (run b).1, (run b).2)
  | [] => rfl
  | .error e :: _ => rfl
  | .ok x :: a => by
      simp only [List.cons_append, run, run_append b a]
      cases run a with
      | mk xs o => cases o <;> rfl

theorem All₂.map_eq {α β γ : Type} {R : α → β → Prop} {f : α → γ} {g : β → γ}
    (h : ∀ a b, R a b → f a = g b) : ∀ {as : List α} {bs : List β},
    All₂ R as bs → as.map f = bs.map g
  | _, _, .nil => rfl
  | _, _, .cons r t => by rw [List.map_cons, List.map_cons, h _ _ r, All₂.map_eq h t]

theorem run_none (enc : Entries → Bytes) : ∀ ms : Maps,
    (run (ms.map enc)).2 = none → Encodes enc ms (run (ms.map enc)).1
  | [], _ => .nil
  | m :: ms, h => by
      simp only [List.map_cons] at h ⊢
      cases hm : enc m with
      | error e => rw [hm] at h; cases h
      | ok x => rw [hm] at h; exact .cons hm (run_none enc ms h)

theorem mapsLoop_eq (enc : Entries → Bytes) (ms : Maps) (s : Str) :
    mapsLoop enc ms s = (s ++ (run (ms.map enc)).1.flatten, (run (ms.map enc)).2) := by
  fun_induction mapsLoop enc ms s <;> simp [run, *]

/-- `haveFirst = true`: a "\n" before every member; `false`: before every member but the first.
    The "\n" is written only after the next member has been encoded: on an error the string
    returned does not end in a separator.  Stated for both values of `haveFirst`, since the loop
    sets it behind the first member: the induction needs the form at `true`. -/
theorem mapsLoopSep_eq (enc : Entries → Bytes) (ms : Maps) (hf : Bool) (s : Str) :
    mapsLoopSep enc ms hf s
      = (s ++ (if hf then nlEach (run (ms.map enc)).1 else joinWith ['\n'] (run (ms.map enc)).1),
          (run (ms.map enc)).2) := by
  fun_induction mapsLoopSep enc ms hf s with
  | case1 hf s => cases hf <;> simp [run, nlEach, joinWith]
  | case2 v rest hf s e he => cases hf <;> simp [run, he, nlEach, joinWith]
  | case3 v rest hf s j he ih =>
    -- behind a member that encodes the state is `true`: `ih` speaks of `nlEach`, whatever `hf` was
    rw [ih, List.map_cons, he]
    cases hf <;> simp [run, nlEach_cons, joinNl_cons]

theorem run_of_encodes {enc : Entries → Bytes} {ms : Maps} {xs : List Str} (h : Encodes enc ms xs) :
    run (ms.map enc) = (xs, none) := by
  rw [All₂.map_eq (fun _ _ r => r) h, run_ok]

theorem run_none_iff (enc : Entries → Bytes) (ms : Maps) :
    (run (ms.map enc)).2 = none ↔ ∃ xs, Encodes enc ms xs :=
  ⟨fun h => ⟨_, run_none enc ms h⟩, fun ⟨_, h⟩ => by rw [run_of_encodes h]⟩

theorem run_first_error {enc : Entries → Bytes} {pre : Maps} {bad : Entries} (tail : Maps)
    {xs : List Str} {e : ErrKind} (hp : Encodes enc pre xs) (hb : enc bad = .error e) :
    run ((pre ++ bad :: tail).map enc) = (xs, some e) := by
  rw [List.map_append, run_append, run_of_encodes hp, List.map_cons, hb]
  simp [run]

theorem run_tail_irrelevant {enc : Entries → Bytes} (pre : Maps) {bad : Entries}
    (tail tail' : Maps) {e : ErrKind} (hb : enc bad = .error e) :
    run ((pre ++ bad :: tail).map enc) = run ((pre ++ bad :: tail').map enc) := by
  simp only [List.map_append, run_append, List.map_cons, hb, run]

/-- a loop form gives the same result on two lists of Maps whose members the encoder does not
    tell apart (`R`: the entries in another order, a permutation, …) -/
theorem mapsLoop_congr {R : Entries → Entries → Prop} {enc : Entries → Bytes}
    (henc : ∀ m m', R m m' → enc m = enc m') {ms ms' : Maps} (h : All₂ R ms ms') :
    (∀ s, mapsLoop enc ms s = mapsLoop enc ms' s)
    ∧ ∀ s, mapsLoopSep enc ms false s = mapsLoopSep enc ms' false s := by
  simp only [mapsLoop_eq, mapsLoopSep_eq, All₂.map_eq henc h, implies_true, and_self]

theorem writeAll_eq_loop (enc : Entries → Bytes) : ∀ (ms : Maps) (w : Sink),
    writeAll (fun m => writerForm (enc m)) ms w
      = (⟨(mapsLoop enc ms w.written).1⟩, (mapsLoop enc ms w.written).2)
  | [], w => rfl
  | m :: ms, w => by
      simp only [writeAll, mapsLoop, writerForm]
      cases enc m with
      | error e => rfl
      | ok x => exact writeAll_eq_loop enc ms (w.write x)

theorem encodes_total (f : Entries → Str) : ∀ (ms : Maps),
    Encodes (fun m => .ok (f m)) ms (ms.map f)
  | [] => All₂.nil
  | _ :: ms => All₂.cons rfl (encodes_total f ms)

theorem fileForm_ok (s : Str) (old : Sink) : fileForm (s, none) old = (⟨s⟩, none) := by
  simp [fileForm, Sink.write, Sink.empty]

theorem fileForm_err (s : Str) (e : ErrKind) (old : Sink) :
    fileForm (s, some e) old = (old, some e) := rfl

end Mxj.Forms
