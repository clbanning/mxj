/-
  Mxj.Lemmas.Facts — reading the regenerated call-graph facts: transitive reachability and the
  "closed set" certificate check (the extractor supplies the closure; Lean only checks that it is
  closed and contains the roots, then lifts by `reach_subset_of_closed`).  A certificate `cert` is one
  Boolean, evaluated once by the kernel for each root set; `of_cert` lifts what it says of the members
  of the closure to everything reachable from a root.
-/
import Mxj.Generated.CallFacts
namespace Mxj.Facts
open Mxj.Generated

def factOf (f : String) : Option (String × List String × List String × List String) :=
  funcFacts.find? (·.1 == f)

def readsOf (f : String) : List String := match factOf f with | some x => x.2.1 | none => []
def writesOf (f : String) : List String := match factOf f with | some x => x.2.2.1 | none => []
def calleesOf (f : String) : List String := match factOf f with | some x => x.2.2.2 | none => []

/-- `g` is reachable from `f` through static calls inside the package -/
inductive Reach : String → String → Prop where
  | refl (f : String) : Reach f f
  | step {f g h : String} : Reach f g → h ∈ calleesOf g → Reach f h

/-- a set of functions closed under the callee relation -/
def closed (S : List String) : Bool := S.all fun f => (calleesOf f).all fun g => S.contains g

theorem reach_subset_of_closed (S : List String) (hc : closed S = true) (f g : String)
    (hf : f ∈ S) (h : Reach f g) : g ∈ S := by
  induction h with
  | refl => exact hf
  | step _ hh ih =>
    have := (List.all_eq_true.mp hc) _ ih
    have := (List.all_eq_true.mp this) _ hh
    simpa using this

def readsNone (vars : List String) (f : String) : Bool := vars.all fun v => !(readsOf f).contains v

/-- `f` reads only variables of `allowed` and assigns no package-level variable -/
def frameOk (allowed : List String) (f : String) : Bool :=
  (readsOf f).all (allowed.contains ·) && (writesOf f).isEmpty

def noneWrites (S : List String) : Bool := S.all fun f => (writesOf f).isEmpty

/-- the certificate for a root set: `S` is closed under static calls, holds `roots`, and `ok` holds of
    each of its members -/
def cert (roots S : List String) (ok : String → Bool) : Bool :=
  closed S && roots.all (S.contains ·) && S.all ok

theorem cert_iff {roots S : List String} {ok : String → Bool} : cert roots S ok = true ↔
    closed S = true ∧ roots.all (S.contains ·) = true ∧ S.all ok = true := by
  simp only [cert, Bool.and_eq_true, and_assoc]

theorem of_cert {roots S : List String} {ok : String → Bool} (h : cert roots S ok = true)
    {root g : String} (hr : root ∈ roots) (hg : Reach root g) : ok g = true := by
  obtain ⟨hc, hin, hok⟩ := cert_iff.1 h
  have hroot : root ∈ S := by simpa using List.all_eq_true.1 hin root hr
  exact List.all_eq_true.1 hok g (reach_subset_of_closed S hc root g hroot hg)

theorem reads_of_frame {roots S allowed : List String} (h : cert roots S (frameOk allowed) = true)
    {root g v : String} (hr : root ∈ roots) (hg : Reach root g) (hv : v ∈ readsOf g) :
    v ∈ allowed := by
  have := of_cert h hr hg
  simp only [frameOk, Bool.and_eq_true, List.all_eq_true] at this
  simpa using this.1 v hv

theorem writes_of_frame {roots S allowed : List String} (h : cert roots S (frameOk allowed) = true)
    {root g : String} (hr : root ∈ roots) (hg : Reach root g) : writesOf g = [] := by
  have := of_cert h hr hg
  simp only [frameOk, Bool.and_eq_true] at this
  simpa using this.2

theorem noneWrites_of_frame {S allowed : List String} (h : S.all (frameOk allowed) = true) :
    noneWrites S = true :=
  List.all_eq_true.2 fun f hf => (Bool.and_eq_true _ _ ▸ List.all_eq_true.1 h f hf).2

theorem not_reads_of_cert {roots S vars : List String} (h : cert roots S (readsNone vars) = true)
    {root g v : String} (hr : root ∈ roots) (hg : Reach root g) (hv : v ∈ vars) :
    v ∉ readsOf g := by
  simpa using List.all_eq_true.1 (of_cert h hr hg) v hv

end Mxj.Facts
