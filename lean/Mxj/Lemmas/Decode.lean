/-
  Mxj.Lemmas.Decode — the Map decoder (C01).  Outcomes: sequencing `Outcome.bind` and the relation
  `Outcome.Rel` with `Outcome.Rel.bind`, by which two runs of a decoder are compared step by step.  The
  decoder's equations over `Outcome.bind`, fuel monotonicity, and the invariant principle
  `parseElem_inv` / `decodeTop_inv`.  The element loop on the tokens of a tree is the tree fold
  `Fold.value` (fuel: one unit per token), and the fold is the declarative convention `Conv.value` up
  to the order of map entries on the domain (`kids'_eq_expect`, `rel_elem`, `fold_equiv_conv`).  At
  the end a sample `Strconv` and the sample trees of the non-vacuity examples.
-/
import Mxj.Model.Conv
import Mxj.Lemmas.Group
import Mxj.Lemmas.Norm
import Mxj.Lemmas.CastChain
import Mxj.Model.Perm
namespace Mxj

def isStart : Tok → Bool
  | .start .. => true
  | _ => false

/-- how a decoder ends when the tokens run out: io.EOF, or the tokenizer's error -/
def finErr {α : Type} : StreamEnd → Outcome α
  | .eof => .eof
  | .bad => .syntax

def Outcome.bind {α β : Type} : Outcome α → (α → Outcome β) → Outcome β
  | .ok a, g => g a
  | .eof, _ => .eof
  | .syntax, _ => .syntax
  | .err k, _ => .err k
  | .panic s, _ => .panic s

theorem finErr_bind {α β : Type} (fin : StreamEnd) (g : α → Outcome β) :
    (finErr fin).bind g = finErr fin := by
  cases fin <;> rfl

theorem Outcome.bind_eq_ok {α β : Type} {o : Outcome α} {g : α → Outcome β} {b : β} :
    o.bind g = .ok b ↔ ∃ a, o = .ok a ∧ g a = .ok b := by
  cases o <;> simp [Outcome.bind]

def Outcome.Rel {α β : Type} (R : α → β → Prop) : Outcome α → Outcome β → Prop
  | .ok a, .ok b => R a b
  | .eof, .eof => True
  | .syntax, .syntax => True
  | .err a, .err b => a = b
  | .panic a, .panic b => a = b
  | _, _ => False

theorem Outcome.Rel.refl {α : Type} {R : α → α → Prop} (hR : ∀ a, R a a) (o : Outcome α) :
    Outcome.Rel R o o := by
  cases o with
  | ok a => exact hR a
  | eof | «syntax» => trivial
  | err _ | panic _ => rfl

theorem Outcome.Rel.bind {α β γ δ : Type} {R : α → β → Prop} {Q : γ → δ → Prop}
    {a : Outcome α} {b : Outcome β} {f : α → Outcome γ} {g : β → Outcome δ} (h : Outcome.Rel R a b)
    (hfg : ∀ x y, a = .ok x → b = .ok y → R x y → Outcome.Rel Q (f x) (g y)) :
    Outcome.Rel Q (a.bind f) (b.bind g) := by
  cases a <;> cases b <;> try exact h.elim    -- two different kinds of outcome: `h` is `False`
  case ok.ok => exact hfg _ _ rfl rfl h
  all_goals exact h                           -- both stop in the same way, which is what `h` says

theorem Outcome.Rel.bind_eq {α β γ : Type} {R : α → β → Prop} {a : Outcome α} {b : Outcome β}
    {f : α → Outcome γ} {g : β → Outcome γ} (h : Outcome.Rel R a b)
    (hfg : ∀ x y, R x y → f x = g y) : a.bind f = b.bind g := by
  cases a <;> cases b <;> try exact h.elim    -- two different kinds of outcome: `h` is `False`
  case ok.ok => exact hfg _ _ h
  case err.err | panic.panic => exact congrArg _ h
  all_goals rfl

theorem Outcome.Rel.finErr {α β : Type} (R : α → β → Prop) (fin : StreamEnd) :
    Outcome.Rel R (finErr fin) (finErr fin) := by
  cases fin <;> trivial

/-- comments, processing instructions and directives: what the Map decoder passes over -/
def Tok.isMisc : Tok → Bool
  | .comment _ | .procinst .. | .directive _ => true
  | _ => false

/- Case principles for `induction t using …`: comment, processing instruction and directive are one
   case `misc`, under the hypothesis the `…_misc` equations take; `casesStart` has one case for
   everything but a start tag. -/
theorem Tok.casesMisc {P : Tok → Prop} (start : ∀ sp name attrs, P (.start sp name attrs))
    (stop : ∀ sp name, P (.stop sp name)) (text : ∀ s, P (.text s))
    (misc : ∀ t, t.isMisc = true → P t) : ∀ t, P t
  | .start .. => start ..
  | .stop .. => stop ..
  | .text _ => text _
  | .comment _ => misc _ rfl
  | .procinst .. => misc _ rfl
  | .directive _ => misc _ rfl

theorem Tok.casesStart {P : Tok → Prop} (start : ∀ sp name attrs, P (.start sp name attrs))
    (other : ∀ t, ¬ isStart t → P t) : ∀ t, P t
  | .start .. => start ..
  | .stop .. => other _ nofun
  | .text _ => other _ nofun
  | .comment _ => other _ nofun
  | .procinst .. => other _ nofun
  | .directive _ => other _ nofun

theorem exists_add_one_of_le {n f : Nat} (h : n + 1 ≤ f) : ∃ g, f = g + 1 := ⟨f - 1, by omega⟩

namespace Dec
variable (cfg : DecCfg) (S : Strconv) (fin : StreamEnd)

section Equations
variable {f : Nat} {skey : Str} {na : Entries} {n : Option Val} {seq : Nat} {pend : Option Str}
  {rest : List Tok}

theorem parseElem_nil : parseElem cfg S fin (f + 1) skey na n seq pend [] = finErr fin := by
  cases fin <;> rfl

theorem parseElem_start (sp name : Str) (attrs : List Attr) :
    parseElem cfg S fin (f + 1) skey na n seq pend (.start sp name attrs :: rest) =
      (parseElem cfg S fin f (elemKey cfg S name) (loadAttrs cfg S attrs) none 0 none rest).bind fun p =>
        parseElem cfg S fin f skey (addChild na (elemKey cfg S name) (seqDecorate cfg seq p.1).1) n
          (seqDecorate cfg seq p.1).2 none p.2 := by
  simp only [parseElem]
  cases parseElem cfg S fin f (elemKey cfg S name) (loadAttrs cfg S attrs) none 0 none rest <;> rfl

theorem parseElem_text (s : Str) :
    parseElem cfg S fin (f + 1) skey na n seq pend (.text s :: rest) =
      parseElem cfg S fin f skey (onText cfg S skey na n (pend.getD [] ++ s)).1
        (onText cfg S skey na n (pend.getD [] ++ s)).2 seq (some (pend.getD [] ++ s)) rest := rfl

theorem parseElem_misc {t : Tok} (ht : t.isMisc = true) :
    parseElem cfg S fin (f + 1) skey na n seq pend (t :: rest) =
      parseElem cfg S fin f skey na n seq none rest := by
  cases t <;> first | rfl | cases ht

theorem decodeTop_nil : decodeTop cfg S fin (f + 1) [] = finErr fin := by
  cases fin <;> rfl

theorem decodeTop_start (sp name : Str) (attrs : List Attr) :
    decodeTop cfg S fin (f + 1) (.start sp name attrs :: rest) =
      (parseElem cfg S fin f (elemKey cfg S name) (loadAttrs cfg S attrs) none 0 none rest).bind fun p =>
        .ok (.map [(elemKey cfg S name, p.1)], p.2) := by
  simp only [decodeTop]
  cases parseElem cfg S fin f (elemKey cfg S name) (loadAttrs cfg S attrs) none 0 none rest <;> rfl

theorem decodeTop_other {t : Tok} (ht : ¬ isStart t) :
    decodeTop cfg S fin (f + 1) (t :: rest) = decodeTop cfg S fin f rest := by
  cases t <;> first | rfl | exact absurd rfl ht

theorem newMapXml_eq (toks : List Tok) :
    newMapXml cfg S toks fin = (decodeTop cfg S fin (toks.length + 1) toks).bind fun p => .ok p.1 := by
  unfold newMapXml
  cases decodeTop cfg S fin (toks.length + 1) toks <;> rfl

end Equations
theorem parseElem_fuel_mono {f g : Nat} (hfg : f ≤ g)
    {skey : Str} {na : Entries} {n : Option Val} {seq : Nat} {pend : Option Str}
    {toks : List Tok} {r : Val × List Tok}
    (h : parseElem cfg S fin f skey na n seq pend toks = .ok r) :
    parseElem cfg S fin g skey na n seq pend toks = .ok r := by
  induction f generalizing g skey na n seq pend toks r with
  | zero => cases h
  | succ f ih =>
    obtain ⟨g, rfl⟩ := exists_add_one_of_le hfg
    have hfg : f ≤ g := Nat.le_of_succ_le_succ hfg
    cases toks with
    | nil => cases fin <;> cases h
    | cons t rest =>
      induction t using Tok.casesMisc with
      | start sp name attrs =>
        rw [parseElem_start] at h ⊢
        obtain ⟨p, hp, h⟩ := Outcome.bind_eq_ok.1 h
        rw [ih hfg hp]
        exact ih hfg h
      | stop => exact h
      | text s => exact ih hfg h
      | misc t ht => rw [parseElem_misc cfg S fin ht] at h ⊢; exact ih hfg h

theorem decodeTop_fuel_mono {f g : Nat} (hfg : f ≤ g) {toks : List Tok} {r : Val × List Tok}
    (h : decodeTop cfg S fin f toks = .ok r) : decodeTop cfg S fin g toks = .ok r := by
  induction f generalizing g toks with
  | zero => cases h
  | succ f ih =>
    obtain ⟨g, rfl⟩ := exists_add_one_of_le hfg
    have hfg : f ≤ g := Nat.le_of_succ_le_succ hfg
    cases toks with
    | nil => cases fin <;> cases h
    | cons t rest =>
      induction t using Tok.casesStart with
      | start sp name attrs =>
        rw [decodeTop_start] at h ⊢
        obtain ⟨p, hp, h⟩ := Outcome.bind_eq_ok.1 h
        rw [parseElem_fuel_mono cfg S fin hfg hp]
        exact h
      | other t ht => rw [decodeTop_other cfg S fin ht] at h ⊢; exact ih hfg h

/-- the CharData step in terms of the processed text `Conv.textOf` -/
theorem onText_eq (skey : Str) (na : Entries) (n : Option Val) (s : Str) :
    onText cfg S skey na n s =
      if (Conv.textOf cfg s).isEmpty then (na, n)
      else if !na.isEmpty || cfg.asMap then
        (insert cfg.textK (cast S cfg.cast (Conv.textOf cfg s) cfg.textK) na, n)
      else (na, some (cast S cfg.cast (Conv.textOf cfg s) skey)) := rfl

/-- the three things the CharData step can do: nothing (blank run), store the text under the
    text key (something is recorded already), or make it the element's own value -/
theorem onText_cases (skey : Str) (na : Entries) (n : Option Val)
    (s : Str) {P : Entries × Option Val → Prop} (blank : P (na, n))
    (seen : P (insert cfg.textK (cast S cfg.cast (Conv.textOf cfg s) cfg.textK) na, n))
    (first : P (na, some (cast S cfg.cast (Conv.textOf cfg s) skey))) :
    P (onText cfg S skey na n s) := by
  fun_cases onText cfg S skey na n s <;> assumption

section Invariant
/- invariants of the decoder: `I` holds of the entries and the pending text value when an element is
   opened and is kept by every step, `Q` then holds of every finished element; `T` is what may be
   assumed of each token -/
variable {I : Entries → Option Val → Prop} {Q : Val → Prop} {T : Tok → Prop}
  (hattrs : ∀ attrs, I (loadAttrs cfg S attrs) none)
  (hchild : ∀ sp name attrs na n seq v, T (.start sp name attrs) → I na n → Q v →
    I (addChild na (elemKey cfg S name) (seqDecorate cfg seq v).1) n)
  (htext : ∀ skey na n s, I na n → I (onText cfg S skey na n s).1 (onText cfg S skey na n s).2)
  (hfin : ∀ na n, I na n → Q (finishElem cfg na n))
include hattrs hchild htext hfin

theorem parseElem_inv {f : Nat} {skey : Str} {na : Entries} {n : Option Val} {seq : Nat}
    {pend : Option Str} {toks : List Tok} {v : Val} {r : List Tok} (hT : ∀ t ∈ toks, T t) (hI : I na n)
    (h : parseElem cfg S fin f skey na n seq pend toks = .ok (v, r)) : Q v ∧ ∀ t ∈ r, T t := by
  induction f generalizing skey na n seq pend toks v r with
  | zero => cases h
  | succ f ih =>
    cases toks with
    | nil => cases fin <;> cases h
    | cons t rest =>
      have hT' : ∀ t ∈ rest, T t := fun t ht => hT t (List.mem_cons_of_mem _ ht)
      induction t using Tok.casesMisc with
      | start sp name attrs =>
        rw [parseElem_start] at h
        obtain ⟨p, hp, h⟩ := Outcome.bind_eq_ok.1 h
        obtain ⟨hQ, hTp⟩ := ih hT' (hattrs attrs) hp
        exact ih hTp (hchild _ _ _ _ _ _ _ (hT _ (List.mem_cons_self ..)) hI hQ) h
      | stop => cases h; exact ⟨hfin _ _ hI, hT'⟩
      | text s => exact ih hT' (htext _ _ _ _ hI) h
      | misc t ht => rw [parseElem_misc cfg S fin ht] at h; exact ih hT' hI h

/-- … and `R` of the document, if it holds of the root's value under the root's key -/
theorem decodeTop_inv {R : Val → Prop}
    (hroot : ∀ sp name attrs v, T (.start sp name attrs) → Q v → R (.map [(elemKey cfg S name, v)]))
    {f : Nat} {toks : List Tok} {v : Val} {r : List Tok} (hT : ∀ t ∈ toks, T t)
    (h : decodeTop cfg S fin f toks = .ok (v, r)) : R v := by
  induction f generalizing toks with
  | zero => cases h
  | succ f ih =>
    cases toks with
    | nil => cases fin <;> cases h
    | cons t rest =>
      have hT' : ∀ t ∈ rest, T t := fun t ht => hT t (List.mem_cons_of_mem _ ht)
      induction t using Tok.casesStart with
      | start sp name attrs =>
        rw [decodeTop_start] at h
        obtain ⟨p, hp, h⟩ := Outcome.bind_eq_ok.1 h
        cases h
        exact hroot sp name attrs _ (hT _ (List.mem_cons_self ..))
          (parseElem_inv cfg S fin hattrs hchild htext hfin hT' (hattrs attrs) hp).1
      | other t ht => rw [decodeTop_other cfg S fin ht] at h; exact ih hT' h

end Invariant

theorem length_flatten_elem (sp name : Str) (attrs : List Attr) (ks : List Node) :
    (flatten (.elem sp name attrs ks)).length = (flattenKids ks).length + 2 := by
  simp [flatten]

/-- the element loop on the tokens of the children `ks` and the end tag is the fold over `ks`;
    fuel: one unit per token -/
theorem parse_kids (cfg : DecCfg) (S : Strconv) (fin : StreamEnd) : ∀ (ks : List Node) (sp nm : Str)
    (skey : Str) (na : Entries) (n : Option Val) (seq : Nat) (pend : Option Str)
    (rest : List Tok) (f : Nat), (flattenKids ks).length + 1 ≤ f →
    parseElem cfg S fin f skey na n seq pend (flattenKids ks ++ Tok.stop sp nm :: rest) =
      .ok (finishElem cfg (Fold.kids' cfg S skey (na, n, seq, pend) ks).1
             (Fold.kids' cfg S skey (na, n, seq, pend) ks).2.1, rest) := by
  intro ks sp nm skey na n seq pend rest f
  induction f generalizing ks sp nm skey na n seq pend rest with
  | zero => intro hf; omega
  | succ f ih =>
    intro hf
    cases ks with
    | nil => rfl
    | cons k ks =>
      cases k with
      | elem sp' name attrs ks' =>
        simp only [flattenKids, flatten, List.length_append, List.length_cons, List.cons_append,
          List.nil_append, List.append_assoc] at hf ⊢
        rw [parseElem_start, ih ks' _ _ _ _ _ _ _ _ (by omega)]
        exact ih ks _ _ _ _ _ _ _ _ (by omega)
      -- any other node is one token, and the loop's clause for it is the fold's
      | _ => exact ih ks _ _ _ _ _ _ _ _ (Nat.le_of_succ_le_succ hf)

theorem parseElem_tree (sp name : Str) (attrs : List Attr)
    (ks : List Node) (rest : List Tok) (f : Nat) (hf : (flattenKids ks).length + 1 ≤ f) :
    parseElem cfg S fin f (elemKey cfg S name) (loadAttrs cfg S attrs) none 0 none
      (flattenKids ks ++ Tok.stop sp name :: rest) = .ok (Fold.value cfg S (.elem sp name attrs ks), rest) :=
  parse_kids cfg S fin ks sp name _ _ _ _ _ rest f hf

theorem decodeTop_tree
    (sp name : Str) (attrs : List Attr) (kids : List Node) (rest : List Tok) (f : Nat)
    (hf : (flatten (.elem sp name attrs kids)).length ≤ f) :
    decodeTop cfg S fin f (flatten (.elem sp name attrs kids) ++ rest)
      = .ok (Fold.doc cfg S (.elem sp name attrs kids), rest) := by
  rw [length_flatten_elem] at hf
  obtain ⟨f, rfl⟩ := exists_add_one_of_le hf
  rw [flatten, List.cons_append, List.append_assoc, List.singleton_append, decodeTop_start,
    parseElem_tree cfg S fin sp name attrs kids rest f (Nat.le_of_succ_le_succ hf)]
  rfl

/-- a prolog of non-start tokens costs one unit of fuel per token and is otherwise ignored -/
theorem decodeTop_skip :
    ∀ (pre : List Tok), (∀ t ∈ pre, ¬ isStart t) → ∀ (f : Nat) (toks : List Tok),
      decodeTop cfg S fin (pre.length + f) (pre ++ toks) = decodeTop cfg S fin f toks
  | [], _, f, toks => by simp
  | t :: pre, h, f, toks => by
      rw [List.length_cons, Nat.add_right_comm, List.cons_append,
        decodeTop_other cfg S fin (h t (List.mem_cons_self ..))]
      exact decodeTop_skip pre (fun t ht => h t (List.mem_cons_of_mem _ ht)) f toks

theorem newMapXml_tree (pre post : List Tok)
    (hpre : ∀ t ∈ pre, ¬ isStart t) (sp name : Str) (attrs : List Attr) (kids : List Node) :
    newMapXml cfg S (pre ++ flatten (.elem sp name attrs kids) ++ post) fin
      = .ok (Fold.doc cfg S (.elem sp name attrs kids)) := by
  rw [newMapXml_eq, List.append_assoc, List.length_append, Nat.add_assoc,
    decodeTop_skip cfg S fin pre hpre,
    decodeTop_tree cfg S fin sp name attrs kids post _ (by rw [List.length_append]; omega)]
  rfl


/-! ### `addChild` = insert of the promoted value; iterated promotion = `Conv.collect` -/

def promote (o : Option Val) (v : Val) : Val :=
  match o with
  | some (.list xs) => .list (xs ++ [v])
  | some old => .list [old, v]
  | none => v

/-- a property that a list has exactly when its members have it survives `promote` -/
theorem promote_of_list {Q : Val → Prop} (hl : ∀ xs, Q (.list xs) ↔ ∀ x ∈ xs, Q x) {old v : Val}
    (ho : Q old) (hv : Q v) : Q (promote (some old) v) := by
  have hv := List.forall_mem_singleton.2 hv
  cases old with
  | list xs => exact (hl _).2 (List.forall_mem_append.2 ⟨(hl xs).1 ho, hv⟩)
  | _ => exact (hl _).2 (List.forall_mem_cons.2 ⟨ho, hv⟩)

theorem addChild_eq (na : Entries) (k : Str) (v : Val) :
    addChild na k v = insert k (promote (lookup k na) v) na := by
  unfold addChild promote
  split <;> simp_all

theorem lookup_addChild (q : Str) (na : Entries) (k : Str) (v : Val) :
    lookup q (addChild na k v) = if q = k then some (promote (lookup k na) v) else lookup q na := by
  rw [addChild_eq, lookup_insert]

theorem nodup_keys_addChild {na : Entries} (k : Str) (v : Val) (h : (keys na).Nodup) :
    (keys (addChild na k v)).Nodup := by
  rw [addChild_eq]; exact nodup_keys_insert h

theorem addChild_ne_nil (na : Entries) (k : Str) (v : Val) : (addChild na k v).isEmpty = false := by
  rw [addChild_eq]; exact insert_ne_nil ..

theorem norm_promote (o : Option Val) (v : Val) :
    (promote o v).norm = promote (o.map Val.norm) v.norm := by
  cases o with
  | none => simp [promote]
  | some old =>
    cases old <;> simp [promote, Val.norm, Enc.normList_eq_map]

theorem EqN.addChild {l l' : Entries} (h : EqN l l') (k : Str) {v v' : Val}
    (hv : v.norm = v'.norm) : EqN (addChild l k v) (addChild l' k v') := by
  rw [addChild_eq, addChild_eq]
  refine EqN.insert h k ?_
  rw [norm_promote, norm_promote, h k, hv]

def addAll (na : Entries) (cs : List (Str × Val)) : Entries :=
  cs.foldl (fun b c => addChild b c.1 c.2) na

theorem addAll_nil (na : Entries) : addAll na [] = na := rfl
theorem addAll_cons (na : Entries) (c : Str × Val) (cs : List (Str × Val)) :
    addAll na (c :: cs) = addAll (addChild na c.1 c.2) cs := rfl

theorem EqN.addAll (cs : List (Str × Val)) {l l' : Entries} (h : EqN l l') :
    EqN (addAll l cs) (addAll l' cs) :=
  List.foldl_rel h fun c _ _ _ h => EqN.addChild h c.1 rfl

theorem nodup_keys_addAll (cs : List (Str × Val)) (na : Entries) (h : (keys na).Nodup) :
    (keys (addAll na cs)).Nodup :=
  List.foldlRecOn (motive := fun b => (keys b).Nodup) cs _ h fun _ h _ _ => nodup_keys_addChild _ _ h

def promoteAll (o : Option Val) (vs : List Val) : Option Val :=
  vs.foldl (fun o v => some (promote o v)) o

theorem lookup_addAll (k : Str) : ∀ (cs : List (Str × Val)) (na : Entries),
    lookup k (addAll na cs) = promoteAll (lookup k na) (valsOf k cs)
  | [], na => rfl
  | c :: cs, na => by
      rw [addAll_cons, lookup_addAll k cs, lookup_addChild]
      by_cases e : k = c.1
      · subst e
        simp [valsOf, promoteAll]
      · have e' : ¬ c.1 = k := fun h => e h.symm
        simp [valsOf, e, e']

/-- a later text-key insert commutes with adding children whose keys differ from the text key:
    under the text key nothing is added, under the other keys the insert is not seen -/
theorem addAll_insert_comm (tk : Str) (x : Val) (cs : List (Str × Val)) (na : Entries)
    (h : ∀ c ∈ cs, c.1 ≠ tk) : EqN (addAll (insert tk x na) cs) (insert tk x (addAll na cs)) := by
  refine EqN.of_lookup fun q => ?_
  rw [lookup_addAll, lookup_insert, lookup_insert, lookup_addAll]
  split
  · rename_i e
    rw [e, valsOf_eq_nil (k := tk) (cs := cs) (fun hm => by
      obtain ⟨c, hc, e'⟩ := List.mem_map.1 hm; exact h c hc e')]
    rfl
  · rfl

theorem promoteAll_list : ∀ (vs : List Val) (xs : List Val),
    promoteAll (some (.list xs)) vs = some (.list (xs ++ vs))
  | [], xs => by rw [List.append_nil]; rfl
  | v :: vs, xs => by rw [List.append_cons]; exact promoteAll_list vs (xs ++ [v])

/-- onto a value that is already there `collect` is iterated promotion, whatever the values -/
theorem collect_some (old : Val) : ∀ (vs : List Val),
    Conv.collect (some old) vs = promoteAll (some old) vs
  | [] => by cases old <;> rfl
  | v :: vs => by
      have step : promoteAll (some old) (v :: vs) = promoteAll (some (promote (some old) v)) vs := rfl
      cases old <;> simp [step, promote, promoteAll_list, Conv.collect]

/-- with nothing there the first value is kept as it is, so it must not be a list itself -/
theorem collect_eq_promoteAll (o : Option Val) (vs : List Val)
    (h : ∀ v ∈ vs, v.isList = false) : Conv.collect o vs = promoteAll o vs := by
  cases o with
  | some old => exact collect_some old vs
  | none =>
    cases vs with
    | nil => rfl
    | cons v vs =>
      refine Eq.trans ?_ (collect_some v vs)
      have hv := h v (List.mem_cons_self ..)
      cases vs <;> cases v <;> first | rfl | cases hv


/-- the declarative grouping and the insert/promote fold agree on every key, as long as no
    child value is itself a list -/
theorem lookup_groupOnto_eq_addAll (base : Entries) (cs : List (Str × Val))
    (h : ∀ c ∈ cs, c.2.isList = false) (q : Str) :
    lookup q (Conv.groupOnto base cs) = lookup q (addAll base cs) := by
  rw [lookup_groupOnto, lookup_addAll]
  split
  · exact collect_eq_promoteAll _ _ fun v hv => h (q, v) (Enc.mem_valsOf.1 hv)
  · next e => rw [valsOf_eq_nil e]; rfl


/-- the relation carried through the tree induction: maps with distinct keys holding `≈ᵥ`
    values under the same keys, or the same scalar -/
def Rel (a b : Val) : Prop :=
  (∃ l l', a = .map l ∧ b = .map l' ∧ (keys l).Nodup ∧ (keys l').Nodup ∧ EqN l l')
  ∨ (scalar a = true ∧ a = b)

theorem Rel.map {l l' : Entries} (h1 : (keys l).Nodup) (h2 : (keys l').Nodup) (h : EqN l l') :
    Rel (.map l) (.map l') := .inl ⟨l, l', rfl, rfl, h1, h2, h⟩

theorem Rel.scalar {a : Val} (h : scalar a = true) : Rel a a := .inr ⟨h, rfl⟩

theorem Rel.equiv {a b : Val} (h : Rel a b) : a ≈ᵥ b := by
  rcases h with ⟨l, l', rfl, rfl, h1, h2, h⟩ | ⟨_, rfl⟩
  · exact EqN.norm_map h1 h2 h
  · rfl

theorem Rel.not_list_right {a b : Val} (h : Rel a b) : b.isList = false := by
  rcases h with ⟨l, l', rfl, rfl, _⟩ | ⟨hs, rfl⟩
  · rfl
  · exact (scalar_leaf hs).1

theorem rel_seqDecorate (seq : Nat) {a b : Val} (h : Rel a b) :
    Rel (seqDecorate cfg seq a).1 (seqDecorate cfg seq b).1
      ∧ (seqDecorate cfg seq a).2 = (seqDecorate cfg seq b).2 := by
  rcases h with ⟨l, l', rfl, rfl, h1, h2, h⟩ | ⟨hs, rfl⟩
  · unfold seqDecorate
    cases cfg.seqNum
    · exact ⟨Rel.map h1 h2 h, rfl⟩
    · exact ⟨Rel.map (nodup_keys_insert h1) (nodup_keys_insert h2)
        (EqN.insert h _ rfl), rfl⟩
  · refine ⟨?_, rfl⟩
    unfold seqDecorate
    cases cfg.seqNum
    · exact Rel.scalar hs
    · cases a with
      | null | list _ | map _ => cases hs
      | bool _ | num _ | str _ =>     -- a scalar is wrapped in the same two-entry map on both sides
        exact Rel.map (nodup_keys_insert (by simp [keys]))
          (nodup_keys_insert (by simp [keys])) (EqN.refl _)


/-! ### the steps of the fold, and that they keep keys distinct -/

theorem nodup_keys_kids' (skey : Str) : ∀ (ks : List Node)
    {na : Entries} {n : Option Val} {seq : Nat} {pend : Option Str}, (keys na).Nodup →
    (keys (Fold.kids' cfg S skey (na, n, seq, pend) ks).1).Nodup
  | [], _, _, _, _, h => h
  | k :: rest, na, n, seq, pend, h => by
      cases k with
      | elem => exact nodup_keys_kids' skey rest (nodup_keys_addChild _ _ h)
      | text s =>
        exact nodup_keys_kids' skey rest (onText_cases cfg S skey na n _
          (P := fun r => (keys r.1).Nodup) h (nodup_keys_insert h) h)
      | comment | procinst | directive => exact nodup_keys_kids' skey rest h

theorem conv_value_shape (sp name : Str) (attrs : List Attr)
    (ks : List Node) :
    scalar (Conv.value cfg S (.elem sp name attrs ks)) = true
      ∨ (Conv.value cfg S (.elem sp name attrs ks)).isMap = true := by
  simp only [Conv.value]
  split
  · split
    · exact .inl rfl
    · exact .inr rfl
  · split
    · split
      · exact .inl (cast_scalar _ _ _ _)
      · exact .inr rfl
    · exact .inr rfl

/-- what holds of the entry of each element child, whatever its number, holds of all `childVals` -/
theorem forall_mem_childVals {P : Str × Val → Prop} : ∀ (ks : List Node) (seq : Nat),
    (∀ {sp name attrs ks'} (seq' : Nat), Node.elem sp name attrs ks' ∈ ks →
      P (elemKey cfg S name, (seqDecorate cfg seq' (Conv.value cfg S (.elem sp name attrs ks'))).1)) →
    ∀ c ∈ Conv.childVals cfg S seq ks, P c
  | [], _, _ => nofun
  | k :: rest, seq, h => by
      have ih := fun seq => forall_mem_childVals rest seq fun seq' hm => h seq' (List.mem_cons_of_mem _ hm)
      cases k with
      | elem => exact List.forall_mem_cons.2 ⟨h seq (List.mem_cons_self ..), ih _⟩
      | text | comment | procinst | directive => exact ih seq

theorem seqDecorate_isList (seq : Nat) (v : Val) : (seqDecorate cfg seq v).1.isList = v.isList := by
  unfold seqDecorate
  cases cfg.seqNum <;> cases v <;> rfl

theorem childVals_not_list (ks : List Node) (seq : Nat) :
    ∀ c ∈ Conv.childVals cfg S seq ks, c.2.isList = false :=
  forall_mem_childVals cfg S ks seq fun {sp name attrs ks'} seq' _ => by
    rw [seqDecorate_isList]
    rcases conv_value_shape cfg S sp name attrs ks' with h | h
    · exact (scalar_leaf h).1
    · cases hv : Conv.value cfg S (.elem sp name attrs ks') <;> first | rfl | (rw [hv] at h; cases h)

/-! ### text runs -/

theorem textRuns_length : ∀ (ks : List Node) (a b : Bool),
    (Conv.textRuns cfg a ks).length = (Conv.textRuns cfg b ks).length
  | [], a, b => rfl
  | k :: rest, a, b => by
      cases k with
      | elem => rfl
      | text s =>
        simp only [Conv.textRuns]
        split
        · exact textRuns_length rest a b
        · exact congrArg (· + 1) (textRuns_length rest a b)
      | comment | procinst | directive => exact textRuns_length rest a b

/-! ### the fold over the children against the declarative placement of the text -/

/-- `pend` is irrelevant: nothing pending, or the next node is not text -/
def pendOK (pend : Option Str) (ks : List Node) : Prop :=
  pend = none ∨ ∀ s rest, ks ≠ .text s :: rest

/-- the pending value the conventions prescribe: the cast of a text run met before anything was
    recorded (it does not depend on the entries) -/
def expectN (cfg : DecCfg) (S : Strconv) (skey : Str) (n : Option Val) : List Conv.TextRun → Option Val
  | [] => n
  | t :: _ => if t.early then some (cast S cfg.cast t.value skey) else n

/-- the entries the conventions prescribe: the children's entries `F`, and a text run met later
    under the text key -/
def expectE (cfg : DecCfg) (S : Strconv) (F : Entries) : List Conv.TextRun → Entries
  | [] => F
  | t :: _ => if t.early then F else insert cfg.textK (cast S cfg.cast t.value cfg.textK) F

theorem EqN.expectE {F F' : Entries} (h : EqN F F') : ∀ (runs : List Conv.TextRun),
    EqN (expectE cfg S F runs) (expectE cfg S F' runs)
  | [] => h
  | ⟨_, true⟩ :: _ => h
  | ⟨_, false⟩ :: _ => EqN.insert h _ rfl

/-- the fold over the children `ks` from the state `(na, n, seq, pend)` ends in what the conventions
    prescribe (`expectN`, `expectE`): the children's entries added in order (`addAll` of
    `Conv.childVals`) and the one non-blank text run placed by `Conv.textRuns` — the pending value
    is equal, the entries agree key-wise up to `≈ᵥ`.  Needs: the claim for the element children, no
    child key equal to the text key, no adjacent text nodes (so `pend` never matters), at most one
    non-blank run.  `seen`, the flag of `Conv.textRuns`, is a variable equal to the state's test so
    that after a child the induction hypothesis is taken at `true`. -/
theorem kids'_eq_expect (skey : Str) : ∀ (ks : List Node),
    (∀ {sp name attrs ks'}, Node.elem sp name attrs ks' ∈ ks →
      Rel (Fold.value cfg S (.elem sp name attrs ks')) (Conv.value cfg S (.elem sp name attrs ks'))) →
    (∀ {sp name attrs ks'}, Node.elem sp name attrs ks' ∈ ks → elemKey cfg S name ≠ cfg.textK) →
    noAdjTextKids ks = true →
    ∀ (na : Entries) (n : Option Val) (seq : Nat) (pend : Option Str), pendOK pend ks →
    (Conv.textRuns cfg false ks).length ≤ 1 →
    ∀ (seen : Bool), seen = (!na.isEmpty || cfg.asMap) →
    (Fold.kids' cfg S skey (na, n, seq, pend) ks).2.1
        = expectN cfg S skey n (Conv.textRuns cfg seen ks)
    ∧ EqN (Fold.kids' cfg S skey (na, n, seq, pend) ks).1
        (expectE cfg S (addAll na (Conv.childVals cfg S seq ks)) (Conv.textRuns cfg seen ks))
  | [], _, _, _, na, n, seq, pend, _, _, _, _ => ⟨rfl, EqN.refl _⟩
  | k :: rest, hK, hkey, hadj, na, n, seq, pend, hp, hlen, _, rfl => by
      have ih := kids'_eq_expect skey rest (fun hm => hK (List.mem_cons_of_mem _ hm))
        (fun hm => hkey (List.mem_cons_of_mem _ hm)) (noAdjTextKids_cons hadj).2
      cases k with
      | comment | procinst | directive => exact ih na n seq none (.inl rfl) hlen _ rfl
      | elem sp name attrs ks' =>
        obtain ⟨hd1, hd2⟩ := rel_seqDecorate cfg seq (hK (List.mem_cons_self ..))
        simp only [Fold.kids', Conv.childVals, Conv.textRuns, addAll_cons]
        rw [← hd2]
        -- something is recorded from here on; the child's value may be replaced by the
        -- specification's: the two are `≈ᵥ`
        exact (ih _ n _ none (.inl rfl) (by rw [textRuns_length cfg rest false true]; exact hlen)
            true (by rw [addChild_ne_nil]; rfl)).imp_right fun h => h.trans
          (EqN.expectE cfg S (EqN.addAll _ (EqN.addChild (EqN.refl na) _ hd1.equiv)) _)
      | text s =>
        have hpend : pend = none := hp.elim id (fun h => absurd rfl (h s rest))
        subst hpend
        have hp' : pendOK (some s) rest := .inr fun s' r' e => by subst e; cases hadj
        simp only [Fold.kids', Conv.childVals, Conv.textRuns, Option.getD_none, List.nil_append,
          onText_eq]
        simp only [Conv.textRuns] at hlen
        by_cases hb : (Conv.textOf cfg s).isEmpty = true
        · -- blank run: nothing changes
          rw [if_pos hb] at hlen
          rw [if_pos hb, if_pos hb]
          exact ih na n seq (some s) hp' hlen _ rfl
        · -- the one non-blank run: no further run among `rest`
          rw [if_neg hb] at hlen
          rw [if_neg hb, if_neg hb]
          have hnil : ∀ b, Conv.textRuns cfg b rest = [] :=
            fun b => List.length_eq_zero_iff.1 (by
              rw [textRuns_length cfg rest b false]; simp only [List.length_cons] at hlen; omega)
          have ih := fun na' n' => ih na' n' seq (some s) hp' (by rw [hnil]; exact Nat.zero_le _) _ rfl
          simp only [hnil, expectN, expectE] at ih ⊢
          cases hseen : (!na.isEmpty || cfg.asMap) with
          | true =>
            exact ⟨(ih _ _).1, (ih _ _).2.trans (addAll_insert_comm _ _ _ _
              (forall_mem_childVals cfg S rest seq fun _ hm => hkey (List.mem_cons_of_mem _ hm)))⟩
          | false => exact ih _ _


/-! ### one element, then the whole tree -/

/-- the specification's value is `finishElem` of what it prescribes for the entries and the text -/
theorem conv_value_eq (sp name : Str) (attrs : List Attr)
    (ks : List Node) :
    Conv.value cfg S (.elem sp name attrs ks) =
      finishElem cfg
        (expectE cfg S (Conv.groupOnto (loadAttrs cfg S attrs) (Conv.childVals cfg S 0 ks))
          (Conv.textRuns cfg (!(loadAttrs cfg S attrs).isEmpty || cfg.asMap) ks))
        (expectN cfg S (elemKey cfg S name) none
          (Conv.textRuns cfg (!(loadAttrs cfg S attrs).isEmpty || cfg.asMap) ks)) := by
  simp only [Conv.value]
  cases Conv.textRuns cfg (!(loadAttrs cfg S attrs).isEmpty || cfg.asMap) ks with
  | nil => rfl
  | cons t _ =>
    simp only [expectN, expectE]
    split
    · rfl
    · simp only [finishElem, insert_ne_nil, Bool.false_eq_true, if_false]

theorem rel_finishElem {l l' : Entries} (h1 : (keys l).Nodup) (h2 : (keys l').Nodup)
    (h : EqN l l') (n : Option Val) (hn : ∀ v, n = some v → scalar v = true) :
    Rel (finishElem cfg l n) (finishElem cfg l' n) := by
  unfold finishElem
  rw [h.isEmpty]
  cases n with
  | none =>
    dsimp only
    split
    · exact Rel.scalar rfl
    · exact Rel.map h1 h2 h
  | some v =>
    dsimp only
    split
    · exact Rel.scalar (hn v rfl)
    · exact Rel.map (nodup_keys_insert h1) (nodup_keys_insert h2) (EqN.insert h _ rfl)

theorem inDomainKids_mem : ∀ (ks : List Node),
    Conv.inDomainKids cfg S ks = true →
    ∀ {sp name attrs ks'}, Node.elem sp name attrs ks' ∈ ks →
      elemKey cfg S name ≠ cfg.textK ∧ Conv.inDomain cfg S (.elem sp name attrs ks') = true
  | [], _, _, _, _, _, hm => by cases hm
  | k :: rest, h, sp, name, attrs, ks', hm => by
      rcases List.mem_cons.1 hm with rfl | hm
      · simp only [Conv.inDomainKids, Bool.and_eq_true, decide_eq_true_eq] at h
        exact ⟨h.1.1.1, h.1.2⟩
      · refine inDomainKids_mem rest ?_ hm
        cases k with
        | elem => simp only [Conv.inDomainKids, Bool.and_eq_true] at h; exact h.2
        | text | comment | procinst | directive => exact h

theorem noAdjTextKids_mem : ∀ (ks : List Node), noAdjTextKids ks = true →
    ∀ k ∈ ks, noAdjText k = true
  | [], _, _, hm => by cases hm
  | k :: rest, h, k', hm => by
      rcases List.mem_cons.1 hm with rfl | hm
      · exact (noAdjTextKids_cons h).1
      · exact noAdjTextKids_mem rest (noAdjTextKids_cons h).2 k' hm

/-- the fold and the specification agree on every element of the domain (induction on the size) -/
theorem rel_elem : ∀ (m : Nat) (sp name : Str) (attrs : List Attr)
    (ks : List Node), sizeOf ks < m → Conv.inDomain cfg S (.elem sp name attrs ks) = true →
    noAdjTextKids ks = true →
    Rel (Fold.value cfg S (.elem sp name attrs ks)) (Conv.value cfg S (.elem sp name attrs ks)) := by
  intro m
  induction m with
  | zero => intro _ _ _ _ h; omega
  | succ m ih =>
    intro sp name attrs ks hm hd hadj
    simp only [Conv.inDomain, Bool.and_eq_true, decide_eq_true_eq] at hd
    have hlen := hd.1.1
    -- the fold's pending value is `expectN …` (`h1`), its entries agree key-wise with `expectE` over
    -- `addAll` (`h2`); the children are smaller, so the induction hypothesis speaks of them
    obtain ⟨h1, h2⟩ := kids'_eq_expect cfg S (elemKey cfg S name) ks
      (fun {sp' name' attrs' ks'} hmem => ih sp' name' attrs' ks'
        (by have hs := List.sizeOf_lt_of_mem hmem; rw [Node.elem.sizeOf_spec] at hs; omega)
        (inDomainKids_mem cfg S ks hd.2 hmem).2 (noAdjTextKids_mem ks hadj _ hmem))
      (fun h => (inDomainKids_mem cfg S ks hd.2 h).1) hadj (loadAttrs cfg S attrs)
      none 0 none (.inl rfl) hlen _ rfl
    -- … hence with `expectE` over `groupOnto` (`hc`), which is what the specification finishes
    -- (`conv_value_eq`)
    have hc := EqN.expectE cfg S
      (EqN.of_lookup fun q => (lookup_groupOnto_eq_addAll (loadAttrs cfg S attrs)
        (Conv.childVals cfg S 0 ks) (childVals_not_list cfg S ks 0) q).symm)
      (Conv.textRuns cfg (!(loadAttrs cfg S attrs).isEmpty || cfg.asMap) ks)
    have hbd := nodup_keys_groupOnto (loadAttrs cfg S attrs) (Conv.childVals cfg S 0 ks)
      (nodup_keys_loadAttrs ..)
    rw [conv_value_eq, ← h1]
    refine rel_finishElem cfg (nodup_keys_kids' cfg S _ ks (nodup_keys_loadAttrs ..)) ?_
      (h2.trans hc) _ ?_
    · -- the specification's entries have distinct keys
      unfold expectE
      split
      · exact hbd
      · split
        · exact hbd
        · exact nodup_keys_insert hbd
    · -- the pending value is a cast, hence a scalar
      rw [h1]
      unfold expectN
      split
      · exact fun _ h => nomatch h
      · split
        · intro v hv; cases hv; exact cast_scalar ..
        · exact fun _ h => nomatch h

theorem rel_kids (cfg : DecCfg) (S : Strconv) : ∀ (ks : List Node),
    Conv.inDomainKids cfg S ks = true → noAdjTextKids ks = true →
    ∀ sp name attrs ks', Node.elem sp name attrs ks' ∈ ks →
      Rel (Fold.value cfg S (.elem sp name attrs ks')) (Conv.value cfg S (.elem sp name attrs ks')) :=
  fun ks hd hn sp name attrs ks' hm => rel_elem cfg S _ sp name attrs ks' (Nat.lt_succ_self _)
    (inDomainKids_mem cfg S ks hd hm).2 (noAdjTextKids_mem ks hn _ hm)

/-- the imperative fold is the convention, up to the order of map entries -/
theorem fold_equiv_conv (t : Node)
    (hd : Conv.inDomain cfg S t = true) (hn : noAdjText t = true) :
    Fold.value cfg S t ≈ᵥ Conv.value cfg S t := by
  cases t with
  | elem sp name attrs ks => exact (rel_elem cfg S _ sp name attrs ks (Nat.lt_succ_self _) hd hn).equiv
  | text | comment | procinst | directive => rfl

theorem doc_equiv (t : Node)
    (h : Fold.value cfg S t ≈ᵥ Conv.value cfg S t) : Fold.doc cfg S t ≈ᵥ Conv.doc cfg S t := by
  cases t with
  | elem sp name attrs ks =>
    unfold Val.equiv at h ⊢
    simp only [Fold.doc, Conv.doc, Val.norm, Val.normEntries, h]
  | text | comment | procinst | directive => rfl


/-! ### facts behind the option corollaries -/

theorem seqDecorate_spec (seq : Nat) (v : Val) (hs : cfg.seqNum = true)
    (hv : scalar v = true ∨ v.isMap = true) :
    ∃ kvs, (seqDecorate cfg seq v).1 = .map kvs
      ∧ lookup "_seq".toList kvs = some (.num ("i:".toList ++ natToStr seq))
      ∧ (seqDecorate cfg seq v).2 = seq + 1 := by
  unfold seqDecorate
  rw [hs]
  cases v with
  | null | list _ => rcases hv with h | h <;> cases h
  | map _ | str _ | num _ | bool _ => exact ⟨_, rfl, by rw [lookup_insert, if_pos rfl], rfl⟩

theorem childVals_seq_index (hs : cfg.seqNum = true) :
    ∀ (ks : List Node) (seq i : Nat) (c : Str × Val),
      (Conv.childVals cfg S seq ks)[i]? = some c →
      ∃ kvs, c.2 = .map kvs
        ∧ lookup "_seq".toList kvs = some (.num ("i:".toList ++ natToStr (seq + i)))
  | [], seq, i, c, h => by cases h
  | k :: rest, seq, i, c, h => by
      cases k with
      | elem sp name attrs ks' =>
        obtain ⟨kvs, h1, h2, h3⟩ := seqDecorate_spec cfg seq _ hs (conv_value_shape cfg S sp name attrs ks')
        simp only [Conv.childVals] at h
        cases i with
        | zero => cases h; exact ⟨kvs, h1, h2⟩
        | succ j =>
          rw [List.getElem?_cons_succ, h3] at h
          rw [← Nat.add_assoc, Nat.add_right_comm]
          exact childVals_seq_index hs rest (seq + 1) j c h
      | text | comment | procinst | directive => exact childVals_seq_index hs rest seq i c h

/-- the local names of the element children, in document order -/
def elemNames : List Node → List Str
  | [] => []
  | .elem _ name _ _ :: rest => name :: elemNames rest
  | _ :: rest => elemNames rest

theorem childVals_keys : ∀ (ks : List Node) (seq : Nat),
    keys (Conv.childVals cfg S seq ks) = (elemNames ks).map (elemKey cfg S)
  | [], seq => rfl
  | k :: rest, seq => by
      cases k with
      | elem sp name attrs ks' => exact congrArg (_ :: ·) (childVals_keys rest _)
      | text | comment | procinst | directive => exact childVals_keys rest seq

/-! ### a sample `Strconv` and sample trees: for the non-vacuity examples of C01 and of the property files that build on it -/

/-- a `Strconv` that parses nothing: `cast` yields no number (it still yields booleans) -/
def S0 : Strconv :=
  { parseInt := fun _ => none, parseUint := fun _ => none, parseFloat := fun _ => none, lower := id }

/-- `<r id="1"><a x="1">t1</a>␤<b><c>deep</c></b><!--note--><a/> hello </r>`: depth 3, siblings
    a, b, a, attributes, one text run -/
def sampleTree : Node :=
  .elem [] "r".toList [⟨[], "id".toList, "1".toList⟩]
    [ .elem [] "a".toList [⟨[], "x".toList, "1".toList⟩] [.text "t1".toList],
      .text "\n  ".toList,
      .elem [] "b".toList [] [.elem [] "c".toList [] [.text "deep".toList]],
      .comment "note".toList,
      .elem [] "a".toList [] [],
      .text " hello ".toList ]

/-- the same with the text run before the children: the fold stores the text key first -/
def sampleTreeTextFirst : Node :=
  .elem [] "r".toList [⟨[], "id".toList, "1".toList⟩]
    [ .text " hello ".toList,
      .elem [] "a".toList [] [],
      .elem [] "b".toList [] [.elem [] "c".toList [] [.text "deep".toList]],
      .elem [] "a".toList [⟨[], "x".toList, "1".toList⟩] [.text "t1".toList] ]


/-- outside the domain: two non-blank text runs, `<r k="1">x<a/>y</r>` -/
def twoRunsTree : Node :=
  .elem [] "r".toList [⟨[], "k".toList, "1".toList⟩]
    [.text "x".toList, .elem [] "a".toList [] [], .text "y".toList]

/-- outside the domain: a child element whose key is the text key -/
def textKeyChildTree : Node :=
  .elem [] "r".toList [⟨[], "k".toList, "1".toList⟩]
    [.text "x".toList, .elem [] "#text".toList [] []]

end Dec

end Mxj
