/-
  `escapeChars` (sequential replace over the regenerated table) is a single-pass character map,
  and the tokenizer's entity expansion inverts it.
-/
import Mxj.Model.Escape
import Mxj.Lemmas.Str
namespace Mxj

/-- the fold over the regenerated table, one character at a time (this lemma breaks if the table
    changes): each replacement is a `flatMap`, and so is their composition -/
theorem escapeWith_table_flatMap (s : Str) :
    escapeWith Generated.escapeTable s = s.flatMap escOne := by
  simp only [escapeWith, Generated.escapeTable, List.foldl, replaceAll_single, List.flatMap_assoc]
  congr 1
  funext c
  -- the cases of `escOne`: `c` is '&', '<', '>', '"', '\'' in turn, and the entity written for it
  -- passes the later rows unchanged ('&' is the first row); or `c` is none of them
  fun_cases escOne c with
  | case6 => simp [repOne, *]
  | _ => subst c; rfl

theorem escapeChars_flatMap (s : Str) : escapeChars s = s.flatMap escOne := by
  rw [escapeChars, escapeWith_table_flatMap]
  cases s <;> rfl

theorem escapeChars_nil : escapeChars [] = [] := by simp [escapeChars_flatMap]

theorem escapeChars_cons (c : Char) (s : Str) : escapeChars (c :: s) = escOne c ++ escapeChars s := by
  simp [escapeChars_flatMap]

theorem escapeChars_append (a b : Str) : escapeChars (a ++ b) = escapeChars a ++ escapeChars b := by
  simp [escapeChars_flatMap]

def special (c : Char) : Bool := c = '&' || c = '<' || c = '>' || c = '"' || c = '\''

theorem escOne_plain {c : Char} (h : special c = false) : escOne c = [c] := by
  simp [special] at h; simp [escOne, h]

theorem escapeChars_of_plain : ∀ (s : Str), (∀ c ∈ s, special c = false) → escapeChars s = s
  | [], _ => escapeChars_nil
  | c :: t, h => by
      rw [escapeChars_cons, escOne_plain (h c (List.mem_cons_self ..)),
        escapeChars_of_plain t (fun x hx => h x (List.mem_cons_of_mem _ hx))]
      rfl

theorem not_special {c : Char} (h : special c = false) :
    c ≠ '&' ∧ c ≠ '<' ∧ c ≠ '>' ∧ c ≠ '"' ∧ c ≠ '\'' := by
  simpa [special, and_assoc] using h

def entityTexts : List Str := namedEnts.map (·.1)

/-- the five table rows, once: a special character is written as one of the five entity texts,
    which starts with '&', has no special character after it, and is read back by the tokenizer
    as the character -/
theorem escOne_special {c : Char} (h : special c = true) :
    ∃ t, escOne c = '&' :: t ∧ escOne c ∈ entityTexts ∧ (∀ x ∈ t, special x = false)
      ∧ ∀ rest, matchRef (escOne c ++ rest) = some (c, rest) := by
  -- the cases of `escOne`: 1-5 `c` is '&', '<', '>', '"', '\'' in turn; 6 it is none of them
  fun_cases escOne c with
  | case6 => simp [special, *] at h
  | _ => subst c; exact ⟨_, rfl, by decide, by decide, fun _ => rfl⟩

theorem escOne_length_pos (c : Char) : 1 ≤ (escOne c).length := by
  cases hs : special c with
  | false => rw [escOne_plain hs]; exact Nat.le_refl 1
  | true =>
    obtain ⟨t, ht, _⟩ := escOne_special hs
    rw [ht]; exact Nat.succ_pos _

theorem escapeChars_isEmpty (s : Str) : (escapeChars s).isEmpty = s.isEmpty := by
  cases s with
  | nil => rfl
  | cons c r =>
    rw [escapeChars_cons]
    have := escOne_length_pos c
    cases h : escOne c with
    | nil => rw [h] at this; simp at this
    | cons _ _ => rfl

theorem unescF_escape : ∀ (s : Str) (f : Nat), (s.flatMap escOne).length ≤ f →
    unescF f (s.flatMap escOne) = some s := by
  intro s
  induction s with
  | nil => intro f _; cases f <;> simp [unescF]
  | cons c s ih =>
    intro f hf
    simp only [List.flatMap_cons, List.length_append] at hf ⊢
    have hpos := escOne_length_pos c
    cases f with
    | zero => omega
    | succ f =>
      have hf' : (s.flatMap escOne).length ≤ f := by omega
      have ih' := ih f hf'
      cases hs : special c with
      | false =>
        have hc := not_special hs
        rw [escOne_plain hs]
        simp [unescF, hc.1, hc.2.1, ih']
      | true =>
        obtain ⟨t, ht, _, _, hm⟩ := escOne_special hs
        have hm := hm (s.flatMap escOne)
        rw [ht, List.cons_append] at hm ⊢
        simp [unescF, hm, ih']

theorem unesc_escapeChars (s : Str) : unesc (escapeChars s) = some s := by
  unfold unesc
  rw [escapeChars_flatMap]
  exact unescF_escape s _ (Nat.le_succ _)

theorem escOne_no_specials (a c : Char) (h : c ∈ escOne a) :
    c ≠ '<' ∧ c ≠ '>' ∧ c ≠ '"' ∧ c ≠ '\'' := by
  cases hs : special a with
  | false =>
    rw [escOne_plain hs, List.mem_singleton] at h
    exact h ▸ (not_special hs).2
  | true =>
    obtain ⟨t, ht, _, hp, _⟩ := escOne_special hs
    rw [ht] at h
    rcases List.mem_cons.1 h with rfl | h
    · decide
    · exact (not_special (hp c h)).2

theorem escapeChars_no_specials (s : Str) :
    ∀ c ∈ escapeChars s, c ≠ '<' ∧ c ≠ '>' ∧ c ≠ '"' ∧ c ≠ '\'' := by
  intro c hc
  rw [escapeChars_flatMap, List.mem_flatMap] at hc
  obtain ⟨a, _, hca⟩ := hc
  exact escOne_no_specials a c hca

/-- a suffix that starts with a character not in `t` lies behind `t` -/
theorem suffix_append_of_not_mem {x : Char} {u rest : Str} : ∀ (t : Str), x ∉ t →
    (x :: u) <:+ t ++ rest → (x :: u) <:+ rest
  | [], _, h => h
  | y :: t, hx, h => by
      rcases List.suffix_cons_iff.1 h with h | h
      · exact absurd (List.cons.inj h).1 (fun e => hx (e ▸ List.mem_cons_self ..))
      · exact suffix_append_of_not_mem t (fun m => hx (List.mem_cons_of_mem _ m)) h

end Mxj
