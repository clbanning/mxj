/-
  Mxj.Lemmas.TokenizerCat — files of documents.  `Cat b toks` says that the bytes `b` tokenize to
  `toks` in front of EVERY accepted continuation: the model form of "no read beyond the end tag"
  (`step` exposes the unread input, `tokF` is its iteration).  A rendered element document is
  `Cat` with its flattening: that is the law as its induction proves it (`tokenize_render`); so
  is any accepted input whose last token is not character data (`cat_of_closed`, from
  `tokenize_append` of Lemmas/TokenizerCatGen.lean); a white-space separator in front of a
  document composes because the document begins with `<`; a file is then an induction on the list
  of documents.  This is the "tokens of the concatenated bytes are the concatenated tokens" half
  of the law TB-XML-stop that C13/C19 assume at token level.  `Files.xmlString` at the end
  transcribes `Maps.XmlString`.
-/
import Mxj.Lemmas.TokenizerCatGen
import Mxj.Lemmas.FilesXml
namespace Mxj.Tokz
open Mxj Mxj.Enc Mxj.EscDec Mxj.Files

/-- the tokens of `b ++ rest` are `toks` followed by the tokens of `rest`, for every `rest` the
    tokenizer accepts -/
def Cat (b : Str) (toks : List Tok) : Prop :=
  ∀ (rest : Str) (ts : List Tok), tokenize rest = some ts → tokenize (b ++ rest) = some (toks ++ ts)

theorem cat_nil : Cat [] [] := fun _ _ h => by simpa using h

theorem cat_append {a b : Str} {x y : List Tok} (ha : Cat a x) (hb : Cat b y) :
    Cat (a ++ b) (x ++ y) := by
  intro rest ts h
  have := ha _ _ (hb rest ts h)
  simpa [List.append_assoc] using this

theorem cat_tokenize {b : Str} {toks : List Tok} (h : Cat b toks) : tokenize b = some toks := by
  have := h [] [] rfl
  simpa using this

/-- accepted input whose last token is not character data (it ends with a tag, a comment, a
    processing instruction: never inside a text run) composes with EVERYTHING -/
theorem cat_of_closed (s : Str) (ts : List Tok) (hs : tokenize s = some ts)
    (hc : lastIsText ts = false) : Cat s ts := by
  intro rest us hr
  exact tokenize_append s rest ts us hs hr (by simp [junctionOk, hc])

/-- an element document written with escaping off composes with every accepted continuation:
    the law as the induction proves it -/
theorem cat_render_raw (cfg : EncCfg) (hesc : cfg.escape = false) (n n' : Node)
    (hv : rawView n = some n') (hs : rawSafe n = true) (hW : WellNamed n' = true)
    (he : Files.isElem n = true) : Cat (render cfg n) (flatten n') := fun rest ts =>
  tokenize_render cfg hesc n n' hv hs hW rest ts
    (fun ht => by
      cases n with
      | text _ => cases he
      | _ => cases ht)

theorem isElem_mapNode (f : Str → Str) {n : Node} (h : Files.isElem n = true) :
    Files.isElem (mapNode f n) = true := by
  cases n <;> simp [Files.isElem, mapNode] at h ⊢

theorem cat_render_esc (cfg : EncCfg) (hesc : cfg.escape = true) (n : Node)
    (hW : WellNamed n = true) (he : Files.isElem n = true) : Cat (render cfg n) (flatten n) := by
  rw [render_escaped cfg hesc]
  exact cat_render_raw (escOff cfg) rfl _ n (rawView_mapNode_escape n) (rawSafe_mapNode_escape n)
    hW (isElem_mapNode _ he)

theorem render_elem_lt (cfg : EncCfg) {n : Node} (he : Files.isElem n = true) :
    ∃ r, render cfg n = '<' :: r := by
  cases n with
  | elem sp name attrs kids => exact ⟨_, rfl⟩
  | _ => simp [Files.isElem] at he

/-- the white space a writer (or a user) puts between documents.  No `\r`: the tokenizer would
    hand it back as `\n`, and `sepToks s = [Tok.text s]` would fail -/
def isWs (c : Char) : Bool := c = ' ' || c = '\n' || c = '\t'
def wsOk (s : Str) : Bool := s.all isWs

def sepToks (s : Str) : List Tok := if s.isEmpty then [] else [Tok.text s]

theorem sepToks_noStart (s : Str) : ∀ t ∈ sepToks s, ¬ isStart t := by
  intro t ht
  unfold sepToks at ht
  split at ht
  · simp at ht
  · simp only [List.mem_singleton] at ht; subst ht; simp [isStart]

theorem isWs_facts {c : Char} (h : isWs c = true) :
    special c = false ∧ (xmlCharOk c.toNat && c != '\r') = true := by
  simp only [isWs, Bool.or_eq_true, decide_eq_true_eq] at h
  rcases h with (rfl | rfl) | rfl <;> decide

/-- a separator needs no escaping, so it is read back like any escaped text -/
theorem tokenize_ws (s : Str) (hw : wsOk s = true) : tokenize s = some (sepToks s) := by
  cases s with
  | nil => rfl
  | cons c r =>
    have hf : ∀ x ∈ c :: r, _ := fun x hx => isWs_facts (List.all_eq_true.1 hw x hx)
    have hs := step_text_esc (c :: r) [] (by simp)
      (List.all_eq_true.2 fun x hx => (hf x hx).2) rfl
    rw [escapeChars_of_plain _ fun x hx => (hf x hx).1, List.append_nil] at hs
    simpa [sepToks] using tokenize_step hs (by simp) rfl

theorem cat_sep_doc (sep b : Str) (toks : List Tok) (hw : wsOk sep = true)
    (hlt : ∃ r, b = '<' :: r) (hb : Cat b toks) : Cat (sep ++ b) (sepToks sep ++ toks) := by
  intro rest ts ht
  obtain ⟨r, rfl⟩ := hlt
  have := tokenize_append sep _ _ _ (tokenize_ws sep hw) (hb rest ts ht)
    (by simp [junctionOk, startsLt, stops])
  simpa [List.append_assoc] using this

/-- the bytes of a file: each document's bytes `d.2.1` behind its separator `d.1`, then `trail`
    (`d.2.2` is the tree the document denotes) -/
def fileBytes : List (Str × Str × Node) → Str → Str
  | [], trail => trail
  | d :: ds, trail => d.1 ++ d.2.1 ++ fileBytes ds trail

def fileDocs (ds : List (Str × Str × Node)) : List (List Tok × Node) :=
  ds.map (fun d => (sepToks d.1, d.2.2))

theorem tokenize_fileBytes_then (ds : List (Str × Str × Node)) (rest : Str) (us : List Tok)
    (hsep : ∀ d ∈ ds, wsOk d.1 = true) (hlt : ∀ d ∈ ds, ∃ r, d.2.1 = '<' :: r)
    (hcat : ∀ d ∈ ds, Cat d.2.1 (flatten d.2.2)) (hrest : tokenize rest = some us) :
    tokenize (fileBytes ds rest) = some (fileToks (fileDocs ds) us) := by
  induction ds with
  | nil => simpa [fileBytes, fileDocs, fileToks] using hrest
  | cons d ds ih =>
    rw [List.forall_mem_cons] at hsep hlt hcat
    have := cat_sep_doc d.1 d.2.1 _ hsep.1 hlt.1 hcat.1 _ _ (ih hsep.2 hlt.2 hcat.2)
    simpa [fileBytes, fileDocs, fileToks, List.append_assoc] using this

theorem tokenize_fileBytes (ds : List (Str × Str × Node)) (trail : Str)
    (hsep : ∀ d ∈ ds, wsOk d.1 = true) (hlt : ∀ d ∈ ds, ∃ r, d.2.1 = '<' :: r)
    (hcat : ∀ d ∈ ds, Cat d.2.1 (flatten d.2.2)) (htrail : wsOk trail = true) :
    tokenize (fileBytes ds trail) = some (fileToks (fileDocs ds) (sepToks trail)) :=
  tokenize_fileBytes_then ds trail _ hsep hlt hcat (tokenize_ws trail htrail)

/-- documents `d.2` (trees, rendered by the encoder under `cfg`) behind separators `d.1` -/
def xmlDocsBytes (cfg : EncCfg) (docs : List (Str × Node)) (trail : Str) : Str :=
  fileBytes (docs.map (fun d => (d.1, render cfg d.2, d.2))) trail

def xmlDocsToks (docs : List (Str × Node)) : List (List Tok × Node) :=
  docs.map (fun d => (sepToks d.1, d.2))

theorem fileDocs_xmlDocs (cfg : EncCfg) (docs : List (Str × Node)) :
    fileDocs (docs.map (fun d => (d.1, render cfg d.2, d.2))) = xmlDocsToks docs := by
  simp [fileDocs, xmlDocsToks, List.map_map, Function.comp_def]

theorem tokenize_xmlDocs_then (cfg : EncCfg) (hesc : cfg.escape = true) (docs : List (Str × Node))
    (hsep : ∀ d ∈ docs, wsOk d.1 = true) (hW : ∀ d ∈ docs, WellNamed d.2 = true)
    (he : ∀ d ∈ docs, Files.isElem d.2 = true) (rest : Str) (us : List Tok)
    (hrest : tokenize rest = some us) :
    tokenize (xmlDocsBytes cfg docs rest) = some (fileToks (xmlDocsToks docs) us) := by
  unfold xmlDocsBytes
  rw [← fileDocs_xmlDocs cfg docs]
  exact tokenize_fileBytes_then _ rest us (List.forall_mem_map.2 hsep)
    (List.forall_mem_map.2 fun x hx => render_elem_lt cfg (he x hx))
    (List.forall_mem_map.2 fun x hx => cat_render_esc cfg hesc x.2 (hW x hx) (he x hx)) hrest

theorem xmlDocsToks_noStart_isElem (docs : List (Str × Node))
    (he : ∀ d ∈ docs, Files.isElem d.2 = true) :
    (∀ d ∈ xmlDocsToks docs, ∀ t ∈ d.1, ¬ isStart t) ∧
    (∀ d ∈ xmlDocsToks docs, Files.isElem d.2 = true) :=
  ⟨List.forall_mem_map.2 fun x _ => sepToks_noStart x.1, List.forall_mem_map.2 he⟩

end Mxj.Tokz

namespace Mxj.Files
open Mxj Mxj.Enc

/-- `mvs.XmlString()` (what `Maps.XmlFile` writes): the per-Map encodings `mv.Xml()` one after
    another, nothing in between; the first encoder error ends the loop -/
def xmlString (e : EncCfg) : List Entries → Except ErrKind Str
  | [] => .ok []
  | m :: ms =>
    match mapXml e m none with
    | .error err => .error err
    | .ok x =>
      match xmlString e ms with
      | .error err => .error err
      | .ok r => .ok (x ++ r)

end Mxj.Files
