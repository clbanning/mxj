/-
  Mxj.Lemmas.Str — the string functions of Mxj.Model.Str and `replaceAll` of Mxj.Model.Escape:
  `strings.Split`/`Join` on a one-character separator, `strconv.Itoa`, single-character `Replace`;
  what `dropWhile` leaves (`stops_dropWhile`, `dropWhile_of_stops`) and where the leading run of a
  predicate ends in an appended text (`span_stop`, `span_append`).
-/
import Mxj.Model.Str
import Mxj.Model.Escape
namespace Mxj

/-! ### split / join -/

theorem splitGo1_nil (d : Char) (acc : Str) : splitGo [d] [] 0 acc = [acc.reverse] := by
  simp [splitGo]

theorem splitGo1_sep (d : Char) (cs acc : Str) :
    splitGo [d] (d :: cs) 0 acc = acc.reverse :: splitGo [d] cs 0 [] := by
  simp [splitGo]

theorem splitGo1_ne (d c : Char) (cs acc : Str) (h : c ≠ d) :
    splitGo [d] (c :: cs) 0 acc = splitGo [d] cs 0 (c :: acc) := by
  have : ¬ d = c := fun e => h e.symm
  simp [splitGo, this]

/-- a separator-free chunk goes into the accumulator -/
theorem splitGo1_chunk (d : Char) : ∀ (x t acc : Str), d ∉ x →
    splitGo [d] (x ++ t) 0 acc = splitGo [d] t 0 (x.reverse ++ acc)
  | [], _, _, _ => rfl
  | c :: cs, t, acc, h => by
    rw [List.cons_append, splitGo1_ne d c _ acc fun e => h (e ▸ List.mem_cons_self ..),
      splitGo1_chunk d cs t _ fun hm => h (List.mem_cons_of_mem _ hm),
      List.reverse_cons, List.append_assoc, List.singleton_append]

theorem splitOn_of_not_mem (d : Char) (s : Str) (h : d ∉ s) : splitOn [d] s = [s] := by
  have := splitGo1_chunk d s [] [] h
  rwa [List.append_nil, List.append_nil, splitGo1_nil, List.reverse_reverse] at this

theorem splitOn_chunk (d : Char) (x r : Str) (h : d ∉ x) :
    splitOn [d] (x ++ d :: r) = x :: splitOn [d] r := by
  unfold splitOn
  rw [splitGo1_chunk d x _ [] h, splitGo1_sep, List.append_nil, List.reverse_reverse]

theorem splitOn_pair (d : Char) (a b : Str) (ha : d ∉ a) (hb : d ∉ b) :
    splitOn [d] (a ++ d :: b) = [a, b] := by
  rw [splitOn_chunk d a b ha, splitOn_of_not_mem d b hb]

theorem splitOn_joinWith (d : Char) : ∀ (xs : List Str), xs ≠ [] → (∀ x ∈ xs, d ∉ x) →
    splitOn [d] (joinWith [d] xs) = xs
  | [], h, _ => absurd rfl h
  | [x], _, hall => splitOn_of_not_mem d x (hall x (List.mem_singleton_self x))
  | x :: y :: r, _, hall => by
    rw [joinWith, List.append_assoc, List.singleton_append,
      splitOn_chunk d x _ (hall x (List.mem_cons_self ..)),
      splitOn_joinWith d (y :: r) (List.cons_ne_nil _ _) fun z hz => hall z (List.mem_cons_of_mem _ hz)]

/-- `strings.Join`: the first part, then every further part behind a separator -/
theorem joinWith_cons (sep x : Str) : ∀ xs : List Str,
    joinWith sep (x :: xs) = x ++ xs.flatMap (sep ++ ·)
  | [] => by simp [joinWith]
  | y :: ys => by rw [joinWith, joinWith_cons sep y ys]; simp

theorem joinWith_snoc (sep : Str) (xs : List Str) (n : Str) (h : xs ≠ []) :
    joinWith sep (xs ++ [n]) = joinWith sep xs ++ sep ++ n := by
  cases xs with
  | nil => exact absurd rfl h
  | cons x r => simp [joinWith_cons]

theorem splitGo1_length (d : Char) : ∀ (s acc : Str),
    (splitGo [d] s 0 acc).length = s.count d + 1 := by
  intro s
  induction s with
  | nil => intro acc; simp [splitGo1_nil]
  | cons c cs ih =>
    intro acc
    by_cases hc : c = d
    · subst hc; rw [splitGo1_sep]; simp [ih]
    · rw [splitGo1_ne d c cs acc hc, ih]; simp [hc]

/-- `strings.Split(s, d)` has one more part than `s` has occurrences of `d` -/
theorem splitOn_length (d : Char) (s : Str) : (splitOn [d] s).length = s.count d + 1 :=
  splitGo1_length d s []

theorem splitOn_singleton (d : Char) (s a : Str) (h : splitOn [d] s = [a]) : a = s ∧ d ∉ s := by
  have hl := splitOn_length d s
  rw [h] at hl
  have hc : s.count d = 0 := by simpa using hl.symm
  have hd : d ∉ s := List.count_eq_zero.1 hc
  rw [splitOn_of_not_mem d s hd] at h
  exact ⟨by simpa using h.symm, hd⟩

theorem splitGo1_ne_nil (d : Char) (s acc : Str) : splitGo [d] s 0 acc ≠ [] :=
  List.ne_nil_of_length_pos (by rw [splitGo1_length]; exact Nat.succ_pos _)

theorem joinWith_cons_of_ne_nil (sep x : Str) (l : List Str) (h : l ≠ []) :
    joinWith sep (x :: l) = x ++ sep ++ joinWith sep l := by
  cases l with
  | nil => exact absurd rfl h
  | cons y r => simp [joinWith]

/-! ### decimal rendering -/

theorem natToStr_eq (i : Nat) : natToStr i = Nat.toDigits 10 i := by
  simp [natToStr]

theorem isDigit_eq (c : Char) : isDigit c = c.isDigit := by
  simp [isDigit, Char.isDigit, Char.le_def]

theorem natToStr_ne_nil (i : Nat) : natToStr i ≠ [] := by
  rw [natToStr_eq]; exact Nat.toDigits_ne_nil

theorem natToStr_isDigit (i : Nat) (c : Char) (h : c ∈ natToStr i) : isDigit c = true := by
  rw [natToStr_eq] at h
  rw [isDigit_eq]
  exact Nat.isDigit_of_mem_toDigits (by decide) (by decide) h

theorem isDigit_ne (c d : Char) (hc : isDigit c = true) (hd : isDigit d = false) : c ≠ d := by
  intro e; subst e; rw [hc] at hd; cases hd

theorem natToStr_not_mem (i : Nat) (c : Char) (hc : isDigit c = false) : c ∉ natToStr i :=
  fun h => isDigit_ne _ c (natToStr_isDigit i _ h) hc rfl

theorem natToStr_all (i : Nat) : (natToStr i).all isDigit = true :=
  List.all_eq_true.2 (fun c hc => natToStr_isDigit i c hc)

theorem digitsVal_eq (ds : Str) : ∀ acc : Nat, digitsVal ds acc = Nat.ofDigitChars 10 ds acc := by
  induction ds with
  | nil => intro acc; simp [digitsVal]
  | cons c cs ih =>
    intro acc
    rw [digitsVal, ih, Nat.ofDigitChars_cons, Nat.mul_comm]

theorem digitsVal_natToStr (i : Nat) : digitsVal (natToStr i) 0 = i := by
  rw [digitsVal_eq, natToStr_eq]; exact Nat.ofDigitChars_ten_toDigits

/-! ### `replaceAll` with a one-character pattern is a character-wise map -/

/-- what `replaceAll [c] r` does to one character -/
def repOne (c : Char) (r : Str) (ch : Char) : Str := if ch = c then r else [ch]

theorem joinWith_splitGo1 (c : Char) (r : Str) : ∀ (s acc : Str),
    joinWith r (splitGo [c] s 0 acc) = acc.reverse ++ s.flatMap (repOne c r) := by
  intro s
  induction s with
  | nil => intro acc; simp [splitGo1_nil, joinWith]
  | cons ch cs ih =>
    intro acc
    by_cases h : ch = c
    · subst h
      rw [splitGo1_sep, joinWith_cons_of_ne_nil _ _ _ (splitGo1_ne_nil _ _ _), ih]
      simp [repOne]
    · rw [splitGo1_ne c ch cs acc h, ih]
      simp [repOne, h]

theorem replaceAll_single (c : Char) (r s : Str) :
    replaceAll [c] r s = s.flatMap (repOne c r) := by
  unfold replaceAll splitOn
  rw [joinWith_splitGo1]; simp

theorem replaceAll_single_nil (c : Char) (r : Str) : replaceAll [c] r [] = [] := by
  simp [replaceAll_single]

theorem replaceAll_single_cons (c : Char) (r : Str) (x : Char) (xs : Str) :
    replaceAll [c] r (x :: xs) = (if x = c then r else [x]) ++ replaceAll [c] r xs := by
  simp [replaceAll_single, repOne]

theorem replaceAll_single_append (c : Char) (r : Str) (xs ys : Str) :
    replaceAll [c] r (xs ++ ys) = replaceAll [c] r xs ++ replaceAll [c] r ys := by
  simp [replaceAll_single]

theorem replaceAll_single_self (d : Char) (s : Str) : replaceAll [d] [d] s = s := by
  induction s with
  | nil => exact replaceAll_single_nil d [d]
  | cons c cs ih =>
    rw [replaceAll_single_cons, ih]
    split
    · subst c; rfl
    · rfl

theorem replaceAll_single_head (c : Char) (new rest : Str) :
    replaceAll [c] new (c :: rest) = new ++ replaceAll [c] new rest := by
  rw [replaceAll_single_cons, if_pos rfl]

theorem replaceAll_single_fresh (c : Char) (new w : Str) (h : c ∉ w) : replaceAll [c] new w = w := by
  rw [replaceAll, splitOn_of_not_mem c w h]; rfl

/-! ### join after split; the characters of a join and of the pieces of a split -/

theorem mem_joinWith (sep : Str) (c : Char) (xs : List Str) (h : c ∈ joinWith sep xs) :
    c ∈ sep ∨ ∃ x ∈ xs, c ∈ x := by
  cases xs with
  | nil => cases h
  | cons x r =>
    rw [joinWith_cons, List.mem_append, List.mem_flatMap] at h
    rcases h with h | ⟨y, hy, h⟩
    · exact .inr ⟨x, List.mem_cons_self .., h⟩
    · exact (List.mem_append.1 h).imp_right fun h => ⟨y, List.mem_cons_of_mem _ hy, h⟩

theorem mem_joinWith_of_mem (sep : Str) (ss : List Str) (s : Str) (c : Char) (hs : s ∈ ss)
    (hc : c ∈ s) : c ∈ joinWith sep ss := by
  cases ss with
  | nil => cases hs
  | cons x r =>
    rw [joinWith_cons, List.mem_append, List.mem_flatMap]
    exact (List.mem_cons.1 hs).imp (fun e : s = x => e ▸ hc) fun h => ⟨s, h, List.mem_append_right _ hc⟩

theorem joinWith_splitOn (d : Char) (s : Str) : joinWith [d] (splitOn [d] s) = s :=
  replaceAll_single_self d s

theorem splitOn_chars (d : Char) (s part : Str) (ch : Char) (hp : part ∈ splitOn [d] s)
    (hc : ch ∈ part) : ch ∈ s :=
  joinWith_splitOn d s ▸ mem_joinWith_of_mem [d] _ part ch hp hc

theorem splitGo1_free (d : Char) : ∀ (s acc part : Str), d ∉ acc →
    part ∈ splitGo [d] s 0 acc → d ∉ part := by
  intro s
  induction s with
  | nil =>
    intro acc part ha hp
    simp only [splitGo1_nil, List.mem_singleton] at hp
    subst hp; simpa using ha
  | cons c cs ih =>
    intro acc part ha hp
    by_cases hc : c = d
    · subst hc
      rw [splitGo1_sep] at hp
      rcases List.mem_cons.1 hp with h | h
      · subst h; simpa using ha
      · exact ih [] part (by simp) h
    · rw [splitGo1_ne d c cs acc hc] at hp
      refine ih (c :: acc) part ?_ hp
      intro h
      rcases List.mem_cons.1 h with h | h
      · exact hc h.symm
      · exact ha h

theorem splitOn_covers (d ch : Char) (hch : ch ≠ d) (s : Str) (h : ch ∈ s) :
    ∃ part ∈ splitOn [d] s, ch ∈ part := by
  rw [← joinWith_splitOn d s] at h
  exact (mem_joinWith [d] ch _ h).resolve_left fun hm => hch (List.mem_singleton.1 hm)

/-! ### the leading run of a predicate: `takeWhile` / `dropWhile` on an appended text -/

/-- empty, or begins with a character that fails `p`: a run of `p` cannot go on into this text
    (the tokenizer's `Tokz.startsLt` is the instance `(· != '<')`) -/
def Tokz.stops (p : Char → Bool) : Str → Bool
  | [] => true
  | c :: _ => !p c

/-- what `dropWhile p` leaves does not begin with a `p` -/
theorem stops_dropWhile (p : Char → Bool) (s : Str) : Tokz.stops p (s.dropWhile p) = true := by
  have := List.head?_dropWhile_not p s
  cases hd : s.dropWhile p with
  | nil => rfl
  | cons c r => simpa [hd, Tokz.stops] using this

theorem dropWhile_of_stops {p : Char → Bool} : ∀ {s : Str}, Tokz.stops p s = true → s.dropWhile p = s
  | [], _ => rfl
  | _ :: _, h => List.dropWhile_cons_of_neg (by simpa [Tokz.stops] using h)

theorem span_stop (p : Char → Bool) (a tl : Str) (ha : ∀ x ∈ a, p x = true)
    (ht : Tokz.stops p tl = true) : (a ++ tl).takeWhile p = a ∧ (a ++ tl).dropWhile p = tl := by
  rw [List.takeWhile_append_of_pos ha, List.dropWhile_append_of_pos ha]
  cases tl with
  | nil => simp
  | cons c r =>
    have hc : p c = false := by simpa [Tokz.stops] using ht
    simp [hc]

/-- the split of `s ++ t` at the first character that fails `p` is the split of `s`, with `t`
    behind the rest, when the run ends inside `s` or exactly at the junction -/
theorem span_append (p : Char → Bool) (s t : Str) (h : s.dropWhile p ≠ [] ∨ Tokz.stops p t = true) :
    (s ++ t).takeWhile p = s.takeWhile p ∧ (s ++ t).dropWhile p = s.dropWhile p ++ t := by
  -- `s` is its own run followed by what `dropWhile` leaves, which does not begin with a `p`
  have hs : Tokz.stops p (s.dropWhile p ++ t) = true := by
    cases hd : s.dropWhile p with
    | nil => simpa [hd] using h
    | cons c r => exact (hd ▸ stops_dropWhile p s : Tokz.stops p (c :: r) = true)
  have := span_stop p (s.takeWhile p) _ (List.all_eq_true.1 List.all_takeWhile) hs
  rwa [← List.append_assoc, List.takeWhile_append_dropWhile] at this

end Mxj
