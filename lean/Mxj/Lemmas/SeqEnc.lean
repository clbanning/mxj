/-
  Mxj.Lemmas.SeqEnc — ONE sequence encoder over an output algebra (namespace `Mxj.SeqG`).
  The four encoders of the model (`seqEnc`, `seqEncTree` of Model/Seq, Model/SeqTree; `seqEncP`,
  `seqEncTreeL` of Model/SeqIndent) make the same recursion over the value and differ only in how
  they WRITE a comment / directive / processing instruction, an element as a whole or around its
  children, a scalar, the attribute list, and in WHERE a child is written.  `Alg` collects those
  operations, `enc A` is the recursion, in the model's words, and each model encoder is `enc` at
  one algebra by unfolding (proved next to the algebra: `seqEncTree_eq`, `seqEnc_eq` in
  Lemmas/SeqCompact, `seqEncP_eq`, `seqEncTreeL_eq` in Lemmas/SeqIndent).  Two theorems about `enc`
  carry everything that is said of two encoders, or of one encoder on two values:
    * `Sim.enc`: algebras related operation by operation give related runs (same failure, related
      output), on a domain of values that passes to children;
    * `enc_vperm`: the order of the entries of any map of the value does not matter.
  Both read the clause of an element through `enc_elem`: the attributes, then `ElemKind.run`.
  The file starts (namespace `Mxj.SeqL`) with what these need: of the model, sorting by `#seq`,
  `unrollEntries`, the loops as `seqAll`, the choice `ElemKind`; for the second theorem, the
  relation `VPerm` between a value and its reorderings, the domain `GoodAt` on which the order does
  not matter, and `PW`, the pointwise relation between the lists of children the two runs visit.
-/
import Mxj.Model.SeqTree
import Mxj.Lemmas.Decode
namespace Mxj
namespace SeqL
open Mxj.Dec

/-! ### sorting by `#seq` -/

theorem insertBySeq_perm (c : SeqCfg) (e : Str × Val) : ∀ (l : List (Str × Val)),
    (insertBySeq c e l).Perm (e :: l)
  | [] => by simp [insertBySeq]
  | x :: xs => by
      simp only [insertBySeq]
      split
      · exact ((insertBySeq_perm c e xs).cons x).trans (List.Perm.swap e x xs)
      · exact List.Perm.refl _

theorem sortBySeq_cons (c : SeqCfg) (x : Str × Val) (xs : List (Str × Val)) :
    sortBySeq c (x :: xs) = insertBySeq c x (sortBySeq c xs) := rfl

theorem sortBySeq_perm (c : SeqCfg) : ∀ (l : List (Str × Val)), (sortBySeq c l).Perm l
  | [] => by simp [sortBySeq]
  | x :: xs => by
      rw [sortBySeq_cons]
      exact (insertBySeq_perm c x _).trans ((sortBySeq_perm c xs).cons x)

def SeqSorted (c : SeqCfg) (l : List (Str × Val)) : Prop :=
  l.Pairwise (fun a b => seqOf c a.2 ≤ seqOf c b.2)

theorem insertBySeq_sorted (c : SeqCfg) (e : Str × Val) : ∀ (l : List (Str × Val)),
    SeqSorted c l → SeqSorted c (insertBySeq c e l)
  | [], _ => by simp [insertBySeq, SeqSorted]
  | x :: xs, h => by
      unfold SeqSorted at h ⊢
      rw [List.pairwise_cons] at h
      simp only [insertBySeq]
      split
      · rename_i hx
        refine List.pairwise_cons.2 ⟨fun y hy => ?_, insertBySeq_sorted c e xs h.2⟩
        rcases List.mem_cons.1 ((insertBySeq_perm c e xs).mem_iff.1 hy) with rfl | hy
        · exact hx
        · exact h.1 y hy
      · rename_i hx
        refine List.pairwise_cons.2 ⟨fun y hy => ?_, List.pairwise_cons.2 h⟩
        rcases List.mem_cons.1 hy with rfl | hy
        · omega
        · have := h.1 y hy; omega

theorem sortBySeq_sorted (c : SeqCfg) : ∀ (l : List (Str × Val)), SeqSorted c (sortBySeq c l)
  | [] => by simp [sortBySeq, SeqSorted]
  | x :: xs => by
      rw [sortBySeq_cons]
      exact insertBySeq_sorted c x _ (sortBySeq_sorted c xs)

/-- a list in `#seq` order with distinct numbers is what sorting any permutation of it gives -/
theorem sortBySeq_eq_of_perm (c : SeqCfg) {l p : List (Str × Val)} (hp : p.Perm l)
    (hs : SeqSorted c l) (hn : (l.map (fun e => seqOf c e.2)).Nodup) : sortBySeq c p = l := by
  have hpl := (sortBySeq_perm c p).trans hp
  have hne : l.Pairwise (fun a b => seqOf c a.2 ≠ seqOf c b.2) := List.pairwise_map.1 hn
  refine List.Perm.eq_of_pairwise (fun a b ha hb hab hba => ?_) (sortBySeq_sorted c p) hs hpl
  -- two members with the same number are the same
  exact List.Pairwise.forall_of_forall_of_flip
    (R := fun a b => seqOf c a.2 = seqOf c b.2 → a = b) (fun _ _ _ => rfl)
    (hne.imp fun h e => absurd e h) (hne.imp fun h e => absurd e.symm h)
    (hpl.mem_iff.1 ha) hb (Nat.le_antisymm hab hba)

theorem sortBySeq_inverts_perm (c : SeqCfg) {l p : List (Str × Val)} (hp : List.Perm p l)
    (hsorted : List.Pairwise (fun a b => seqOf c a.2 < seqOf c b.2) l) : sortBySeq c p = l :=
  sortBySeq_eq_of_perm c hp (hsorted.imp Nat.le_of_lt)
    (List.pairwise_map.2 (hsorted.imp Nat.ne_of_lt))

theorem sortBySeq_of_increasing (c : SeqCfg) (l : List (Str × Val))
    (h : List.Pairwise (fun a b => seqOf c a.2 < seqOf c b.2) l) : sortBySeq c l = l :=
  sortBySeq_inverts_perm c (List.Perm.refl _) h


/-! ### `unrollEntries`, entry by entry -/

/- The six reserved keys (`hashKeys c` of the model) come in two halves.  `dropK`: the attribute,
   sequence and text keys, whose entries `unrollEntries` skips (`dropK_false`, `not_hash`).  The
   other half, the comment / directive / processing-instruction keys, is `isNoteKey` (below, a
   `Prop`) and the model's `noteKeyB` (Model/SeqIndent, its `Bool` form: `noteKeyB_false`);
   `plainKey` (Lemmas/Total) excludes that half and the attribute key. -/
def dropK (c : SeqCfg) (k : Str) : Bool := k = c.attrK || k = c.seqK || k = c.textK

def unroll1 (k : Str) (v : Val) : List (Str × Val) :=
  match v with
  | .list xs => xs.map (fun x => (k, x))
  | v => [(k, v)]

theorem dropK_false {c : SeqCfg} {k : Str} (h : dropK c k = false) :
    k ≠ c.attrK ∧ k ≠ c.seqK ∧ k ≠ c.textK := by
  simpa [dropK, and_assoc] using h

theorem unrollEntries_cons (c : SeqCfg) (k : Str) (v : Val) (rest : Entries) :
    unrollEntries c ((k, v) :: rest)
      = (if dropK c k then [] else unroll1 k v) ++ unrollEntries c rest := by
  rw [unrollEntries.eq_def, dropK]
  dsimp only
  split
  · rfl
  · cases v <;> rfl

theorem unrollEntries_eq_flatMap (c : SeqCfg) : ∀ (l : Entries),
    unrollEntries c l = l.flatMap (fun e => if dropK c e.1 then [] else unroll1 e.1 e.2)
  | [] => by simp [unrollEntries]
  | (k, v) :: rest => by
      rw [unrollEntries_cons, unrollEntries_eq_flatMap c rest, List.flatMap_cons]

theorem unrollEntries_append (c : SeqCfg) (X Y : Entries) :
    unrollEntries c (X ++ Y) = unrollEntries c X ++ unrollEntries c Y := by
  simp only [unrollEntries_eq_flatMap, List.flatMap_append]

theorem unrollEntries_dropped (c : SeqCfg) (X : Entries) (h : ∀ k ∈ keys X, dropK c k = true) :
    unrollEntries c X = [] := by
  rw [unrollEntries_eq_flatMap]
  exact List.flatMap_eq_nil_iff.2 fun e he => if_pos (h e.1 (List.mem_map_of_mem he))

theorem unrollEntries_insert_dropped (c : SeqCfg) (k : Str) (v : Val) (hk : dropK c k = true) :
    ∀ (l : Entries), unrollEntries c (insert k v l) = unrollEntries c l
  | [] => by simp [insert, unrollEntries_cons, hk]
  | (k', v') :: l => by
      by_cases e : k = k'
      · subst e
        simp only [insert, if_true, unrollEntries_cons, hk]
      · simp only [insert, e, if_false, unrollEntries_cons,
          unrollEntries_insert_dropped c k v hk l]

/-- what holds of every entry that is not skipped, and of the members of a list that has it,
    holds of the unrolled entries -/
theorem unroll_all (c : SeqCfg) {Q : Str → Val → Prop}
    (hl : ∀ k xs, Q k (.list xs) → ∀ x ∈ xs, Q k x) {l : Entries}
    (h : ∀ e ∈ l, dropK c e.1 = false → Q e.1 e.2) : ∀ e ∈ unrollEntries c l, Q e.1 e.2 := by
  intro e he
  rw [unrollEntries_eq_flatMap, List.mem_flatMap] at he
  obtain ⟨⟨k, v⟩, hm, he⟩ := he
  split at he
  · cases he
  · have hv := h _ hm (Bool.eq_false_iff.2 ‹_›)
    cases v with
    | list xs => obtain ⟨x, hx, rfl⟩ := List.mem_map.1 he; exact hl k xs hv x hx
    | _ => obtain rfl := List.mem_singleton.1 he; exact hv

theorem unroll1_promote (k : Str) (old v : Val) :
    unroll1 k (promote (some old) v) = unroll1 k old ++ [(k, v)] := by
  cases old <;> simp [promote, unroll1]

theorem unroll1_nonlist (k : Str) (v : Val) (hv : v.isList = false) : unroll1 k v = [(k, v)] := by
  cases v <;> simp [unroll1, Val.isList] at hv ⊢

/-! ### `unrollEntries` and sorting under a permutation of the entries -/

theorem unrollEntries_perm (c : SeqCfg) {l l' : Entries} (hp : l'.Perm l) :
    (unrollEntries c l').Perm (unrollEntries c l) := by
  rw [unrollEntries_eq_flatMap, unrollEntries_eq_flatMap]
  exact hp.flatMap_right _

theorem sortBySeq_congr (c : SeqCfg) {l p : List (Str × Val)} (hp : p.Perm l)
    (hn : (l.map (fun e => seqOf c e.2)).Nodup) : sortBySeq c p = sortBySeq c l :=
  sortBySeq_eq_of_perm c (hp.trans (sortBySeq_perm c l).symm) (sortBySeq_sorted c l)
    (((sortBySeq_perm c l).map _).nodup_iff.2 hn)

/-! ### the loops of the encoders: `seqAll` -/

def _root_.Mxj.Outcome.app {α : Type} (o1 o2 : Outcome (List α)) : Outcome (List α) :=
  match o1 with
  | .ok a => match o2 with
    | .ok r => .ok (a ++ r)
    | o => o
  | o => o

theorem _root_.Mxj.Outcome.mapOk_mapOk {α β γ : Type} (g : α → β) (k : β → γ) (o : Outcome α) :
    (o.mapOk g).mapOk k = o.mapOk (fun a => k (g a)) := by
  cases o <;> rfl

theorem _root_.Mxj.Outcome.mapOk_eq_ok {α β : Type} {g : α → β} {o : Outcome α} {b : β}
    (h : o.mapOk g = .ok b) : ∃ a, o = .ok a ∧ g a = b := by
  cases o with
  | ok a => exact ⟨a, rfl, Outcome.ok.inj h⟩
  | _ => cases h

def seqAll {ι α : Type} (F : ι → Outcome (List α)) : List ι → Outcome (List α)
  | [] => .ok []
  | i :: l => (F i).app (seqAll F l)

theorem seqAll_map {ι κ α : Type} (F : κ → Outcome (List α)) (g : ι → κ) :
    ∀ l, seqAll F (l.map g) = seqAll (fun i => F (g i)) l
  | [] => rfl
  | i :: l => by simp only [List.map_cons, seqAll, seqAll_map F g l]

/-! ### how an element is written -/

/-- how an element is written, given the text under the text key (`none`: no such key;
    `some none`: a value without text form): as a whole (empty or text only), around its
    children, or not at all.  All four encoders make this choice in the same way. -/
inductive ElemKind where
  | whole (t : Str)
  | around (t : Str)
  | bad

def elemKind (hv seqOK : Bool) (n : Nat) : Option (Option Str) → ElemKind
  | some (some t) => if ((n = 3 && hv) || (n = 2 && !hv)) && seqOK then .whole t else .around t
  | some none => .bad
  | none => if ((n = 2 && hv) || (n = 1 && !hv)) && seqOK then .whole [] else .around []

def ElemKind.run {κ γ : Type} (fw : Str → γ) (fa : Str → κ → γ) (ko : Outcome κ) :
    ElemKind → Outcome γ
  | .whole t => .ok (fw t)
  | .around t => ko.mapOk (fa t)
  | .bad => .err .other

theorem run_ite {κ γ : Type} (C : Prop) [Decidable C] (fw : Str → γ) (fa : Str → κ → γ)
    (ko : Outcome κ) (t : Str) :
    (if C then ElemKind.whole t else .around t).run fw fa ko
      = if C then .ok (fw t) else ko.mapOk (fa t) := by
  split <;> rfl

/-! ### Go's map order at EVERY level -/

mutual
/-- `VPerm w v`: `w` is `v` with the entries of every map, at every level, in some other order -/
def VPerm : Val → Val → Prop
  | .null, v => v = .null
  | .bool b, v => v = .bool b
  | .num t, v => v = .num t
  | .str s, v => v = .str s
  | .list xs, v => ∃ ys, v = .list ys ∧ LPerm xs ys
  | .map kvs, v => ∃ m b, v = .map b ∧ List.Perm m b ∧ EPerm kvs m
def LPerm : List Val → List Val → Prop
  | [], ys => ys = []
  | x :: xs, ys => ∃ y ys', ys = y :: ys' ∧ VPerm x y ∧ LPerm xs ys'
/-- same keys in the same order, values related -/
def EPerm : Entries → Entries → Prop
  | [], m => m = []
  | (k, x) :: xs, m => ∃ y ys, m = (k, y) :: ys ∧ VPerm x y ∧ EPerm xs ys
end

mutual
theorem VPerm.refl : ∀ (v : Val), VPerm v v
  | .null => rfl
  | .bool _ => rfl
  | .num _ => rfl
  | .str _ => rfl
  | .list xs => ⟨xs, rfl, LPerm.refl xs⟩
  | .map kvs => ⟨kvs, kvs, rfl, List.Perm.refl _, EPerm.refl kvs⟩
theorem LPerm.refl : ∀ (xs : List Val), LPerm xs xs
  | [] => rfl
  | x :: xs => ⟨x, xs, rfl, VPerm.refl x, LPerm.refl xs⟩
theorem EPerm.refl : ∀ (kvs : Entries), EPerm kvs kvs
  | [] => rfl
  | (_, x) :: xs => ⟨x, xs, rfl, VPerm.refl x, EPerm.refl xs⟩
end

theorem VPerm.of_perm {m b : Entries} (h : m.Perm b) : VPerm (.map m) (.map b) :=
  ⟨m, b, rfl, h, EPerm.refl m⟩

def keysOk : Val → Prop
  | .map kvs => (keys kvs).Nodup
  | _ => True

/-- the attribute map: distinct names, distinct sequence numbers, every entry a map with
    distinct keys -/
def GoodAttrs (c : SeqCfg) (av : Entries) : Prop :=
  (keys av).Nodup ∧ (av.map (fun e => seqOf c e.2)).Nodup ∧ ∀ e ∈ av, keysOk e.2

/-- the keys under which the encoder writes a comment, directive or processing instruction -/
def isNoteKey (c : SeqCfg) (k : Str) : Prop := k = c.commentK ∨ k = c.directiveK ∨ k = c.procinstK

mutual
/-- `GoodAt c key v`: `v`, stored under `key`, is what the encoder needs to be order-independent:
    every map, at every level, is what a Go map can be (distinct keys) and — unless it is a
    comment / directive / processing-instruction entry — its children and its attributes carry
    pairwise distinct sequence numbers -/
def GoodAt (c : SeqCfg) : Str → Val → Prop
  | key, .map kvs => (keys kvs).Nodup
      ∧ (isNoteKey c key ∨
          (((unrollEntries c kvs).map (fun e => seqOf c e.2)).Nodup
          ∧ (∀ av, lookup c.attrK kvs = some (.map av) → GoodAttrs c av)
          ∧ GoodE c kvs))
  | key, .list xs => GoodLAt c key xs
  | _, _ => True
def GoodLAt (c : SeqCfg) : Str → List Val → Prop
  | _, [] => True
  | key, x :: xs => GoodAt c key x ∧ GoodLAt c key xs
def GoodE (c : SeqCfg) : Entries → Prop
  | [] => True
  | (k, v) :: r => (k = c.attrK ∨ GoodAt c k v) ∧ GoodE c r
end

theorem GoodAt.keysOk {c : SeqCfg} {key : Str} : ∀ {v : Val}, GoodAt c key v → keysOk v
  | .map _, h => h.1
  | .null, _ | .bool _, _ | .num _, _ | .str _, _ | .list _, _ => trivial

theorem GoodE_iff (c : SeqCfg) : ∀ (l : Entries),
    GoodE c l ↔ ∀ e ∈ l, e.1 = c.attrK ∨ GoodAt c e.1 e.2
  | [] => by simp [GoodE]
  | (k, v) :: r => by simp [GoodE, GoodE_iff c r]

theorem GoodAt_list_iff (c : SeqCfg) (k : Str) : ∀ (xs : List Val),
    GoodAt c k (.list xs) ↔ ∀ x ∈ xs, GoodAt c k x
  | [] => by simp [GoodAt, GoodLAt]
  | x :: xs => by
      have := GoodAt_list_iff c k xs
      simp only [GoodAt] at this
      simp [GoodAt, GoodLAt, this]

theorem VPerm.cases {w v : Val} (h : VPerm w v) :
    (w = v ∧ w.isList = false)
    ∨ (∃ xs ys, w = .list xs ∧ v = .list ys ∧ LPerm xs ys)
    ∨ (∃ a m b, w = .map a ∧ v = .map b ∧ m.Perm b ∧ EPerm a m) := by
  cases w with
  | list xs => obtain ⟨ys, rfl, hl⟩ := h; exact .inr (.inl ⟨_, _, rfl, rfl, hl⟩)
  | map a =>
    obtain ⟨m, b, rfl, hp, he⟩ := h
    exact .inr (.inr ⟨_, _, _, rfl, rfl, hp, he⟩)
  | _ => exact .inl ⟨Eq.symm h, rfl⟩

/-- a function that does not look inside lists and maps does not tell related values apart -/
theorem vperm_shape {α : Type} (g : Val → α) (hl : ∀ xs ys, g (.list xs) = g (.list ys))
    (hm : ∀ a b, g (.map a) = g (.map b)) {w v : Val} (h : VPerm w v) : g w = g v := by
  rcases h.cases with ⟨rfl, _⟩ | ⟨xs, ys, rfl, rfl, _⟩ | ⟨a, m, b, rfl, rfl, _, _⟩
  · rfl
  · exact hl xs ys
  · exact hm a b

def LookRel (o' o : Option Val) : Prop :=
  (o' = none ∧ o = none) ∨ ∃ x y, o' = some x ∧ o = some y ∧ VPerm x y

theorem eperm_lookup (k : Str) : ∀ {a m : Entries}, EPerm a m → LookRel (lookup k a) (lookup k m)
  | [], m, h => by cases (h : m = []); exact .inl ⟨rfl, rfl⟩
  | (k', x) :: xs, m, h => by
      obtain ⟨y, ys, rfl, hv, hr⟩ := h
      by_cases e : k = k'
      · simp only [lookup, e, if_true]
        exact .inr ⟨x, y, rfl, rfl, hv⟩
      · simp only [lookup, e, if_false]
        exact eperm_lookup k hr

theorem eperm_length : ∀ {a m : Entries}, EPerm a m → a.length = m.length
  | [], m, h => by cases (h : m = []); rfl
  | (k', x) :: xs, m, h => by
      obtain ⟨y, ys, rfl, _, hr⟩ := h
      simp [eperm_length hr]

/-- what does not tell related values apart does not tell related lookups apart -/
theorem lookRel_congr {β : Type} (G : Option Val → β)
    (hG : ∀ {x y : Val}, VPerm x y → G (some x) = G (some y)) {o' o : Option Val}
    (h : LookRel o' o) : G o' = G o := by
  rcases h with ⟨rfl, rfl⟩ | ⟨x, y, rfl, rfl, hv⟩
  · rfl
  · exact hG hv

theorem lookRel_strOf {o' o : Option Val} (h : LookRel o' o) : strOf o' = strOf o :=
  lookRel_congr strOf (vperm_shape (fun x => strOf (some x)) (fun _ _ => rfl) fun _ _ => rfl) h

/-- what a related map holds under a key: `w = .map a` against `v = .map b` in `VPerm w v` -/
theorem vperm_lookup {a m b : Entries} (he : EPerm a m) (hp : m.Perm b) (hk : (keys b).Nodup)
    (k : Str) : LookRel (lookup k a) (lookup k b) :=
  lookup_eq_of_perm hp hk k ▸ eperm_lookup k he

theorem seqOf_congr (c : SeqCfg) {w v : Val} (h : VPerm w v) (hk : keysOk v) :
    seqOf c w = seqOf c v := by
  rcases h.cases with ⟨rfl, _⟩ | ⟨xs, ys, rfl, rfl, _⟩ | ⟨a, m, b, rfl, rfl, hp, he⟩
  · rfl
  · rfl
  · -- the number is read off the entry under the sequence key, without looking inside it
    rcases vperm_lookup he hp hk c.seqK with ⟨h1, h2⟩ | ⟨x, y, h1, h2, hv⟩
    · simp only [seqOf, h1, h2]
    · rcases hv.cases with ⟨rfl, _⟩ | ⟨_, _, rfl, rfl, _⟩ | ⟨_, _, _, rfl, rfl, _, _⟩ <;>
        simp only [seqOf, h1, h2]

/-- pointwise: same keys, related values, the right-hand entries satisfy `P` -/
def PW (P : Str → Val → Prop) : List (Str × Val) → List (Str × Val) → Prop
  | [], l => l = []
  | e' :: r', l => ∃ e r, l = e :: r ∧ e'.1 = e.1 ∧ VPerm e'.2 e.2 ∧ P e.1 e.2 ∧ PW P r' r

/-- induction along pointwise-related lists -/
theorem PW.ind {P : Str → Val → Prop} {motive : List (Str × Val) → List (Str × Val) → Prop}
    (nil : motive [] [])
    (cons : ∀ {k w v r' r}, VPerm w v → P k v → PW P r' r → motive r' r →
      motive ((k, w) :: r') ((k, v) :: r)) :
    ∀ {l' l : List (Str × Val)}, PW P l' l → motive l' l
  | [], l, h => by cases (h : l = []); exact nil
  | (k, w) :: r', l, h => by
      obtain ⟨⟨k', v⟩, r, rfl, hk, hv, hg, hr⟩ := h
      cases (hk : k = k')
      exact cons hv hg hr (PW.ind nil cons hr)

theorem PW_of_EPerm {P : Str → Val → Prop} : ∀ {a m : Entries}, EPerm a m → (∀ e ∈ m, P e.1 e.2) → PW P a m
  | [], m, h, _ => by cases (h : m = []); exact rfl
  | (k, x) :: xs, m, h, hg => by
      obtain ⟨y, ys, rfl, hv, hr⟩ := h
      exact ⟨(k, y), ys, rfl, rfl, hv, hg _ (List.mem_cons_self ..),
        PW_of_EPerm hr (fun e he => hg e (List.mem_cons_of_mem _ he))⟩

theorem PW_append {P : Str → Val → Prop} {a' a b' b : List (Str × Val)} (h1 : PW P a' a)
    (h2 : PW P b' b) : PW P (a' ++ b') (a ++ b) :=
  h1.ind (motive := fun a' a => PW P (a' ++ b') (a ++ b)) h2
    fun hv hg _ ih => ⟨_, _, rfl, rfl, hv, hg, ih⟩

theorem PW_insertBySeq (c : SeqCfg) {P : Str → Val → Prop} (hP : ∀ k v, P k v → keysOk v)
    {e' e : Str × Val} (hk : e'.1 = e.1) (hv : VPerm e'.2 e.2) (hg : P e.1 e.2)
    {l' l : List (Str × Val)} (h : PW P l' l) : PW P (insertBySeq c e' l') (insertBySeq c e l) :=
  h.ind (motive := fun l' l => PW P (insertBySeq c e' l') (insertBySeq c e l))
    ⟨e, [], rfl, hk, hv, hg, rfl⟩ fun hxv hxg hr ih => by
      simp only [insertBySeq, seqOf_congr c hxv (hP _ _ hxg), seqOf_congr c hv (hP _ _ hg)]
      split
      · exact ⟨_, _, rfl, rfl, hxv, hxg, ih⟩
      · exact ⟨e, _, rfl, hk, hv, hg, _, _, rfl, rfl, hxv, hxg, hr⟩

theorem PW_sortBySeq (c : SeqCfg) {P : Str → Val → Prop} (hP : ∀ k v, P k v → keysOk v)
    {l' l : List (Str × Val)} (h : PW P l' l) : PW P (sortBySeq c l') (sortBySeq c l) :=
  h.ind (motive := fun l' l => PW P (sortBySeq c l') (sortBySeq c l)) rfl
    fun hv hg _ ih => PW_insertBySeq c hP (by rfl) hv hg ih

theorem PW_mapKey {c : SeqCfg} {k : Str} : ∀ {xs ys : List Val}, LPerm xs ys → GoodLAt c k ys →
    PW (GoodAt c) (xs.map (fun x => (k, x))) (ys.map (fun x => (k, x)))
  | [], ys, h, _ => by cases (h : ys = []); exact rfl
  | x :: xs, ys, h, hg => by
      obtain ⟨y, ys', rfl, hv, hr⟩ := h
      exact ⟨(k, y), _, rfl, rfl, hv, hg.1, PW_mapKey hr hg.2⟩

theorem PW_unroll1 {c : SeqCfg} {k : Str} {v' v : Val} (hv : VPerm v' v) (hg : GoodAt c k v) :
    PW (GoodAt c) (unroll1 k v') (unroll1 k v) := by
  rcases hv.cases with ⟨rfl, hl⟩ | ⟨xs, ys, rfl, rfl, hl⟩ | ⟨a, m, b, rfl, rfl, _, _⟩
  · rw [unroll1_nonlist k _ hl]
    exact ⟨_, [], rfl, rfl, hv, hg, rfl⟩
  · exact PW_mapKey hl hg
  · exact ⟨(k, .map b), [], rfl, rfl, hv, hg, rfl⟩

/-- unrolling pointwise-related entries (attribute entries are skipped, so need not be good) -/
theorem PW_unroll {c : SeqCfg} {a m : Entries}
    (h : PW (fun k v => k = c.attrK ∨ GoodAt c k v) a m) :
    PW (GoodAt c) (unrollEntries c a) (unrollEntries c m) :=
  h.ind (motive := fun a m => PW (GoodAt c) (unrollEntries c a) (unrollEntries c m)) rfl
    fun hv hg _ ih => by
      rw [unrollEntries_cons, unrollEntries_cons]
      refine PW_append ?_ ih
      split
      · rfl
      · next hd => exact PW_unroll1 hv (hg.resolve_left fun hka => hd (by simp [dropK, hka]))

theorem PW_mono {P Q : Str → Val → Prop} (hPQ : ∀ k v, P k v → Q k v) : ∀ {l' l : List (Str × Val)},
    PW P l' l → PW Q l' l :=
  PW.ind (motive := fun l' l => PW Q l' l) rfl fun hv hg _ ih => ⟨_, _, rfl, rfl, hv, hPQ _ _ hg, ih⟩

theorem VPerm.isList {w v : Val} (h : VPerm w v) : w.isList = v.isList :=
  vperm_shape Val.isList (fun _ _ => rfl) (fun _ _ => rfl) h

end SeqL

namespace SeqG
open Mxj.SeqL

inductive Note where
  | comment (s : Str)
  | directive (s : Str)
  | procinst (target inst : Str)

def Note.node : Note → Node
  | .comment s => .comment s
  | .directive s => .directive s
  | .procinst t i => .procinst t i

/-- how an encoder writes: `π` the position it is at (nothing, or the `pretty` state), `ρ` its
    form of an attribute list, `α` the items of its output -/
structure Alg (π ρ α : Type) where
  attrs : List (Str × Val) → Outcome ρ
  noAttrs : ρ
  txt : Val → Option Str
  note : π → Note → List α
  /-- key, attributes, text: an element without children -/
  whole : π → Str → ρ → Str → List α
  around : π → Str → ρ → Str → List α → List α
  str : π → Str → Str → List α
  null : π → Str → Outcome (List α)
  /-- key and `%v` text of a boolean or number -/
  scalar : π → Str → Str → List α
  /-- where a child is written (told whether it is a list) -/
  kid : π → Bool → π
  member : π → π

variable {π ρ α π' ρ' β : Type}

def Alg.attrsOut (A : Alg π ρ α) (c : SeqCfg) (val : Entries) : Outcome (ρ × Bool) :=
  match lookup c.attrK val with
  | some (.map av) => (A.attrs (sortBySeq c av)).mapOk (·, true)
  | _ => .ok (A.noAttrs, false)

/-- the encoder: structural on the fuel (the calls for children and members sit under `seqAll`).
    The clause for a map is written the way the four model encoders write theirs (nested
    `match`es), so that the clause of a model encoder is this one at its algebra by unfolding
    alone, see `seqEncTree_eq`; `enc_elem` reads it as attributes, then `ElemKind.run`. -/
def enc (A : Alg π ρ α) (c : SeqCfg) : Nat → π → Str → Val → Outcome (List α)
  | 0, _, _, _ => .err .other
  | f + 1, p, key, .map val =>
      if key = c.commentK then
        match strOf (lookup c.textK val) with
        | some s => .ok (A.note p (.comment s))
        | none => .panic "comment text is not a string"
      else if key = c.directiveK then
        match strOf (lookup c.textK val) with
        | some s => .ok (A.note p (.directive s))
        | none => .panic "directive text is not a string"
      else if key = c.procinstK then
        match strOf (lookup c.targetK val), strOf (lookup c.instK val) with
        | some t, some i => .ok (A.note p (.procinst t i))
        | _, _ => .panic "procinst target/inst is not a string"
      else
        match A.attrsOut c val with
        | .ok (as, haveAttrs) =>
          let seqOK := (lookup c.seqK val).isSome
          let n := val.length
          let ko := seqAll (fun e => enc A c f (A.kid p e.2.isList) e.1 e.2)
            (sortBySeq c (unrollEntries c val))
          match lookup c.textK val with
          | some tv =>
            if ((n = 3 && haveAttrs) || (n = 2 && !haveAttrs)) && seqOK then
              match A.txt tv with
              | some t => .ok (A.whole p key as t)
              | none => .err .other
            else
              match A.txt tv, ko with
              | some t, .ok kids => .ok (A.around p key as t kids)
              | none, _ => .err .other
              | _, o => o
          | none =>
            if ((n = 2 && haveAttrs) || (n = 1 && !haveAttrs)) && seqOK then
              .ok (A.whole p key as [])
            else match ko with
              | .ok kids => .ok (A.around p key as [] kids)
              | o => o
        | .eof => .eof | .syntax => .syntax | .err k => .err k | .panic s => .panic s
  | f + 1, p, key, .list xs => seqAll (fun x => enc A c f (A.member p) key x) xs
  | _ + 1, p, key, .str s => .ok (A.str p key s)
  | _ + 1, p, key, .null => A.null p key
  | _ + 1, p, key, .bool b => .ok (A.scalar p key (if b then "true".toList else "false".toList))
  | _ + 1, p, key, .num t => .ok (A.scalar p key (numText t))

/-- under a key that is none of the three note keys: the attributes, then the element written
    whole or around its children (`ElemKind`) -/
theorem enc_elem {A : Alg π ρ α} {c : SeqCfg} {f : Nat} {p : π} {key : Str}
    (hk : ¬ isNoteKey c key) {val : Entries} :
    enc A c (f + 1) p key (.map val) = (A.attrsOut c val).bind fun a =>
      (elemKind a.2 (lookup c.seqK val).isSome val.length ((lookup c.textK val).map A.txt)).run
        (A.whole p key a.1) (A.around p key a.1)
        (seqAll (fun e => enc A c f (A.kid p e.2.isList) e.1 e.2)
          (sortBySeq c (unrollEntries c val))) := by
  rw [enc, if_neg fun h => hk (.inl h), if_neg fun h => hk (.inr (.inl h)),
    if_neg fun h => hk (.inr (.inr h))]
  generalize seqAll _ _ = ko
  -- case by case as the definition goes: the attributes, the entry under the text key, its text
  -- form, and, where the element is written around its children, their outcome
  cases A.attrsOut c val with
  | ok a =>
    cases lookup c.textK val with
    | none =>
      simp only [Outcome.bind, Option.map, elemKind, run_ite]
      refine ite_congr rfl (fun _ => rfl) fun _ => ?_
      cases ko <;> rfl
    | some tv =>
      simp only [Outcome.bind, Option.map, elemKind]
      cases A.txt tv with
      | none => exact ite_self _
      | some t =>
        simp only [run_ite]
        refine ite_congr rfl (fun _ => rfl) fun _ => ?_
        cases ko <;> rfl
  | _ => rfl

/-! ### related algebras give related runs -/

theorem rel_mapOk {ι ι' γ δ : Type} {Q : ι → ι' → Prop} {R : γ → δ → Prop} {k : ι → γ}
    {k' : ι' → δ} {o : Outcome ι} {o' : Outcome ι'} (h : Outcome.Rel Q o o')
    (hk : ∀ a b, Q a b → R (k a) (k' b)) : Outcome.Rel R (o.mapOk k) (o'.mapOk k') := by
  -- outcomes of different kinds: `h` is `False`; two `.ok`: `hk`; else `mapOk` changes nothing
  cases o <;> cases o' <;> first | exact h.elim | exact hk _ _ h | exact h

theorem app_eq_bind (o1 o2 : Outcome (List α)) :
    o1.app o2 = o1.bind fun a => o2.mapOk (a ++ ·) := by
  cases o1 <;> cases o2 <;> rfl

theorem rel_app {R : List α → List β → Prop}
    (app : ∀ {a b a' b'}, R a b → R a' b' → R (a ++ a') (b ++ b'))
    {o1 o2 : Outcome (List α)} {o1' o2' : Outcome (List β)} (h1 : Outcome.Rel R o1 o1')
    (h2 : Outcome.Rel R o2 o2') : Outcome.Rel R (o1.app o2) (o1'.app o2') := by
  rw [app_eq_bind, app_eq_bind]
  exact h1.bind fun _ _ _ _ h => rel_mapOk h2 fun _ _ => app h

theorem rel_seqAll {ι : Type} {R : List α → List β → Prop} (nil : R [] [])
    (app : ∀ {a b a' b'}, R a b → R a' b' → R (a ++ a') (b ++ b'))
    {F : ι → Outcome (List α)} {G : ι → Outcome (List β)} :
    ∀ (l : List ι), (∀ i ∈ l, Outcome.Rel R (F i) (G i)) → Outcome.Rel R (seqAll F l) (seqAll G l)
  | [], _ => nil
  | i :: l, h => rel_app app (h i (List.mem_cons_self ..))
      (rel_seqAll nil app l fun j hj => h j (List.mem_cons_of_mem _ hj))

/-- a relation passes through a test made on both sides -/
theorem rel_ite {γ δ : Type} (R : γ → δ → Prop) (b : Prop) [Decidable b] {x y : γ} {x' y' : δ}
    (h1 : b → R x x') (h2 : ¬ b → R y y') : R (if b then x else y) (if b then x' else y') := by
  split
  · exact h1 ‹_›
  · exact h2 ‹_›

/-- `B` writes, of `g`-translated text and at related positions, what `A` writes, up to `R`, for
    the values in `D`.  The fields with a default are the ones that say nothing when the two
    algebras read attributes and text alike (`Ra = Eq`, `g = id`), when `D` or `Rp` is `True`. -/
structure Sim (c : SeqCfg) (A : Alg π ρ α) (B : Alg π' ρ' β) (D : Str → Val → Prop)
    (Rp : π → π' → Prop) (Ra : ρ → ρ' → Prop) (g : Str → Str) (R : List α → List β → Prop) :
    Prop where
  nil : R [] [] := by trivial
  app : ∀ {a b a' b'}, R a b → R a' b' → R (a ++ a') (b ++ b')
  kids : ∀ {key val}, D key (.map val) → ¬ isNoteKey c key →
    ∀ e ∈ unrollEntries c val, D e.1 e.2 := by intros; trivial
  members : ∀ {key xs}, D key (.list xs) → ∀ x ∈ xs, D key x := by intros; trivial
  attrs : ∀ {key val av}, D key (.map val) → lookup c.attrK val = some (.map av) →
    Outcome.Rel Ra (A.attrs (sortBySeq c av)) (B.attrs (sortBySeq c av)) := by
      intros; exact .refl (fun _ => rfl) _
  noAttrs : Ra A.noAttrs B.noAttrs := by trivial
  txt : ∀ {key val tv}, D key (.map val) → lookup c.textK val = some tv →
    B.txt tv = (A.txt tv).map g := by intros; exact (congrFun Option.map_id _).symm
  gnil : g [] = [] := by trivial
  note : ∀ {p p'} (n : Note), Rp p p' → R (A.note p n) (B.note p' n)
  whole : ∀ {p p' as as'} (key t : Str), Rp p p' → Ra as as' →
    R (A.whole p key as t) (B.whole p' key as' (g t))
  around : ∀ {p p' as as' ks ks'} (key t : Str), Rp p p' → Ra as as' → R ks ks' →
    R (A.around p key as t ks) (B.around p' key as' (g t) ks')
  str : ∀ {p p' key} (s : Str), Rp p p' → D key (.str s) → R (A.str p key s) (B.str p' key s)
  null : ∀ {p p' key}, Rp p p' → D key .null → Outcome.Rel R (A.null p key) (B.null p' key)
  bool : ∀ {p p' key} (b : Bool) (t : Str), Rp p p' → D key (.bool b) →
    R (A.scalar p key t) (B.scalar p' key t)
  num : ∀ {p p' key} (n t : Str), Rp p p' → D key (.num n) →
    R (A.scalar p key t) (B.scalar p' key t)
  kid : ∀ {p p'} (b : Bool), Rp p p' → Rp (A.kid p b) (B.kid p' b) := by intros; trivial
  member : ∀ {p p'}, Rp p p' → Rp (A.member p) (B.member p') := by intros; trivial

theorem Sim.enc {c : SeqCfg} {A : Alg π ρ α} {B : Alg π' ρ' β} {D : Str → Val → Prop}
    {Rp : π → π' → Prop} {Ra : ρ → ρ' → Prop} {g : Str → Str} {R : List α → List β → Prop}
    (S : Sim c A B D Rp Ra g R) : ∀ {f : Nat} {p : π} {p' : π'} {key : Str} {v : Val},
    Rp p p' → D key v → Outcome.Rel R (enc A c f p key v) (enc B c f p' key v) := by
  intro f
  induction f with
  | zero => intro p p' key v _ _; rfl
  | succ f ih =>
    intro p p' key v hp hd
    cases v with
    | null => exact S.null hp hd
    | bool b => exact S.bool b _ hp hd
    | num t => exact S.num t _ hp hd
    | str s => exact S.str s hp hd
    | list xs =>
      exact rel_seqAll S.nil S.app xs fun x hx => ih (S.member hp) (S.members hd x hx)
    | map val =>
      by_cases hnk : isNoteKey c key
      · rw [SeqG.enc, SeqG.enc]
        refine rel_ite _ _ (fun _ => ?_) fun h1 => rel_ite _ _ (fun _ => ?_) fun h2 =>
          rel_ite _ _ (fun _ => ?_) fun h3 => absurd hnk fun h => h.elim h1 (·.elim h2 h3)
        -- under each of the three keys: the same note, or the same panic
        all_goals
          split
          · exact S.note _ hp
          · rfl
      rw [enc_elem hnk, enc_elem hnk]
      have hattrs : Outcome.Rel (fun a b => Ra a.1 b.1 ∧ a.2 = b.2) (A.attrsOut c val)
          (B.attrsOut c val) := by
        unfold Alg.attrsOut
        split
        · next av h => exact rel_mapOk (S.attrs hd h) fun _ _ h => ⟨h, rfl⟩
        · exact ⟨S.noAttrs, rfl⟩
      refine hattrs.bind fun a b _ _ hab => ?_
      rw [← hab.2]
      have hk : Outcome.Rel R
          (seqAll (fun e : Str × Val => SeqG.enc A c f (A.kid p e.2.isList) e.1 e.2) _)
          (seqAll (fun e : Str × Val => SeqG.enc B c f (B.kid p' e.2.isList) e.1 e.2) _) :=
        rel_seqAll S.nil S.app _ fun e he => ih (S.kid _ hp)
          (S.kids hd hnk e ((sortBySeq_perm c _).mem_iff.1 he))
      have around := fun t => rel_mapOk hk fun _ _ h => S.around key t hp hab.1 h
      -- the choice between "whole" and "around" does not look at the text: the same on both sides
      cases h : lookup c.textK val with
      | none =>
        have hw0 := S.whole key [] hp hab.1
        have ha0 := around []
        rw [S.gnil] at hw0 ha0
        simp only [elemKind, Option.map]
        split
        · exact hw0
        · exact ha0
      | some tv =>
        simp only [Option.map, S.txt hd h]
        rcases A.txt tv with _ | t <;> simp only [elemKind]
        · rfl
        · split
          · exact S.whole key t hp hab.1
          · exact around t

/-- relations that are graphs of functions: `Outcome.Rel` is an equation between outcomes -/
theorem rel_graph {γ δ : Type} (h : γ → δ) (x : Outcome γ) (y : Outcome δ) :
    Outcome.Rel (fun a b => h a = b) x y ↔ x.mapOk h = y := by
  cases x <;> cases y <;> simp [Outcome.Rel, Outcome.mapOk]

theorem rel_graph2 {γ δ ε : Type} (h : γ → ε) (k : δ → ε) (x : Outcome γ) (y : Outcome δ) :
    Outcome.Rel (fun a b => h a = k b) x y ↔ x.mapOk h = y.mapOk k := by
  cases x <;> cases y <;> simp [Outcome.Rel, Outcome.mapOk]

/-! ### the order of map entries does not matter -/

/-- children: pointwise-related entries are encoded alike -/
theorem seqAll_pw {β : Type} {c : SeqCfg} (E : Bool → Str → Val → Outcome (List β))
    (IH : ∀ {b key w v}, VPerm w v → GoodAt c key v → E b key w = E b key v)
    {l' l : List (Str × Val)} (h : PW (GoodAt c) l' l) :
    seqAll (fun e => E e.2.isList e.1 e.2) l' = seqAll (fun e => E e.2.isList e.1 e.2) l :=
  h.ind (motive := fun l' l => seqAll (fun e => E e.2.isList e.1 e.2) l' = seqAll _ l) rfl
    fun hv hg _ ih => by simp only [seqAll, hv.isList, IH hv hg, ih]

/-- one level: the order of the entries of the map itself -/
theorem enc_perm {A : Alg π ρ α} {c : SeqCfg} {f : Nat} {p : π} {key : Str} {val val' : Entries}
    (hp : val'.Perm val) (hk : (keys val).Nodup)
    (hs : ((unrollEntries c val).map (fun e => seqOf c e.2)).Nodup) :
    enc A c f p key (.map val') = enc A c f p key (.map val) := by
  cases f with
  | zero => simp only [enc]
  | succ f =>
    simp only [enc, Alg.attrsOut, lookup_eq_of_perm hp hk, hp.length_eq,
      sortBySeq_congr c (unrollEntries_perm c hp) hs]

theorem attrsOut_congr {A : Alg π ρ α} {c : SeqCfg}
    (hattrs : ∀ {l' l : List (Str × Val)}, PW (fun _ v => keysOk v) l' l → A.attrs l' = A.attrs l)
    {a m : Entries} (he : EPerm a m)
    (hattr : ∀ av, lookup c.attrK m = some (.map av) → GoodAttrs c av) :
    A.attrsOut c a = A.attrsOut c m := by
  unfold Alg.attrsOut
  rcases eperm_lookup c.attrK he with ⟨h1, h2⟩ | ⟨x, y, h1, h2, hxy⟩
  · rw [h1, h2]
  · rw [h1, h2]
    rcases hxy.cases with ⟨rfl, _⟩ | ⟨_, _, rfl, rfl, _⟩ | ⟨a', m', b', rfl, rfl, hp', he'⟩
    · rfl
    · rfl
    · have hga := hattr b' h2
      have hgm : ∀ e ∈ m', keysOk e.2 := fun e hm => hga.2.2 e (hp'.mem_iff.1 hm)
      simp only [hattrs (PW_sortBySeq c (fun _ _ h => h) (PW_of_EPerm he' hgm)),
        sortBySeq_congr c hp' hga.2.1]

/-- all levels: what `enc A` writes does not depend on the order of the entries of ANY map of
    the value, if every map has distinct keys and its children / attributes distinct `#seq`;
    for every algebra whose attribute writer and text reader do not tell related values apart -/
theorem enc_vperm (A : Alg π ρ α) {c : SeqCfg}
    (hattrs : ∀ {l' l : List (Str × Val)}, PW (fun _ v => keysOk v) l' l → A.attrs l' = A.attrs l)
    (htxt : ∀ {w v : Val}, VPerm w v → A.txt w = A.txt v) :
    ∀ {f : Nat} {p : π} {key : Str} {w v : Val}, VPerm w v → GoodAt c key v →
      enc A c f p key w = enc A c f p key v := by
  intro f
  induction f with
  | zero => intro p key w v _ _; simp only [enc]
  | succ f ih =>
    intro p key w v hwv hg
    rcases hwv.cases with ⟨rfl, _⟩ | ⟨xs, ys, rfl, rfl, hl⟩ | ⟨a, m, b, rfl, rfl, hp, he⟩
    · rfl
    · simp only [enc]
      rw [← seqAll_map (fun e : Str × Val => enc A c f (A.member p) e.1 e.2) (fun x => (key, x)),
        ← seqAll_map (fun e : Str × Val => enc A c f (A.member p) e.1 e.2) (fun x => (key, x))]
      exact seqAll_pw (fun _ => enc A c f (A.member p)) ih (PW_mapKey hl hg)
    · obtain ⟨hk, hrest⟩ := hg
      have hlk : ∀ k, strOf (lookup k a) = strOf (lookup k b) := fun k =>
        lookRel_strOf (vperm_lookup he hp hk k)
      by_cases hnk : isNoteKey c key
      · rw [enc, enc]
        refine ite_congr rfl (fun _ => ?_) fun h1 => ite_congr rfl (fun _ => ?_) fun h2 =>
          ite_congr rfl (fun _ => ?_) fun h3 => absurd hnk fun h => h.elim h1 (·.elim h2 h3)
        · rw [hlk]
        · rw [hlk]
        · rw [hlk, hlk]
      obtain ⟨hs, hattr, hge⟩ := hrest.resolve_left hnk
      rw [← enc_perm hp hk hs, enc_elem hnk, enc_elem hnk]
      -- what is known of `b` holds of its permutation `m`: its attribute map, and every entry is
      -- an attribute entry or good, so that the children the two runs visit are related one by one
      have hattrm : ∀ av, lookup c.attrK m = some (.map av) → GoodAttrs c av :=
        fun av h => hattr av ((lookup_eq_of_perm hp hk _).symm.trans h)
      have hkids := PW_sortBySeq c (fun _ _ h => h.keysOk) (PW_unroll (PW_of_EPerm he
        fun e hm => (GoodE_iff c b).1 hge e (hp.mem_iff.1 hm)))
      simp only [attrsOut_congr hattrs he hattrm,
        lookRel_congr Option.isSome (fun _ => rfl) (eperm_lookup c.seqK he), eperm_length he,
        lookRel_congr (·.map A.txt) (fun h => congrArg some (htxt h)) (eperm_lookup c.textK he),
        seqAll_pw (fun b => enc A c f (A.kid p b)) ih hkids]

end SeqG
end Mxj
