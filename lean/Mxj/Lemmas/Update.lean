/-
  Mxj.Lemmas.Update — helper lemmas for C10 (UpdateValuesForPath): the ghost model of written
  locations (`writeAll`, `Realizes`); the last step (`updValue` down to the members of a list)
  fact by fact, with `updAt_eq` and `updMap_star_eq` as its normal forms; and, at the end, the
  relation `Upd` listing what one level of `updPath` can do, on which every fact about `updPath`
  is an induction.
-/
import Mxj.Model.Update
import Mxj.Lemmas.Mutate
namespace Mxj.Upd
open Mxj

/- `key`, `value`, `subs`: the new entry and the sub-key conditions of the one call under study -/
section
variable {key : Str} {value : Val} {subs : SubKeys}

/-! ### association lists -/

theorem keys_insert_of_lookup (k : Str) (v w : Val) : ∀ kvs : Entries,
    lookup k kvs = some w → keys (insert k v kvs) = keys kvs := by
  intro kvs h
  rw [keys_insert, if_pos]
  exact List.mem_map.2 ⟨_, mem_of_lookup h, rfl⟩

theorem lookup_isSome_of_mem_keys (k : Str) : ∀ kvs : Entries, k ∈ keys kvs → ∃ v, lookup k kvs = some v :=
  fun kvs hm => Option.isSome_iff_exists.1 ((lookup_isSome_iff k kvs).2 (List.mem_map.1 hm))

/-! ### `mapCount` / `mapEntriesCount` -/

theorem mapCount_eq (f : Val → Val × Nat) : ∀ xs : List Val,
    mapCount f xs = (xs.map fun x => (f x).1, (xs.map fun x => (f x).2).sum)
  | [] => rfl
  | x :: xs => by simp only [mapCount, mapCount_eq f xs, List.map_cons, List.sum_cons]

theorem mapEntriesCount_eq (f : Val → Val × Nat) : ∀ kvs : Entries,
    mapEntriesCount f kvs = (kvs.map fun e => (e.1, (f e.2).1), (kvs.map fun e => (f e.2).2).sum)
  | [] => rfl
  | (k, v) :: rest => by
    simp only [mapEntriesCount, mapEntriesCount_eq f rest, List.map_cons, List.sum_cons]

/-! ### sums of counts over the members -/

/-- a zero total means every member was returned unchanged, provided `g` has that property -/
theorem map_eq_self_of_sum_zero {α : Type} (c : α → Nat) (g : α → α) (l : List α)
    (hg : ∀ a ∈ l, c a = 0 → g a = a) (h : (l.map c).sum = 0) : l.map g = l := by
  rw [List.sum_eq_zero_iff_forall_eq_nat] at h
  conv => rhs; rw [← List.map_id l]
  exact List.map_congr_left fun a ha => hg a ha (h _ (List.mem_map.2 ⟨a, ha, rfl⟩))

theorem flatMap_replicate_sum {α : Type} (value : Val) (g : α → List Val) (c : α → Nat) :
    ∀ l : List α, (∀ x ∈ l, g x = List.replicate (c x) value) →
      l.flatMap g = List.replicate (l.map c).sum value
  | [], _ => by simp
  | x :: l, h => by
    simp only [List.flatMap_cons, List.map_cons, List.sum_cons]
    rw [h x (List.mem_cons_self ..), flatMap_replicate_sum value g c l
      (fun y hy => h y (List.mem_cons_of_mem _ hy)), List.replicate_append_replicate]

theorem sum_eq_length_filter_flatMap {α : Type} (c : α → Nat) (g : α → List Val) (P : Val → Bool)
    (l : List α) (h : ∀ a ∈ l, c a = ((g a).filter P).length) :
    (l.map c).sum = ((l.flatMap g).filter P).length := by
  rw [List.filter_flatMap, List.length_flatMap, List.map_congr_left h]

/-! ### ghost model: the written locations -/

/-- write `value` at a location (no-op when the location does not exist) -/
def writeLoc (value : Val) : Val → List Seg → Val
  | _, [] => value
  | .map kvs, .key k :: rest => match lookup k kvs with
      | some v => .map (insert k (writeLoc value v rest) kvs)
      | none => .map kvs
  | .list xs, .idx i :: rest => match xs[i]? with
      | some v => .list (xs.set i (writeLoc value v rest))
      | none => .list xs
  | v, _ => v

/-- write `value` at every location of a list, left to right -/
def writeAll (value : Val) (m : Val) (ls : List (List Seg)) : Val :=
  ls.foldl (writeLoc value) m

/-- neither location is above (or equal to) the other -/
def Incomp (a b : List Seg) : Prop := ¬ a <+: b ∧ ¬ b <+: a

theorem Incomp.symm {a b : List Seg} (h : Incomp a b) : Incomp b a := ⟨h.2, h.1⟩

theorem incomp_cons (s : Seg) (a b : List Seg) : Incomp (s :: a) (s :: b) ↔ Incomp a b :=
  (incomp_cons_cons s s a b).trans (by simp [Incomp])

theorem incomp_cons_ne (s t : Seg) (a b : List Seg) (h : s ≠ t) : Incomp (s :: a) (t :: b) :=
  (incomp_cons_cons s t a b).2 (.inl h)

theorem writeLoc_nil (value m : Val) : writeLoc value m [] = value := by cases m <;> rfl

/-- the child of a node under one segment -/
def child : Val → Seg → Option Val
  | .map kvs, .key k => lookup k kvs
  | .list xs, .idx i => xs[i]?
  | _, _ => none

/-- the node with its child under a segment replaced -/
def setChild : Val → Seg → Val → Val
  | .map kvs, .key k, w => .map (insert k w kvs)
  | .list xs, .idx i, w => .list (xs.set i w)
  | m, _, _ => m

theorem getLoc_cons (m : Val) (s : Seg) (l : List Seg) :
    getLoc m (s :: l) = match child m s with
      | some v => getLoc v l
      | none => none := by
  cases m <;> cases s <;> rfl

theorem writeLoc_cons (m : Val) (s : Seg) (l : List Seg) :
    writeLoc value m (s :: l) = match child m s with
      | some v => setChild m s (writeLoc value v l)
      | none => m := by
  cases m <;> cases s <;> rfl

theorem child_setChild_self {m v : Val} {s : Seg} (w : Val) (h : child m s = some v) :
    child (setChild m s w) s = some w := by
  cases m <;> cases s <;> try cases h
  case map.key => exact lookup_insert_self ..
  case list.idx => exact List.getElem?_set_self (List.getElem?_eq_some_iff.1 h).1

theorem child_setChild_ne (m w : Val) {s t : Seg} (h : t ≠ s) :
    child (setChild m s w) t = child m t := by
  cases m <;> cases s <;> cases t <;> try rfl
  case map.key.key => exact lookup_insert_ne _ _ _ (fun e => h (congrArg _ e)) _
  case list.idx.idx => exact List.getElem?_set_ne (fun e => h (congrArg _ e).symm)

theorem setChild_child {m v : Val} {s : Seg} (h : child m s = some v) : setChild m s v = m := by
  cases m <;> cases s <;> try rfl
  case map.key => exact congrArg Val.map (insert_of_lookup _ _ _ h)
  case list.idx =>
    obtain ⟨hi, hv⟩ := List.getElem?_eq_some_iff.1 h
    exact congrArg Val.list (hv ▸ List.set_getElem_self hi)

theorem setChild_setChild (m w w' : Val) (s : Seg) :
    setChild (setChild m s w) s w' = setChild m s w' := by
  cases m <;> cases s <;> try rfl
  case map.key => exact congrArg Val.map (insert_insert ..)
  case list.idx => exact congrArg Val.list (List.set_set ..)

theorem getLoc_writeLoc_self : ∀ (l : List Seg) (m : Val),
    (getLoc m l).isSome = true → getLoc (writeLoc value m l) l = some value
  | [], m, _ => by rw [writeLoc_nil, getLoc_nil]
  | s :: l, m, h => by
    rw [getLoc_cons] at h
    rw [writeLoc_cons]
    cases hc : child m s with
    | none => simp [hc] at h
    | some v =>
      simp only [hc] at h ⊢
      simp only [getLoc_cons, child_setChild_self _ hc]
      exact getLoc_writeLoc_self l v h

theorem getLoc_writeLoc_incomp : ∀ (l q : List Seg) (m : Val),
    Incomp l q → getLoc (writeLoc value m l) q = getLoc m q
  | [], q, m, h => absurd List.nil_prefix h.1
  | _ :: _, [], m, h => absurd List.nil_prefix h.2
  | s :: l, t :: q, m, h => by
    rw [writeLoc_cons]
    cases hc : child m s with
    | none => rfl
    | some v =>
      simp only [getLoc_cons]
      by_cases hst : t = s
      · subst hst
        rw [child_setChild_self _ hc, hc]
        exact getLoc_writeLoc_incomp l q v ((incomp_cons _ _ _).1 h)
      · rw [child_setChild_ne _ _ hst]

theorem writeAll_nil (value m : Val) : writeAll value m [] = m := rfl

theorem writeAll_cons (value m : Val) (l : List Seg) (ls : List (List Seg)) :
    writeAll value m (l :: ls) = writeAll value (writeLoc value m l) ls := rfl

theorem writeAll_append (value m : Val) (a b : List (List Seg)) :
    writeAll value m (a ++ b) = writeAll value (writeAll value m a) b := by
  simp only [writeAll, List.foldl_append]

/-- frame: a location incomparable with everything written keeps its value -/
theorem getLoc_writeAll_incomp (q : List Seg) : ∀ (ls : List (List Seg)) (m : Val),
    (∀ l ∈ ls, Incomp l q) → getLoc (writeAll value m ls) q = getLoc m q
  | [], m, _ => rfl
  | l :: ls, m, h => by
    rw [writeAll_cons, getLoc_writeAll_incomp q ls _
      (fun l' hl' => h l' (List.mem_cons_of_mem _ hl')),
      getLoc_writeLoc_incomp l q m (h l (List.mem_cons_self ..))]

theorem getLoc_writeAll_mem : ∀ (ls : List (List Seg)) (m : Val),
    ls.Pairwise Incomp → (∀ l ∈ ls, (getLoc m l).isSome = true) →
      ∀ l ∈ ls, getLoc (writeAll value m ls) l = some value
  | [], _, _, _, l, hl => by simp at hl
  | a :: ls, m, hp, hv, l, hl => by
    rw [List.pairwise_cons] at hp
    rw [writeAll_cons]
    rcases List.mem_cons.1 hl with rfl | hl'
    · rw [getLoc_writeAll_incomp l ls _ (fun l' hl' => (hp.1 l' hl').symm)]
      exact getLoc_writeLoc_self l m (hv l (List.mem_cons_self ..))
    · refine getLoc_writeAll_mem ls _ hp.2 ?_ l hl'
      intro l' hl''
      rw [getLoc_writeLoc_incomp a l' m (hp.1 l' hl'')]
      exact hv l' (List.mem_cons_of_mem _ hl'')

/-! ### locus combinators -/

/-- loci of the members of a list: member `i`'s loci prefixed by `idx i` (the `Nat` argument is the index of the head) -/
def lociList (f : Val → List (List Seg)) : Nat → List Val → List (List Seg)
  | _, [] => []
  | i, x :: xs => (f x).map (Seg.idx i :: ·) ++ lociList f (i + 1) xs

/-- loci of the entries of a map: entry `k`'s loci prefixed by `key k` -/
def lociEntries (g : Str → Val → List (List Seg)) : Entries → List (List Seg)
  | [] => []
  | (k, v) :: rest => (g k v).map (Seg.key k :: ·) ++ lociEntries g rest

theorem lociEntries_flatMap (g : Str → Val → List (List Seg)) : ∀ kvs : Entries,
    lociEntries g kvs = kvs.flatMap fun e => (g e.1 e.2).map (Seg.key e.1 :: ·)
  | [] => rfl
  | (k, v) :: rest => by simp only [lociEntries, List.flatMap_cons, lociEntries_flatMap g rest]

theorem forall_mem_lociEntries {P : List Seg → Prop} (g : Str → Val → List (List Seg))
    (kvs : Entries) (h : ∀ e ∈ kvs, ∀ l ∈ g e.1 e.2, P (Seg.key e.1 :: l)) :
    ∀ l ∈ lociEntries g kvs, P l := by
  intro l hl
  simp only [lociEntries_flatMap, List.mem_flatMap, List.mem_map] at hl
  obtain ⟨e, he, l', hl', rfl⟩ := hl
  exact h e he l' hl'

theorem length_lociEntries (g : Str → Val → List (List Seg)) (kvs : Entries) :
    (lociEntries g kvs).length = (kvs.map (fun e => (g e.1 e.2).length)).sum := by
  simp only [lociEntries_flatMap, List.length_flatMap, List.length_map]

theorem pairwise_lociEntries (g : Str → Val → List (List Seg)) (kvs : Entries)
    (hd : distinctKeys kvs = true) (h : ∀ e ∈ kvs, (g e.1 e.2).Pairwise Incomp) :
    (lociEntries g kvs).Pairwise Incomp := by
  rw [lociEntries_flatMap, List.pairwise_flatMap]
  refine ⟨fun e he => by rw [List.pairwise_map]; simpa only [incomp_cons] using h e he, ?_⟩
  have hn := (distinctKeys_iff_nodup kvs).1 hd
  rw [keys, List.Nodup, List.pairwise_map] at hn
  refine hn.imp fun hne a ha b hb => ?_
  obtain ⟨a', _, rfl⟩ := List.mem_map.1 ha
  obtain ⟨b', _, rfl⟩ := List.mem_map.1 hb
  exact incomp_cons_ne _ _ _ _ (fun e => hne (Seg.key.inj e))

theorem lociList_flatMap (f : Val → List (List Seg)) : ∀ (xs : List Val) (n : Nat),
    lociList f n xs = (xs.zipIdx n).flatMap fun p => (f p.1).map (Seg.idx p.2 :: ·)
  | [], _ => rfl
  | x :: xs, n => by
    simp only [lociList, List.zipIdx_cons, List.flatMap_cons, lociList_flatMap f xs (n + 1)]

theorem forall_mem_lociList {P : List Seg → Prop} (f : Val → List (List Seg)) (xs : List Val)
    (n : Nat) (h : ∀ p ∈ xs.zipIdx n, ∀ l ∈ f p.1, P (Seg.idx p.2 :: l)) :
    ∀ l ∈ lociList f n xs, P l := by
  intro l hl
  simp only [lociList_flatMap, List.mem_flatMap, List.mem_map] at hl
  obtain ⟨p, hp, l', hl', rfl⟩ := hl
  exact h p hp l' hl'

theorem length_lociList (f : Val → List (List Seg)) (xs : List Val) (n : Nat) :
    (lociList f n xs).length = (xs.map (fun x => (f x).length)).sum := by
  simp only [lociList_flatMap, List.length_flatMap, List.length_map]
  conv => rhs; rw [← List.zipIdx_map_fst n xs, List.map_map]
  rfl

theorem writeAll_child (s : Seg) : ∀ (ls : List (List Seg)) (m v : Val), child m s = some v →
    writeAll value m (ls.map (s :: ·)) = setChild m s (writeAll value v ls)
  | [], m, v, h => by simp only [List.map_nil, writeAll_nil, setChild_child h]
  | l :: ls, m, v, h => by
    simp only [List.map_cons, writeAll_cons, writeLoc_cons, h]
    rw [writeAll_child s ls _ _ (child_setChild_self _ h), setChild_setChild]

theorem writeAll_entries_aux (g : Str → Val → List (List Seg)) :
    ∀ (rest pre : Entries), (keys (pre ++ rest)).Nodup →
      writeAll value (.map (pre ++ rest)) (lociEntries g rest) =
        .map (pre ++ rest.map (fun e => (e.1, writeAll value e.2 (g e.1 e.2))))
  | [], pre, _ => by simp [lociEntries, writeAll_nil]
  | (k, v) :: rest, pre, hnd => by
    obtain ⟨hl, hins, _⟩ := lookup_insert_mid k v (writeAll value v (g k v)) pre rest hnd
    simp only [lociEntries, writeAll_append]
    rw [writeAll_child (.key k) _ (.map _) _ hl, setChild, hins, writeAll_entries_aux g rest _ (by simpa [keys] using hnd)]
    simp

theorem writeAll_entries (g : Str → Val → List (List Seg)) (kvs : Entries)
    (hd : distinctKeys kvs = true) :
    writeAll value (.map kvs) (lociEntries g kvs) =
      .map (kvs.map (fun e => (e.1, writeAll value e.2 (g e.1 e.2)))) := by
  simpa using writeAll_entries_aux (value := value) g kvs [] ((distinctKeys_iff_nodup kvs).1 hd)

theorem writeAll_list_aux (f : Val → List (List Seg)) :
    ∀ (xs pre : List Val),
      writeAll value (.list (pre ++ xs)) (lociList f pre.length xs) =
        .list (pre ++ xs.map (fun x => writeAll value x (f x)))
  | [], pre => by simp [lociList, writeAll_nil]
  | x :: xs, pre => by
    have hl : (pre ++ x :: xs)[pre.length]? = some x := by
      rw [List.getElem?_append_right (Nat.le_refl _)]; simp
    simp only [lociList, writeAll_append]
    rw [writeAll_child (.idx _) _ (.list _) _ hl, setChild, List.set_append_right _ _ (Nat.le_refl _)]
    simp only [Nat.sub_self, List.set_cons_zero]
    have e3 : pre.length + 1 = (pre ++ [writeAll value x (f x)]).length := by simp
    rw [List.append_cons, e3, writeAll_list_aux f xs _]
    simp

theorem writeAll_list (f : Val → List (List Seg)) (xs : List Val) :
    writeAll value (.list xs) (lociList f 0 xs) =
      .list (xs.map (fun x => writeAll value x (f x))) := by
  have := writeAll_list_aux (value := value) f xs []
  simpa using this

theorem pairwise_lociList (f : Val → List (List Seg)) (xs : List Val) (n : Nat)
    (h : ∀ x ∈ xs, (f x).Pairwise Incomp) : (lociList f n xs).Pairwise Incomp := by
  rw [lociList_flatMap, List.pairwise_flatMap]
  refine ⟨fun p hp => by
    rw [List.pairwise_map]
    simpa only [incomp_cons] using h p.1 (List.fst_mem_of_mem_zipIdx hp), ?_⟩
  -- the indices increase along the list
  have hlt := List.pairwise_lt_range' (s := n) (n := xs.length)
  rw [← List.zipIdx_map_snd, List.pairwise_map] at hlt
  refine hlt.imp fun hlt a ha b hb => ?_
  obtain ⟨a', _, rfl⟩ := List.mem_map.1 ha
  obtain ⟨b', _, rfl⟩ := List.mem_map.1 hb
  exact incomp_cons_ne _ _ _ _ (fun e => Nat.ne_of_lt hlt (Seg.idx.inj e))

/-- `r` is `m` with `value` written at exactly the locations `ls` (which exist in `m` and are
    pairwise incomparable), and the count is their number -/
structure Realizes (value : Val) (m : Val) (r : Val × Nat) (ls : List (List Seg)) : Prop where
  count : r.2 = ls.length
  tree : r.1 = writeAll value m ls
  valid : ∀ l ∈ ls, (getLoc m l).isSome = true
  incomp : ls.Pairwise Incomp

theorem Realizes.nil {value m : Val} : Realizes value m (m, 0) [] :=
  ⟨rfl, rfl, by simp, List.Pairwise.nil⟩

theorem Realizes.root {value m : Val} : Realizes value m (value, 1) [[]] :=
  ⟨rfl, by simp [writeAll, writeLoc_nil], by simp [getLoc_nil], by simp⟩

theorem Realizes.atKey {value v : Val} {r : Val × Nat} {ls : List (List Seg)} (k : Str)
    (kvs : Entries) (h : lookup k kvs = some v) (hr : Realizes value v r ls) :
    Realizes value (.map kvs) (.map (insert k r.1 kvs), r.2) (ls.map (Seg.key k :: ·)) := by
  refine ⟨by simp [hr.count], ?_, ?_, ?_⟩
  · simp only [writeAll_child (.key k) ls (.map kvs) v h, setChild, hr.tree]
  · refine List.forall_mem_map.2 fun l' hl' => ?_
    simp only [getLoc, h]
    exact hr.valid l' hl'
  · rw [List.pairwise_map]
    simp only [incomp_cons]
    exact hr.incomp

theorem Realizes.entries (value : Val) (F : Str → Val → Val × Nat)
    (g : Str → Val → List (List Seg)) (kvs : Entries) (hd : distinctKeys kvs = true)
    (h : ∀ e ∈ kvs, Realizes value e.2 (F e.1 e.2) (g e.1 e.2)) :
    Realizes value (.map kvs)
      (.map (kvs.map fun e => (e.1, (F e.1 e.2).1)), (kvs.map fun e => (F e.1 e.2).2).sum)
      (lociEntries g kvs) := by
  refine ⟨?_, ?_, ?_, ?_⟩
  · rw [length_lociEntries]
    simp only
    congr 1
    exact List.map_congr_left (fun e he => (h e he).count)
  · rw [writeAll_entries g kvs hd]
    simp only
    congr 1
    exact List.map_congr_left (fun e he => by rw [(h e he).tree])
  · refine forall_mem_lociEntries g kvs fun e he l' hl' => ?_
    simp only [getLoc, lookup_eq_some_of_mem ((distinctKeys_iff_nodup kvs).1 hd) he]
    exact (h e he).valid l' hl'
  · exact pairwise_lociEntries g kvs hd (fun e he => (h e he).incomp)

theorem Realizes.list (value : Val) (F : Val → Val × Nat) (f : Val → List (List Seg))
    (xs : List Val) (h : ∀ x ∈ xs, Realizes value x (F x) (f x)) :
    Realizes value (.list xs)
      (.list (xs.map fun x => (F x).1), (xs.map fun x => (F x).2).sum) (lociList f 0 xs) := by
  refine ⟨?_, ?_, ?_, ?_⟩
  · rw [length_lociList]
    simp only
    congr 1
    exact List.map_congr_left (fun x hx => (h x hx).count)
  · rw [writeAll_list f xs]
    simp only
    congr 1
    exact List.map_congr_left (fun x hx => by rw [(h x hx).tree])
  · refine forall_mem_lociList f xs 0 fun p hp l' hl' => ?_
    simp only [getLoc, List.mem_zipIdx_iff_getElem?.1 hp]
    exact (h p.1 (List.fst_mem_of_mem_zipIdx hp)).valid l' hl'
  · exact pairwise_lociList f xs 0 (fun x hx => (h x hx).incomp)

/-! ### the written locations of the model, independent of the new value -/

/-- `replaceMembers`: the members satisfying the sub-keys -/
def replaceLoci (subs : SubKeys) (xs : List Val) : List (List Seg) :=
  lociList (fun v => if hasSubKeys v subs then [[]] else []) 0 xs

/-- `setInMembers`: entry `key` of the map members holding it and satisfying the sub-keys -/
def setInLoci (key : Str) (subs : SubKeys) (xs : List Val) : List (List Seg) :=
  lociList (fun v => match v with
    | .map vv => if (lookup key vv).isSome && hasSubKeys (.map vv) subs
        then [[Seg.key key]] else []
    | _ => []) 0 xs

/-- loci of `updEnd` (defined below, with `realizes_updEnd`), relative to the entry's value -/
def updEndLoci (key : Str) (subs : SubKeys) (hs : Bool) (k0 : Str) (endVal : Val) :
    List (List Seg) :=
  if key = k0 then
    match endVal with
    | .list xs => if hs then [[]] else replaceLoci subs xs
    | _ => if hs then [[]] else []
  else
    match endVal with
    | .map ekvs =>
        if hasSubKeys (.map ekvs) subs && (lookup key ekvs).isSome then [[Seg.key key]] else []
    | .list xs => setInLoci key subs xs
    | _ => []

/-- loci of `updMap` -/
def updMapLoci (key : Str) (subs : SubKeys) (kvs : Entries) (keys0 : Str) : List (List Seg) :=
  if keys0 = ['*'] then
    lociEntries (fun k e => updEndLoci key subs (hasSubKeys (.map kvs) subs) k e) kvs
  else match lookup keys0 kvs with
    | none => []
    | some e => (updEndLoci key subs (hasSubKeys (.map kvs) subs) keys0 e).map (Seg.key keys0 :: ·)

/-- loci of `updValue` -/
def updValueLoci (key : Str) (subs : SubKeys) (m : Val) (keys0 : Str) : List (List Seg) :=
  match m with
  | .map kvs => updMapLoci key subs kvs keys0
  | .list xs => lociList (fun v => match v with
      | .map vv => updMapLoci key subs vv keys0
      | _ => []) 0 xs
  | _ => []

/-- ghost version of `updPath`: the locations it writes (in the order it writes them) -/
def updPathLoci (key : Str) (subs : SubKeys) : Val → List Str → List (List Seg)
  | _, [] => []
  | m, [k0] => updValueLoci key subs m k0
  | m, k :: k' :: ks =>
    if k = ['*'] then
      match m with
      | .map kvs => lociEntries (fun _ v => updPathLoci key subs v (k' :: ks)) kvs
      | .list xs => lociList (fun x => match x with
          | .map kvs => lociEntries (fun _ v => updPathLoci key subs v (k' :: ks)) kvs
          | v => updPathLoci key subs v (k' :: ks)) 0 xs
      | _ => []
    else
      match m with
      | .map kvs => match lookup k kvs with
          | some v => (updPathLoci key subs v (k' :: ks)).map (Seg.key k :: ·)
          | none => []
      | .list xs => lociList (fun x => match x with
          | .map kvs => match lookup k kvs with
              | some v => (updPathLoci key subs v (k' :: ks)).map (Seg.key k :: ·)
              | none => []
          | _ => []) 0 xs
      | _ => []
termination_by _ ks => ks.length
decreasing_by all_goals simp_wf <;> omega

/-! ### the model realises its loci -/

/-- the new value (and count) for the entry `k0 ↦ endVal` of a parent map whose own sub-key
    test came out as `hs` — the body of `updAt` without the store -/
def updEnd (key : Str) (value : Val) (subs : SubKeys) (hs : Bool) (k0 : Str) (endVal : Val) :
    Val × Nat :=
  if key = k0 then
    match endVal with
    | .list xs =>
        if hs then (value, 1)
        else (.list (replaceMembers value subs xs).1, (replaceMembers value subs xs).2)
    | _ => if hs then (value, 1) else (endVal, 0)
  else
    match endVal with
    | .map ekvs =>
        if hasSubKeys (.map ekvs) subs && (lookup key ekvs).isSome
        then (.map (insert key value ekvs), 1) else (endVal, 0)
    | .list xs => (.list (setInMembers key value subs xs).1, (setInMembers key value subs xs).2)
    | _ => (endVal, 0)

theorem realizes_replaceMembers (xs : List Val) :
    Realizes value (.list xs)
      (.list (replaceMembers value subs xs).1, (replaceMembers value subs xs).2)
      (replaceLoci subs xs) := by
  unfold replaceMembers replaceLoci
  rw [mapCount_eq]
  refine Realizes.list value _ _ xs ?_
  intro x _
  by_cases hs : hasSubKeys x subs = true
  · simp only [hs, if_true]; exact Realizes.root
  · simp only [hs]; exact Realizes.nil

theorem realizes_setKey (vv : Entries)
    (h : (lookup key vv).isSome = true) :
    Realizes value (.map vv) (.map (insert key value vv), 1) [[Seg.key key]] := by
  obtain ⟨w, hw⟩ := Option.isSome_iff_exists.1 h
  exact Realizes.atKey key vv hw (Realizes.root)

theorem realizes_setInMembers (xs : List Val) :
    Realizes value (.list xs)
      (.list (setInMembers key value subs xs).1, (setInMembers key value subs xs).2)
      (setInLoci key subs xs) := by
  unfold setInMembers setInLoci
  rw [mapCount_eq]
  refine Realizes.list value _ _ xs ?_
  intro x _
  cases x with
  | map vv =>
    by_cases hc : ((lookup key vv).isSome && hasSubKeys (Val.map vv) subs) = true
    · simp only [hc, if_true]
      simp only [Bool.and_eq_true] at hc
      exact realizes_setKey vv hc.1
    · simp only [hc]; exact Realizes.nil
  | _ => exact Realizes.nil

theorem realizes_updEnd (hs : Bool) (k0 : Str)
    (e : Val) : Realizes value e (updEnd key value subs hs k0 e) (updEndLoci key subs hs k0 e) := by
  -- `updEndLoci` branches as `updEnd` does; `case1` … `case8` are the branches of `updEnd` in the
  -- order they are written
  fun_cases updEnd key value subs hs k0 e <;>
    simp only [updEndLoci, *, if_true, if_false, Bool.false_eq_true]
  -- under `key`: the entry itself, or the members of the list there; under another key: the
  -- entry `key` of the map there, or of the map members of the list there; else nothing
  case case1 | case3 => exact Realizes.root
  case case2 xs _ => exact realizes_replaceMembers xs
  case case5 ekvs hc => exact realizes_setKey ekvs (Bool.and_eq_true _ _ ▸ hc).2
  case case7 xs => exact realizes_setInMembers xs
  all_goals exact Realizes.nil

/-! ### a count of zero leaves everything untouched -/

/-- no replacement, nothing written -/
theorem Realizes.zero {value m : Val} {r : Val × Nat} {ls : List (List Seg)}
    (h : Realizes value m r ls) (h0 : r.2 = 0) : r.1 = m := by
  rw [h.tree, List.eq_nil_of_length_eq_zero (h.count.symm.trans h0)]; rfl

theorem updAt_eq (kvs : Entries) (k0 : Str) :
    updAt key value subs kvs k0 = match lookup k0 kvs with
      | none => (kvs, 0)
      | some e =>
        (insert k0 (updEnd key value subs (hasSubKeys (.map kvs) subs) k0 e).1 kvs,
         (updEnd key value subs (hasSubKeys (.map kvs) subs) k0 e).2) := by
  -- a list is stored only if a member was replaced; otherwise it is the list there already
  have hzero : ∀ (c : Nat) (w e : Val), lookup k0 kvs = some e → (c = 0 → w = e) →
      (if c > 0 then insert k0 w kvs else kvs) = insert k0 w kvs := by
    intro c w e hl hw
    split
    · rfl
    · rw [hw (by omega), insert_of_lookup k0 e kvs hl]
  fun_cases updAt key value subs kvs k0 <;>
    simp only [*, updEnd, if_true, if_false, Bool.false_eq_true]
  -- (the cases are numbered in the order of the branches of `updAt` in Mxj.Model.Update)
  -- the list under `key` (sub-keys of the parent failing), or under another key, member by member
  case case3 xs _ xs' cs hr hl =>
    have hz := (realizes_replaceMembers (value := value) (subs := subs) xs).zero
    rw [hr] at hz
    rw [hzero _ _ _ hl hz]
  case case8 xs xs' cs hr hl =>
    have hz := (realizes_setInMembers (key := key) (value := value) (subs := subs) xs).zero
    rw [hr] at hz
    rw [hzero _ _ _ hl hz]
  -- nothing to store: the entry is put back as it is
  all_goals rw [insert_of_lookup _ _ _ ‹_›]

theorem updAt_zero (kvs : Entries) (k0 : Str)
    (h : (updAt key value subs kvs k0).2 = 0) : (updAt key value subs kvs k0).1 = kvs := by
  rw [updAt_eq] at h ⊢
  cases hl : lookup k0 kvs with
  | none => rfl
  | some e =>
    simp only [hl] at h ⊢
    rw [(realizes_updEnd _ _ _).zero h, insert_of_lookup k0 e kvs hl]

/-- one iteration of the `*` loop of `updateValue` -/
def updStep (key : Str) (value : Val) (subs : SubKeys) (acc : Entries × Nat) (k : Str) :
    Entries × Nat :=
  ((updAt key value subs acc.1 k).1, acc.2 + (updAt key value subs acc.1 k).2)

theorem updMap_star (kvs : Entries) :
    updMap key value subs kvs ['*'] = (keys kvs).foldl (updStep key value subs) (kvs, 0) := by
  simp only [updMap, if_true]
  rfl

theorem updMap_ne_star (kvs : Entries) (k0 : Str)
    (h : k0 ≠ ['*']) : updMap key value subs kvs k0 = updAt key value subs kvs k0 := by
  simp only [updMap, h, if_false]

/-- along the loop the count never goes down, and where it has not gone up nothing was stored -/
theorem updFold_zero : ∀ (l : List Str) (a : Entries) (c : Nat),
    c ≤ (l.foldl (updStep key value subs) (a, c)).2 ∧
      ((l.foldl (updStep key value subs) (a, c)).2 = c →
        (l.foldl (updStep key value subs) (a, c)).1 = a)
  | [], _, c => ⟨Nat.le_refl c, fun _ => rfl⟩
  | k :: l, a, c => by
    have ⟨hm, hz⟩ := updFold_zero l (updAt key value subs a k).1 (c + (updAt key value subs a k).2)
    simp only [List.foldl_cons, updStep]
    refine ⟨by omega, fun h => ?_⟩
    rw [hz (by omega), updAt_zero a k (by omega)]

theorem updMap_zero (kvs : Entries) (k0 : Str)
    (h : (updMap key value subs kvs k0).2 = 0) : (updMap key value subs kvs k0).1 = kvs := by
  by_cases hk : k0 = ['*']
  · subst hk
    rw [updMap_star] at h ⊢
    exact (updFold_zero _ kvs 0).2 h
  · rw [updMap_ne_star _ _ hk] at h ⊢
    exact updAt_zero kvs k0 h

/-! ### the query after the update (no sub-keys, path ends in the key) -/

theorem updEnd_self_true (e : Val) :
    updEnd key value subs true key e = (value, 1) := by
  cases e <;> simp [updEnd]

theorem query_last_entries (hnl : value.isList = false) (kvs : Entries) :
    (match lookup key (updAt key value [] kvs key).1 with
      | some v => loadLeaf none v
      | none => []) = List.replicate (updAt key value [] kvs key).2 value := by
  rw [updAt_eq]
  cases hl : lookup key kvs with
  | none => simp [hl]
  | some e =>
    simp only [hasSubKeys_nil, updEnd_self_true, lookup_insert_self,
      loadLeaf_none_notList value hnl]
    rfl

/-! ### the `*` loop of `updateValue` is an entry-wise map (on distinct keys) -/

/-- a stored value replaced by one that looks the same: every sub-key condition comes out as before -/
theorem hasSubKeys_insert_obs (a : Entries) (k : Str) (e e' : Val) (subs : SubKeys)
    (hl : lookup k a = some e) (ho : obs e' = obs e) :
    hasSubKeys (.map (insert k e' a)) subs = hasSubKeys (.map a) subs := by
  refine hasSubKeys_congr_obs (fun k' => ?_) subs
  by_cases hk : k' = k
  · rw [hk, lookup_insert_self, hl]; exact congrArg some ho
  · rw [lookup_insert_ne k' k e' hk]

theorem obs_updEnd (hs : Bool) (k0 : Str)
    (e : Val) (h : key ≠ k0) : obs (updEnd key value subs hs k0 e).1 = obs e := by
  fun_cases updEnd key value subs hs k0 e
  -- under another key a map stays a map, a list a list, anything else itself
  case case5 | case6 | case7 | case8 => rfl
  all_goals exact absurd ‹_› h

/-- the `*` loop with the entries `pre` done and `rest` still to do.  The model re-tests the
    parent's sub-keys at every iteration on the map rewritten so far; the test matters only for
    the entry named `key`, and as long as that entry is still ahead every entry rewritten so far
    has another key, so what the sub-keys can see of it (`obs`) is unchanged and the verdict is
    still the initial `hs`. -/
theorem updFold_eq (hs : Bool) :
    ∀ (rest pre : Entries) (c : Nat), (keys (pre ++ rest)).Nodup →
      (key ∈ keys rest → hasSubKeys (.map (pre ++ rest)) subs = hs) →
      (keys rest).foldl (updStep key value subs) (pre ++ rest, c) =
        (pre ++ rest.map (fun e => (e.1, (updEnd key value subs hs e.1 e.2).1)),
          c + (rest.map (fun e => (updEnd key value subs hs e.1 e.2).2)).sum)
  | [], pre, c, _, _ => by simp [keys]
  | (k, e) :: rest, pre, c, hnd, hhs => by
    obtain ⟨hlk, hins, hk'⟩ := lookup_insert_mid k e (updEnd key value subs hs k e).1 pre rest hnd
    have hX : updEnd key value subs (hasSubKeys (.map (pre ++ (k, e) :: rest)) subs) k e
        = updEnd key value subs hs k e := by
      by_cases hk : key = k
      · rw [hhs (by simp [keys, hk])]
      · simp only [updEnd, hk, if_false]
    have hstep : updStep key value subs (pre ++ (k, e) :: rest, c) k =
        ((pre ++ [(k, (updEnd key value subs hs k e).1)]) ++ rest,
          c + (updEnd key value subs hs k e).2) := by
      simp only [updStep, updAt_eq, hlk, hX, hins]
    simp only [keys, List.map_cons, List.foldl_cons]
    rw [hstep]
    have ih := updFold_eq hs rest (pre ++ [(k, (updEnd key value subs hs k e).1)])
      (c + (updEnd key value subs hs k e).2) (by simpa [keys] using hnd) ?_
    · simp only [keys] at ih
      rw [ih]
      simp [Nat.add_assoc]
    · intro hm
      have hk : key ≠ k := fun h => hk' (h ▸ hm)
      rw [← hins, hasSubKeys_insert_obs _ k e _ subs hlk (obs_updEnd hs k e hk)]
      exact hhs (by simp only [keys, List.map_cons]; exact List.mem_cons_of_mem _ hm)

theorem updMap_star_eq (kvs : Entries)
    (hd : distinctKeys kvs = true) :
    updMap key value subs kvs ['*'] =
      (kvs.map (fun e => (e.1, (updEnd key value subs (hasSubKeys (.map kvs) subs) e.1 e.2).1)),
       (kvs.map (fun e => (updEnd key value subs (hasSubKeys (.map kvs) subs) e.1 e.2).2)).sum) := by
  rw [updMap_star]
  simpa using updFold_eq (key := key) (value := value) (subs := subs) _ kvs [] 0
    ((distinctKeys_iff_nodup kvs).1 hd) (fun _ => rfl)

theorem realizes_updMap (kvs : Entries) (k0 : Str)
    (hd : distinctKeys kvs = true) :
    Realizes value (.map kvs)
      (.map (updMap key value subs kvs k0).1, (updMap key value subs kvs k0).2)
      (updMapLoci key subs kvs k0) := by
  unfold updMapLoci
  by_cases hk : k0 = ['*']
  · subst hk
    simp only [if_true, updMap_star_eq kvs hd]
    exact Realizes.entries value
      (fun k e => updEnd key value subs (hasSubKeys (.map kvs) subs) k e) _ kvs hd
      (fun e _ => realizes_updEnd _ e.1 e.2)
  · simp only [hk, if_false, updMap_ne_star _ _ hk, updAt_eq]
    cases hl : lookup k0 kvs with
    | none => exact Realizes.nil
    | some e => exact Realizes.atKey k0 kvs hl (realizes_updEnd _ k0 e)

/-! ### every written locus is an entry named `key`, or a member of the list stored there -/

/-- the location is `… .key` or `… .key[i]` -/
def underKey (key : Str) (l : List Seg) : Prop :=
  (∃ pre, l = pre ++ [Seg.key key]) ∨ (∃ pre i, l = pre ++ [Seg.key key, Seg.idx i])

theorem underKey_cons (s : Seg) (l : List Seg) (h : underKey key l) :
    underKey key (s :: l) := by
  rcases h with ⟨pre, rfl⟩ | ⟨pre, i, rfl⟩
  · exact Or.inl ⟨s :: pre, rfl⟩
  · exact Or.inr ⟨s :: pre, i, rfl⟩

theorem underKey_lociList (f : Val → List (List Seg)) (xs : List Val) (n : Nat)
    (h : ∀ x ∈ xs, ∀ l ∈ f x, underKey key l) : ∀ l ∈ lociList f n xs, underKey key l :=
  forall_mem_lociList f xs n fun p hp l hl =>
    underKey_cons _ _ (h p.1 (List.fst_mem_of_mem_zipIdx hp) l hl)

theorem underKey_updEndLoci (hs : Bool) (k0 : Str) (e : Val) :
    ∀ l ∈ updEndLoci key subs hs k0 e, underKey key (Seg.key k0 :: l) := by
  have hroot : underKey key [Seg.key key] := Or.inl ⟨[], rfl⟩
  fun_cases updEndLoci key subs hs k0 e
  -- `k0 = key`: the entry itself …
  case case1 hk _ _ => subst hk; simpa using hroot
  case case3 hk _ _ => subst hk; simpa using hroot
  -- … or members of the list stored there
  case case2 hk xs _ =>
    subst hk
    refine forall_mem_lociList _ xs 0 fun p _ l' hl' => ?_
    split at hl'
    · cases List.mem_singleton.1 hl'; exact Or.inr ⟨[], _, rfl⟩
    · cases hl'
  -- `k0 ≠ key`: the entry `key` of the map stored under `k0` …
  case case5 => simpa using underKey_cons _ _ hroot
  -- … or of the map members of the list stored there
  case case7 _ xs =>
    refine fun l hl => underKey_cons _ _ (underKey_lociList _ xs 0 (fun x _ l' hl' => ?_) l hl)
    split at hl'
    · split at hl'
      · cases List.mem_singleton.1 hl'; exact hroot
      · cases hl'
    · cases hl'
  -- nothing written
  all_goals nofun

theorem underKey_updMapLoci (kvs : Entries) (k0 : Str) :
    ∀ l ∈ updMapLoci key subs kvs k0, underKey key l := by
  fun_cases updMapLoci key subs kvs k0
  -- `*`: every entry; a key that is missing; a key that is there
  case case1 => exact forall_mem_lociEntries _ kvs fun e _ => underKey_updEndLoci _ e.1 e.2
  case case2 => nofun
  case case3 e _ => exact List.forall_mem_map.2 (underKey_updEndLoci _ k0 e)

/-! ### the count in terms of the nodes the path addresses (last path key ≠ the new key) -/

/-- a node that gets its `key` entry replaced: a map holding `key` and satisfying the sub-keys -/
def holds (key : Str) (subs : SubKeys) : Val → Bool
  | .map vv => (lookup key vv).isSome && hasSubKeys (.map vv) subs
  | _ => false

theorem setInMembers_count (xs : List Val) :
    (setInMembers key value subs xs).2 = (xs.filter (holds key subs)).length := by
  unfold setInMembers
  rw [mapCount_eq]
  refine (sum_eq_length_filter_flatMap _ (fun x => [x]) (holds key subs) xs ?_).trans (by simp)
  intro x _
  cases x with
  | map vv =>
    by_cases hc : ((lookup key vv).isSome && hasSubKeys (Val.map vv) subs) = true
    · simp [hc, holds]
    · simp [hc, holds]
  | _ => simp [holds]

theorem count_last_entries (k0 : Str)
    (hne : key ≠ k0) (kvs : Entries) :
    (updAt key value subs kvs k0).2 =
      ((match lookup k0 kvs with
        | some v => loadLeaf none v
        | none => []).filter (holds key subs)).length := by
  rw [updAt_eq]
  cases hl : lookup k0 kvs with
  | none => rfl
  | some e =>
    simp only [updEnd, hne, if_false, loadLeaf_none]
    cases e with
    | map ekvs =>
      -- for a map under another key `updateValue` tests the sub-keys first, `holds` the key first
      have hc : holds key subs (.map ekvs)
          = (hasSubKeys (.map ekvs) subs && (lookup key ekvs).isSome) := Bool.and_comm ..
      simp only [Denote.expand, List.filter_cons, hc]
      split <;> rfl
    | list xs => exact setInMembers_count xs
    | _ => rfl

/-! ### what one level of `updPath` can do -/

variable (key value subs) in
/-- `Upd ks m r ls`: along `ks` the node `m` becomes `r.1` with `r.2` replacements, written at
    `ls`.  One rule per way a level of `updateValuesForKeyPath` can go; the last key on a map is
    left to `updMap`. -/
inductive Upd : List Str → Val → Val × Nat → List (List Seg) → Prop
  | nil : Upd [] m (m, 0) []
  | last : Upd [k0] (.map kvs)
      (.map (updMap key value subs kvs k0).1, (updMap key value subs kvs k0).2)
      (updMapLoci key subs kvs k0)
  | scalar : m.isMap = false → m.isList = false → Upd (k :: ks) m (m, 0) []
  | missing : k ≠ ['*'] → lookup k kvs = none → Upd (k :: k' :: ks) (.map kvs) (.map kvs, 0) []
  | atKey : k ≠ ['*'] → lookup k kvs = some v → Upd (k' :: ks) v r ls →
      Upd (k :: k' :: ks) (.map kvs) (.map (insert k r.1 kvs), r.2) (ls.map (Seg.key k :: ·))
  | star {F : Val → Val × Nat} {G : Val → List (List Seg)} :
      (∀ e ∈ kvs, Upd (k' :: ks) e.2 (F e.2) (G e.2)) →
      Upd (['*'] :: k' :: ks) (.map kvs)
        (.map (kvs.map fun e => (e.1, (F e.2).1)), (kvs.map fun e => (F e.2).2).sum)
        (lociEntries (fun _ v => G v) kvs)
  /-- a list stands for its members, at the last key too: a member that is a map is treated as
      that map would be; another member is entered under `*` and left alone under a plain key -/
  | list {F : Val → Val × Nat} {G : Val → List (List Seg)} :
      (∀ kvs, .map kvs ∈ xs → Upd (k :: ks) (.map kvs) (F (.map kvs)) (G (.map kvs))) →
      (k = ['*'] → ∀ x ∈ xs, x.isMap = false → Upd ks x (F x) (G x)) →
      (k ≠ ['*'] → ∀ x ∈ xs, x.isMap = false → F x = (x, 0) ∧ G x = []) →
      Upd (k :: ks) (.list xs) (.list (xs.map fun x => (F x).1), (xs.map fun x => (F x).2).sum)
        (lociList G 0 xs)

/-- the model and its ghost satisfy the relation: the one place where they are unfolded -/
theorem upd_updPath : ∀ (ks : List Str) (m : Val),
    Upd key value subs ks m (updPath key value subs m ks) (updPathLoci key subs m ks)
  | [], m => by simp only [updPath, updPathLoci]; exact .nil
  | [k0], m => by
    simp only [updPath, updPathLoci]
    cases m with
    | map kvs => exact .last
    | list xs =>
      simp only [updValue, mapCount_eq]
      refine .list (fun _ _ => .last) (fun _ x _ hx => ?_) (fun _ x _ hx => ?_)
      -- a member that is no map: entered under `*`, with nothing left of the path; left alone
      -- under a plain key
      · cases x <;> first | exact Bool.noConfusion hx | exact .nil
      · cases x <;> first | exact Bool.noConfusion hx | exact ⟨rfl, rfl⟩
    | _ => exact .scalar rfl rfl
  | k :: k' :: ks, m => by
    have ih := upd_updPath (k' :: ks)
    -- the map case first: the list case hands its map members to it
    have hmap : ∀ kvs : Entries, Upd key value subs (k :: k' :: ks) (.map kvs)
        (updPath key value subs (.map kvs) (k :: k' :: ks))
        (updPathLoci key subs (.map kvs) (k :: k' :: ks)) := by
      intro kvs
      by_cases hk : k = ['*']
      · subst hk
        simp only [updPath, updPathLoci, if_true, mapEntriesCount_eq]
        exact .star (F := fun v => updPath key value subs v (k' :: ks)) fun e _ => ih e.2
      · simp only [updPath, updPathLoci, hk, if_false]
        cases hl : lookup k kvs with
        | none => exact .missing hk hl
        | some v => exact .atKey hk hl (ih v)
    cases m with
    | map kvs => exact hmap kvs
    | list xs =>
      by_cases hk : k = ['*']
      · subst hk
        simp only [updPath, updPathLoci, if_true, mapCount_eq]
        refine .list (fun kvs _ => ?_) (fun _ x _ hx => ?_) (fun h => absurd rfl h)
        · simpa only [updPath, updPathLoci, if_true] using hmap kvs
        · cases x <;> first | exact Bool.noConfusion hx | exact ih _
      · simp only [updPath, updPathLoci, hk, if_false, mapCount_eq]
        refine .list (fun kvs _ => ?_) (fun h => absurd h hk) (fun _ x _ hx => ?_)
        · simpa only [updPath, updPathLoci, hk, if_false] using hmap kvs
        · cases x <;> first | exact Bool.noConfusion hx | exact ⟨rfl, rfl⟩
    | _ => simp only [updPath, updPathLoci, ite_self]; exact .scalar rfl rfl

section UpdFacts
variable {ks : List Str} {m : Val} {r : Val × Nat} {ls : List (List Seg)}

theorem Upd.zero (h : Upd key value subs ks m r ls) : r.2 = 0 → r.1 = m := by
  induction h with
  | nil | scalar | missing => exact fun _ => rfl
  | last => exact fun h => by rw [updMap_zero _ _ h]
  | atKey _ hl _ ih => exact fun h => by rw [ih h, insert_of_lookup _ _ _ hl]
  | star _ ih =>
    exact fun h => by rw [map_eq_self_of_sum_zero _ _ _ (fun e he h0 => by rw [ih e he h0]) h]
  | @list xs k _ F _ _ _ hkey ihm ihs =>
    intro h
    simp only at h ⊢
    rw [map_eq_self_of_sum_zero _ _ xs ?_ h]
    intro x hx
    cases x with
    | map kvs => exact ihm kvs hx
    | _ =>
      by_cases hk : k = ['*']
      · exact ihs hk _ hx rfl
      · rw [(hkey hk _ hx rfl).1]; exact fun _ => rfl

theorem Upd.isMap (h : Upd key value subs ks m r ls) : r.1.isMap = m.isMap := by
  cases h <;> rfl

theorem Upd.underKey (h : Upd key value subs ks m r ls) : ∀ l ∈ ls, underKey key l := by
  induction h with
  | nil | scalar | missing => simp
  | last => exact underKey_updMapLoci _ _
  | atKey _ _ _ ih => exact List.forall_mem_map.2 fun l hl => underKey_cons _ _ (ih l hl)
  | star _ ih =>
    exact forall_mem_lociEntries _ _ fun e he l hl => underKey_cons _ _ (ih e he l hl)
  | @list xs k _ _ G _ _ hkey ihm ihs =>
    refine underKey_lociList G xs 0 fun x hx => ?_
    cases x with
    | map kvs => exact ihm kvs hx
    | _ =>
      by_cases hk : k = ['*']
      · exact ihs hk _ hx rfl
      · rw [(hkey hk _ hx rfl).2]; simp

/-- on a well-formed node the result is the node with `value` written at exactly the loci -/
theorem Upd.realizes (h : Upd key value subs ks m r ls) : m.wf = true → Realizes value m r ls := by
  induction h with
  | nil | scalar | missing => exact fun _ => Realizes.nil
  | last => exact fun hw => realizes_updMap _ _ ((Val.wf_map _).1 hw).2
  | atKey _ hl _ ih => exact fun hw => Realizes.atKey _ _ hl (ih (hered_wf.lookup hw hl))
  | @star kvs _ _ F G _ ih =>
    exact fun hw => Realizes.entries value (fun _ v => F v) _ kvs ((Val.wf_map kvs).1 hw).2
      fun e he => ih e he (hered_wf.map hw e he)
  | @list xs k _ F G _ _ hkey ihm ihs =>
    intro hw
    refine Realizes.list value F G xs fun x hx => ?_
    have hwx := hered_wf.list hw x hx
    cases x with
    | map kvs => exact ihm kvs hx hwx
    | _ =>
      by_cases hk : k = ['*']
      · exact ihs hk _ hx rfl hwx
      · rw [(hkey hk _ hx rfl).1, (hkey hk _ hx rfl).2]; exact Realizes.nil

/-- last path key a plain key other than `key`: the count is the number of nodes the path
    addresses that hold `key` and satisfy the sub-keys -/
theorem Upd.count (h : Upd key value subs ks m r ls) (k0 : Str) (hk0 : k0 ≠ ['*'])
    (hne : key ≠ k0) :
    ks.getLast? = some k0 → r.2 = ((walk none m ks).filter (holds key subs)).length := by
  induction h with
  | nil => simp
  | last =>
    intro h
    simp only [List.getLast?_singleton, Option.some.injEq] at h
    subst h
    simp only [updMap_ne_star _ _ hk0, walk, hk0, if_false]
    exact count_last_entries _ hne _
  | scalar hm hl => intro _; rw [walk_scalar none _ _ (by simp) hm hl]; rfl
  | missing hk hl => intro _; simp [walk, hk, hl]
  | atKey hk hl _ ih =>
    intro h
    simp only [walk, hk, if_false, hl]
    exact ih (by simpa using h)
  | @star _ k' ks F _ _ ih =>
    intro h
    simp only [walk, if_true]
    exact sum_eq_length_filter_flatMap _ (fun e => walk none e.2 (k' :: ks)) _ _
      fun e he => ih e he (by simpa using h)
  | @list xs k ks F _ _ _ hkey ihm ihs =>
    intro h
    -- under `*` the key list goes on (the last key is `k0 ≠ *`)
    have hks : k = ['*'] → ks.getLast? = some k0 := by
      intro hk; cases ks with
      | nil => exact absurd (hk ▸ Option.some.inj h).symm hk0
      | cons _ _ => simpa using h
    rw [walk_list]
    refine sum_eq_length_filter_flatMap _ _ _ xs fun x hx => ?_
    cases x with
    | map kvs => exact ihm kvs hx h
    | _ =>
      rw [if_neg Bool.noConfusion]
      by_cases hk : k = ['*']
      · rw [if_pos hk]; exact ihs hk _ hx rfl (hks hk)
      · rw [(hkey hk _ hx rfl).1, if_neg hk]; rfl

/-- no sub-keys, path ending in `key`: the query afterwards yields count copies of the value -/
theorem Upd.query (hkey : key ≠ ['*']) (hnl : value.isList = false)
    (h : Upd key value [] ks m r ls) :
    ks.getLast? = some key → walk none r.1 ks = List.replicate r.2 value := by
  induction h with
  | nil => simp
  | last =>
    intro h
    simp only [List.getLast?_singleton, Option.some.injEq] at h
    subst h
    simp only [updMap_ne_star _ _ hkey, walk, hkey, if_false]
    exact query_last_entries hnl _
  | scalar hm hl => intro _; rw [walk_scalar none _ _ (by simp) hm hl]; rfl
  | missing hk hl => intro _; simp [walk, hk, hl]
  | atKey hk _ _ ih =>
    intro h
    simp only [walk, hk, if_false, lookup_insert_self]
    exact ih (by simpa using h)
  | @star _ k' ks F _ _ ih =>
    intro h
    simp only [walk, if_true]
    rw [List.flatMap_map]
    exact flatMap_replicate_sum value _ _ _
      fun e he => ih e he (by simpa using h)
  | @list xs k ks F _ hmap hstar hkey' ihm ihs =>
    intro h
    have hks : k = ['*'] → ks.getLast? = some key := by
      intro hk; cases ks with
      | nil => exact absurd (hk ▸ Option.some.inj h).symm hkey
      | cons _ _ => simpa using h
    rw [walk_list]
    rw [List.flatMap_map]
    refine flatMap_replicate_sum value _ _ xs fun x hx => ?_
    -- `walk` tests the NEW member: a map member stays a map, another member stays none
    cases x with
    | map kvs =>
      have him : (F (.map kvs)).1.isMap = true := (hmap kvs hx).isMap
      rw [if_pos him]
      exact ihm kvs hx h
    | _ =>
      by_cases hk : k = ['*']
      · rw [(hstar hk _ hx rfl).isMap, if_neg Bool.noConfusion, if_pos hk]
        exact ihs hk _ hx rfl (hks hk)
      · rw [(hkey' hk _ hx rfl).1, if_neg Bool.noConfusion, if_neg hk]; rfl

end UpdFacts

end

end Mxj.Upd
