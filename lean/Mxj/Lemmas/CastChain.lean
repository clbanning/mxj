/-
  Mxj.Lemmas.CastChain — the decision chain of `cast`: the three guards (skip-tag, cast flag,
  NaN/Inf word), then int, uint, float with the special-value guard, bool behind its screen; its
  results are `Dec.scalar` (a string, a number or a boolean).
-/
import Mxj.Model.Decode
namespace Mxj
variable (S : Strconv) (c : CastCfg)
/-- the skip-tag test (`checkTagToSkip != nil && t != "" && checkTagToSkip(t)`) -/
def castSkipped (c : CastCfg) (t : Str) : Bool := c.skipSet && !t.isEmpty && c.skip.contains t

def boolScreen (s : Str) : Bool :=
  !s.isEmpty && s.length < 6
    && (s.head? = some 't' || s.head? = some 'T' || s.head? = some 'f' || s.head? = some 'F')

def castChain (S : Strconv) (c : CastCfg) (s : Str) : Val :=
  let asInt : Option Val :=
    if c.toInt then
      match S.parseInt s with
      | some t => some (.num t)
      | none => (S.parseUint s).map Val.num
    else none
  match asInt with
  | some v => v
  | none =>
    let asFloat : Option (Option Val) :=
      if c.toFloat then
        match S.parseFloat s with
        | some (t, special) => if !c.nanInf && special then some none else some (some (.num t))
        | none => none
      else none
    match asFloat with
    | some (some v) => v
    | some none => .str s
    | none =>
      if c.toBool && boolScreen s then
        match parseBool s with
        | some b => .bool b
        | none => .str s
      else .str s

theorem cast_eq (s t : Str) :
    cast S c s t =
      if castSkipped c t then .str s
      else if !c.r then .str s
      else if !c.nanInf && isNanInfWord S s then .str s
      else castChain S c s := by
  unfold cast castChain castSkipped boolScreen
  simp only [Bool.and_assoc]
  rfl

theorem cast_off (s t : Str) (h : c.r = false) :
    cast S c s t = .str s := by
  rw [cast_eq, h]; cases castSkipped c t <;> rfl

theorem cast_eq_chain (s t : Str)
    (hs : castSkipped c t = false) (hr : c.r = true)
    (hg : (!c.nanInf && isNanInfWord S s) = false) : cast S c s t = castChain S c s := by
  rw [cast_eq, hs, hr, hg]; rfl

theorem cast_ne_str_guards (s t : Str) (h : cast S c s t ≠ .str s) :
    castSkipped c t = false ∧ c.r = true ∧ (!c.nanInf && isNanInfWord S s) = false ∧
      cast S c s t = castChain S c s := by
  rw [cast_eq] at h
  cases hs : castSkipped c t with
  | true => simp [hs] at h
  | false =>
    cases hr : c.r with
    | false => simp [hs, hr] at h
    | true =>
      cases hg : (!c.nanInf && isNanInfWord S s) with
      | true => simp [hs, hr, hg] at h
      | false => exact ⟨rfl, rfl, rfl, cast_eq_chain S c s t hs hr hg⟩

theorem castChain_int (s x : Str)
    (hi : c.toInt = true) (hp : S.parseInt s = some x) : castChain S c s = .num x := by
  simp [castChain, hi, hp]

theorem castChain_uint (s x : Str)
    (hi : c.toInt = true) (hp : S.parseInt s = none) (hu : S.parseUint s = some x) :
    castChain S c s = .num x := by
  simp [castChain, hi, hp, hu]

def noInt (S : Strconv) (c : CastCfg) (s : Str) : Prop :=
  c.toInt = false ∨ (S.parseInt s = none ∧ S.parseUint s = none)

theorem castChain_float (s x : Str) (sp : Bool)
    (hi : noInt S c s) (hf : c.toFloat = true) (hp : S.parseFloat s = some (x, sp))
    (hsp : c.nanInf = true ∨ sp = false) : castChain S c s = .num x := by
  rcases hi with hi | ⟨h1, h2⟩ <;> rcases hsp with h | h <;> simp [castChain, *]

theorem castChain_float_special (s x : Str)
    (hi : noInt S c s) (hf : c.toFloat = true) (hp : S.parseFloat s = some (x, true))
    (hn : c.nanInf = false) : castChain S c s = .str s := by
  rcases hi with hi | ⟨h1, h2⟩ <;> simp [castChain, *]

def noFloat (S : Strconv) (c : CastCfg) (s : Str) : Prop :=
  c.toFloat = false ∨ S.parseFloat s = none

theorem castChain_bool (s : Str) (b : Bool)
    (hi : noInt S c s) (hf : noFloat S c s) (hb : c.toBool = true) (hscr : boolScreen s = true)
    (hp : parseBool s = some b) : castChain S c s = .bool b := by
  rcases hi with hi | ⟨h1, h2⟩ <;> rcases hf with hf | hf <;> simp [castChain, *]

theorem castChain_str (s : Str)
    (hi : noInt S c s) (hf : noFloat S c s)
    (hb : c.toBool = false ∨ boolScreen s = false ∨ parseBool s = none) :
    castChain S c s = .str s := by
  rcases hi with hi | ⟨h1, h2⟩ <;> rcases hf with hf | hf <;> rcases hb with hb | hb | hb <;>
    simp [castChain, *]

/-- the chain by cases: a number from an integer parser; a number from ParseFloat let through by
    the special-value guard; a boolean from ParseBool; otherwise the string itself (what is
    recorded with each case is what the theorems about numeric and boolean results need) -/
theorem castChain_cases (s : Str) :
    (∃ x, castChain S c s = .num x ∧ c.toInt = true ∧
      (S.parseInt s = some x ∨ (S.parseInt s = none ∧ S.parseUint s = some x))) ∨
    (∃ x sp, castChain S c s = .num x ∧ noInt S c s ∧ c.toFloat = true ∧
      S.parseFloat s = some (x, sp) ∧ (c.nanInf = true ∨ sp = false)) ∨
    (∃ b, castChain S c s = .bool b ∧ c.toBool = true ∧ parseBool s = some b) ∨
    castChain S c s = .str s := by
  fun_cases castChain S c s with
  | case1 asInt v h =>                      -- an integer parser answered
    obtain ⟨hi, h⟩ := Option.ite_none_right_eq_some.1 h
    split at h
    next x hp => cases h; exact .inl ⟨x, rfl, hi, .inl hp⟩
    next hp =>
      obtain ⟨x, hu, rfl⟩ := Option.map_eq_some_iff.1 h
      exact .inl ⟨x, rfl, hi, .inr ⟨hp, hu⟩⟩
  | case2 asInt hI asFloat v h =>           -- none did; ParseFloat answered and the guard let it through
    have hi : noInt S c s := by
      by_cases hi : c.toInt = true
      · rw [show asInt = _ from if_pos hi] at hI
        split at hI
        · cases hI
        next hp => exact .inr ⟨hp, Option.map_eq_none_iff.1 hI⟩
      · exact .inl (by simpa using hi)
    obtain ⟨hf, h⟩ := Option.ite_none_right_eq_some.1 h
    split at h
    next x sp hp =>
      split at h
      · cases h
      next hg => cases h; exact .inr (.inl ⟨x, sp, rfl, hi, hf, hp, by revert hg; cases c.nanInf <;> simp⟩)
    next => cases h
  | case4 _ _ _ _ hb b hp =>                -- ParseBool answered
    exact .inr (.inr (.inl ⟨b, rfl, (Bool.and_eq_true_iff.1 hb).1, hp⟩))
  | _ => exact .inr (.inr (.inr rfl))       -- every other branch returns the string

theorem castChain_result (s : Str) :
    castChain S c s = .str s ∨ (∃ x, castChain S c s = .num x) ∨ (∃ b, castChain S c s = .bool b) := by
  rcases castChain_cases S c s with ⟨x, h, _⟩ | ⟨x, _, h, _⟩ | ⟨b, h, _⟩ | h
  · exact .inr (.inl ⟨x, h⟩)
  · exact .inr (.inl ⟨x, h⟩)
  · exact .inr (.inr ⟨b, h⟩)
  · exact .inl h

theorem cast_result (s t : Str) :
    cast S c s t = .str s ∨ (∃ x, cast S c s t = .num x) ∨ (∃ b, cast S c s t = .bool b) := by
  by_cases h : cast S c s t = .str s
  · exact .inl h
  · rw [(cast_ne_str_guards S c s t h).2.2.2]
    exact castChain_result S c s

namespace Dec

def scalar : Val → Bool
  | .str _ | .num _ | .bool _ => true
  | _ => false

theorem cast_scalar (s t : Str) : scalar (cast S c s t) = true := by
  rcases cast_result S c s t with h | ⟨x, h⟩ | ⟨b, h⟩ <;> rw [h] <;> rfl

theorem scalar_leaf {v : Val} (h : scalar v = true) : v.isList = false ∧ v.isMap = false := by
  cases v with
  | null | list _ | map _ => cases h
  | bool _ | num _ | str _ => exact ⟨rfl, rfl⟩

end Dec
end Mxj
