/-
  Mxj.Lemmas.DecEq — decidable equality for the result types of the model that do not derive it, so
  that the concrete test vectors of the property files can be evaluated by the kernel.
-/
import Mxj.Model.Conv
import Mxj.Model.Seq

deriving instance DecidableEq for Except

namespace Mxj

deriving instance DecidableEq for Outcome, SeqTop

mutual
def Node.beq : Node → Node → Bool
  | .elem s n as ks, .elem s' n' as' ks' => s == s' && n == n' && as == as' && Node.beqList ks ks'
  | .text s, .text s' => s == s'
  | .comment s, .comment s' => s == s'
  | .procinst t i, .procinst t' i' => t == t' && i == i'
  | .directive s, .directive s' => s == s'
  | _, _ => false
def Node.beqList : List Node → List Node → Bool
  | [], [] => true
  | x :: xs, y :: ys => Node.beq x y && Node.beqList xs ys
  | _, _ => false
end

mutual
theorem Node.beq_iff : ∀ (a b : Node), Node.beq a b = true ↔ a = b
  | .elem s n as ks, b => by
      cases b with
      | elem _ _ _ ks' => simp [Node.beq, and_assoc, Node.beqList_iff ks ks']
      | _ => simp [Node.beq]
  | .text s, b => by cases b <;> simp [Node.beq]
  | .comment s, b => by cases b <;> simp [Node.beq]
  | .procinst t i, b => by cases b <;> simp [Node.beq]
  | .directive s, b => by cases b <;> simp [Node.beq]
theorem Node.beqList_iff : ∀ (a b : List Node), Node.beqList a b = true ↔ a = b
  | [], b => by cases b <;> simp [Node.beqList]
  | x :: xs, b => by
      cases b with
      | nil => simp [Node.beqList]
      | cons y ys => simp [Node.beqList, Node.beq_iff x y, Node.beqList_iff xs ys]
end

instance : DecidableEq Node := fun a b =>
  decidable_of_iff _ (Node.beq_iff a b)

end Mxj
