/-
  Mxj.Lemmas.EscDec1 — decoder-side escaping (`XMLEscapeCharsDecoder`), the decoder: with the
  cast flag off, the conventions with the switch on give the Map of the conventions with it off
  with `escapeChars` applied to every string leaf (`mapLeaves`), for EVERY tree and every other
  option; the C01 domain is the same on both sides; `mapLeaves` commutes with `Val.norm`.
-/
import Mxj.Lemmas.EncodeSym
import Mxj.Lemmas.CastChain
namespace Mxj.EscDec
open Mxj Mxj.Enc Mxj.EncSym

mutual
/-- apply `f` to every string leaf (text and attribute values alike; keys, numbers, booleans and
    nil are left alone) -/
def mapLeaves (f : Str → Str) : Val → Val
  | .str s => .str (f s)
  | .list xs => .list (mapLeavesList f xs)
  | .map kvs => .map (mapLeavesEntries f kvs)
  | .null => .null
  | .bool b => .bool b
  | .num t => .num t
def mapLeavesList (f : Str → Str) : List Val → List Val
  | [] => []
  | x :: xs => mapLeaves f x :: mapLeavesList f xs
def mapLeavesEntries (f : Str → Str) : Entries → Entries
  | [] => []
  | (k, v) :: rest => (k, mapLeaves f v) :: mapLeavesEntries f rest
end

def mapPair (f : Str → Str) (e : Str × Val) : Str × Val := (e.1, mapLeaves f e.2)

theorem mapLeavesList_eq (f : Str → Str) : ∀ (xs : List Val),
    mapLeavesList f xs = xs.map (mapLeaves f)
  | [] => rfl
  | x :: xs => by simp only [mapLeavesList, List.map_cons, mapLeavesList_eq f xs]

theorem mapLeavesEntries_eq (f : Str → Str) : ∀ (kvs : Entries),
    mapLeavesEntries f kvs = kvs.map (mapPair f)
  | [] => rfl
  | (k, v) :: rest => by
      simp only [mapLeavesEntries, List.map_cons, mapLeavesEntries_eq f rest, mapPair]

theorem mapLeaves_str (f : Str → Str) (s : Str) : mapLeaves f (.str s) = .str (f s) := rfl
theorem mapLeaves_num (f : Str → Str) (t : Str) : mapLeaves f (.num t) = .num t := rfl
theorem mapLeaves_list (f : Str → Str) (xs : List Val) :
    mapLeaves f (.list xs) = .list (mapLeavesList f xs) := rfl
theorem mapLeaves_map (f : Str → Str) (kvs : Entries) :
    mapLeaves f (.map kvs) = .map (mapLeavesEntries f kvs) := rfl

theorem isList_mapLeaves (f : Str → Str) (v : Val) : (mapLeaves f v).isList = v.isList := by
  cases v <;> rfl

theorem lookup_mapLeaves (f : Str → Str) (k : Str) (kvs : Entries) :
    lookup k (mapLeavesEntries f kvs) = (lookup k kvs).map (mapLeaves f) := by
  fun_induction lookup k kvs <;> simp [mapLeavesEntries, lookup, *]

theorem insert_mapLeaves (f : Str → Str) (k : Str) (v : Val) (kvs : Entries) :
    insert k (mapLeaves f v) (mapLeavesEntries f kvs) = mapLeavesEntries f (insert k v kvs) := by
  fun_induction insert k v kvs <;> simp [mapLeavesEntries, insert, *]

theorem isEmpty_mapLeavesEntries (f : Str → Str) (kvs : Entries) :
    (mapLeavesEntries f kvs).isEmpty = kvs.isEmpty := by
  cases kvs with
  | nil => rfl
  | cons e r => obtain ⟨k, v⟩ := e; rfl

theorem keys_mapLeavesEntries (f : Str → Str) : ∀ (kvs : Entries),
    keys (mapLeavesEntries f kvs) = keys kvs
  | [] => rfl
  | (k, v) :: rest => by
      simp only [mapLeavesEntries, keys_cons, keys_mapLeavesEntries f rest]

/-- the same conventions with decoder-side escaping on (`d`) and off (`d0`); cast flag off -/
structure EscPair (d d0 : DecCfg) : Prop where
  pfx : d.attrPrefix = d0.attrPrefix
  lc : d.lowerCase = d0.lowerCase
  sn : d.snake = d0.snake
  asMap : d.asMap = d0.asMap
  seq : d.seqNum = d0.seqNum
  ks : d.keepSpace = d0.keepSpace
  txt : d.textK = d0.textK
  esc : d.escDec = true
  esc0 : d0.escDec = false
  cast : d.cast.r = false
  cast0 : d0.cast.r = false

/-- the plain counterpart of a configuration: decoder-side escaping off, cast off -/
def plainOf (d : DecCfg) : DecCfg := { d with escDec := false, cast := {} }

theorem EscPair_plainOf (d : DecCfg) (hesc : d.escDec = true) (hc : d.cast.r = false) :
    EscPair d (plainOf d) :=
  ⟨rfl, rfl, rfl, rfl, rfl, rfl, rfl, hesc, rfl, hc, rfl⟩

theorem EscPair_switch (d : DecCfg) (hesc : d.escDec = true) (hc : d.cast.r = false) :
    EscPair d { d with escDec := false } :=
  ⟨rfl, rfl, rfl, rfl, rfl, rfl, rfl, hesc, rfl, hc, hc⟩

theorem elemKey_pair {d d0 : DecCfg} (h : EscPair d d0) (S : Strconv) (n : Str) :
    elemKey d S n = elemKey d0 S n := by
  unfold elemKey; rw [h.lc, h.sn]

theorem attrKey_pair {d d0 : DecCfg} (h : EscPair d d0) (S : Strconv) (n : Str) :
    attrKey d S n = attrKey d0 S n := by
  unfold attrKey; rw [h.lc, h.sn, h.pfx]

theorem trimSet_pair {d d0 : DecCfg} (h : EscPair d d0) : trimSet d = trimSet d0 := by
  unfold trimSet; rw [h.ks]

theorem textOf_pair {d d0 : DecCfg} (h : EscPair d d0) (s : Str) :
    Conv.textOf d s = escapeChars (Conv.textOf d0 s) := by
  unfold Conv.textOf escDecIf
  rw [trimSet_pair h]
  simp [h.esc, h.esc0]

theorem loadAttrs_pair {d d0 : DecCfg} (h : EscPair d d0) (S : Strconv) (attrs : List Attr) :
    loadAttrs d S attrs = mapLeavesEntries escapeChars (loadAttrs d0 S attrs) :=
  List.foldl_hom (mapLeavesEntries escapeChars) (init := []) fun acc a => by
    simp only [cast_off S _ _ _ h.cast, cast_off S _ _ _ h.cast0, attrKey_pair h, ← insert_mapLeaves,
      mapLeaves, escDecIf, h.esc, h.esc0, if_true, Bool.false_eq_true, if_false]

theorem seqDecorate_pair {d d0 : DecCfg} (h : EscPair d d0) (f : Str → Str) (seq : Nat) (v : Val) :
    seqDecorate d seq (mapLeaves f v)
      = (mapLeaves f (seqDecorate d0 seq v).1, (seqDecorate d0 seq v).2) := by
  unfold seqDecorate
  rw [h.seq, h.txt]
  cases d0.seqNum
  · rfl
  · cases v with
    | list _ | null => rfl
    | _ =>
      simp only [mapLeaves, Bool.not_true, Bool.false_eq_true, if_false, ← insert_mapLeaves,
        mapLeavesEntries]

theorem collect_mapLeaves (f : Str → Str) (old : Option Val) (vs : List Val) :
    Conv.collect (old.map (mapLeaves f)) (vs.map (mapLeaves f))
      = (Conv.collect old vs).map (mapLeaves f) := by
  cases old with
  | none =>
    match vs with
    | [] => rfl
    | [v] => rfl
    | v :: w :: r =>
      simp only [Option.map_none, List.map_cons, Conv.collect, Option.map_some, mapLeaves,
        mapLeavesList_eq]
  | some o =>
    match vs with
    | [] => rfl
    | v :: r =>
      cases o <;>
        simp only [Option.map_some, List.map_cons, Conv.collect, mapLeaves, mapLeavesList_eq,
          List.map_append]

theorem filterVals_map (f : Str → Str) (k : Str) (l : List (Str × Val)) :
    ((l.map (mapPair f)).filter (·.1 = k)).map (·.2)
      = ((l.filter (·.1 = k)).map (·.2)).map (mapLeaves f) := by
  simp only [List.filter_map, List.map_map, Function.comp_def, mapPair]
  rfl

theorem groupOnto_pair (f : Str → Str) (b : Entries) (l : List (Str × Val)) :
    Conv.groupOnto (mapLeavesEntries f b) (l.map (mapPair f))
      = mapLeavesEntries f (Conv.groupOnto b l) := by
  unfold Conv.groupOnto
  rw [show (l.map (mapPair f)).map (·.1) = l.map (·.1) by rw [List.map_map]; rfl]
  refine List.foldl_hom (mapLeavesEntries f) fun b k => ?_
  rw [lookup_mapLeaves, filterVals_map, collect_mapLeaves]
  cases Conv.collect (lookup k b) ((l.filter (·.1 = k)).map (·.2)) with
  | none => rfl
  | some val => exact insert_mapLeaves f k val b

def escRun (r : Conv.TextRun) : Conv.TextRun := ⟨escapeChars r.value, r.early⟩

theorem textRuns_pair {d d0 : DecCfg} (h : EscPair d d0) : ∀ (kids : List Node) (seen : Bool),
    Conv.textRuns d seen kids = (Conv.textRuns d0 seen kids).map escRun
  | [], _ => rfl
  | .text s :: rest, seen => by
      have ih := textRuns_pair h rest seen
      simp only [Conv.textRuns]
      rw [textOf_pair h, escapeChars_isEmpty]
      split
      · exact ih
      · simp only [List.map_cons, ih, escRun]
  | .elem .. :: rest, _ | .comment _ :: rest, _ | .procinst _ _ :: rest, _
  | .directive _ :: rest, _ => by
      simp only [Conv.textRuns]; exact textRuns_pair h rest _

/-- the element value under `d` is the element value under `d0` with every string leaf escaped,
    once the children's values are -/
theorem value_elem_pair {d d0 : DecCfg} (h : EscPair d d0) (S : Strconv) {sp name : Str}
    {attrs : List Attr} {kids : List Node}
    (hC : Conv.childVals d S 0 kids = (Conv.childVals d0 S 0 kids).map (mapPair escapeChars)) :
    Conv.value d S (.elem sp name attrs kids)
      = mapLeaves escapeChars (Conv.value d0 S (.elem sp name attrs kids)) := by
  simp only [Conv.value]
  rw [loadAttrs_pair h S attrs, hC, groupOnto_pair, isEmpty_mapLeavesEntries,
    isEmpty_mapLeavesEntries, h.asMap, textRuns_pair h, h.txt]
  simp only [cast_off S d.cast _ _ h.cast, cast_off S d0.cast _ _ h.cast0]
  cases Conv.textRuns d0 (!(loadAttrs d0 S attrs).isEmpty || d0.asMap) kids with
  | nil =>
    simp only [List.map_nil]
    split <;> rfl
  | cons t ts =>
    simp only [List.map_cons, escRun]
    cases t.early <;>
      cases (Conv.groupOnto (loadAttrs d0 S attrs) (Conv.childVals d0 S 0 kids)).isEmpty <;>
      simp only [Bool.false_eq_true, if_false, if_true, mapLeaves, ← insert_mapLeaves]

theorem childVals_pair {d d0 : DecCfg} (h : EscPair d d0) (S : Strconv) :
    ∀ (ks : List Node) (seq : Nat),
    Conv.childVals d S seq ks = (Conv.childVals d0 S seq ks).map (mapPair escapeChars) := by
  intro ks
  induction ks using Node.forest_ind with
  | nil => exact fun _ => rfl
  | elem sp name attrs kids rest ihk ihr =>
    intro seq
    simp only [Conv.childVals, List.map_cons]
    rw [value_elem_pair h S (ihk 0), seqDecorate_pair h, elemKey_pair h, ihr]
    rfl
  | text _ r ih | comment _ r ih | procinst _ _ r ih | directive _ r ih =>
    -- `childVals` skips a child that is not an element
    exact ih

theorem value_pair {d d0 : DecCfg} (h : EscPair d d0) (S : Strconv) (t : Node) :
    Conv.value d S t = mapLeaves escapeChars (Conv.value d0 S t) := by
  cases t with
  | elem sp name attrs kids => exact value_elem_pair h S (childVals_pair h S kids 0)
  | _ => rfl

theorem doc_pair {d d0 : DecCfg} (h : EscPair d d0) (S : Strconv) (t : Node) :
    Conv.doc d S t = mapLeaves escapeChars (Conv.doc d0 S t) := by
  cases t with
  | elem sp name attrs kids =>
    simp only [Conv.doc]
    rw [value_pair h S, elemKey_pair h]
    rfl
  | _ => rfl

theorem inDomainKids_pair {d d0 : DecCfg} (h : EscPair d d0) (S : Strconv) : ∀ (ks : List Node),
    Conv.inDomainKids d S ks = Conv.inDomainKids d0 S ks := by
  intro ks
  induction ks using Node.forest_ind with
  | nil => rfl
  | elem sp name attrs kids rest ihk ihr =>
    simp only [Conv.inDomainKids, Conv.inDomain]
    rw [textRuns_pair h, List.length_map, ihk, ihr, elemKey_pair h, h.txt, h.seq]
    simp only [attrKey_pair h]
  | text _ r ih | comment _ r ih | procinst _ _ r ih | directive _ r ih => exact ih

theorem inDomain_pair {d d0 : DecCfg} (h : EscPair d d0) (S : Strconv) (t : Node) :
    Conv.inDomain d S t = Conv.inDomain d0 S t := by
  cases t with
  | elem sp name attrs kids =>
    simp only [Conv.inDomain]
    rw [textRuns_pair h, List.length_map, inDomainKids_pair h S kids, h.txt, h.seq]
    simp only [attrKey_pair h]
  | _ => rfl

theorem NamesOkKidsG_pair {d d0 : DecCfg} (h : EscPair d d0) (S : Strconv) (e : EncCfg) :
    ∀ (ks : List Node), NamesOkKidsG d S e ks = NamesOkKidsG d0 S e ks := by
  intro ks
  induction ks using Node.forest_ind with
  | nil => rfl
  | elem sp name attrs kids rest ihk ihr =>
    simp only [NamesOkKidsG, NamesOkG, ihk, ihr, elemKey_pair h, attrKey_pair h]
  | text _ r ih | comment _ r ih | procinst _ _ r ih | directive _ r ih => exact ih

theorem NamesOkG_pair {d d0 : DecCfg} (h : EscPair d d0) (S : Strconv) (e : EncCfg) (t : Node) :
    NamesOkG d S e t = NamesOkG d0 S e t := by
  cases t with
  | elem sp name attrs kids => simp only [NamesOkG, NamesOkKidsG_pair h S e kids, attrKey_pair h]
  | _ => rfl

mutual
theorem norm_mapLeaves (f : Str → Str) : ∀ (v : Val),
    (mapLeaves f v).norm = mapLeaves f v.norm
  | .null | .bool _ | .num _ | .str _ => rfl
  | .list xs => congrArg Val.list (normList_mapLeaves f xs)
  | .map kvs => by
      simp only [mapLeaves, Val.norm, normEntries_mapLeaves f kvs]
      rw [mapLeavesEntries_eq f (Val.normEntries kvs), mapLeavesEntries_eq f (sortByKey _)]
      exact congrArg Val.map (sortByKey_map (mapLeaves f) _).symm
theorem normList_mapLeaves (f : Str → Str) : ∀ (xs : List Val),
    Val.normList (mapLeavesList f xs) = mapLeavesList f (Val.normList xs)
  | [] => rfl
  | x :: xs => by
      simp only [mapLeavesList, Val.normList, norm_mapLeaves f x, normList_mapLeaves f xs]
theorem normEntries_mapLeaves (f : Str → Str) : ∀ (kvs : Entries),
    Val.normEntries (mapLeavesEntries f kvs) = mapLeavesEntries f (Val.normEntries kvs)
  | [] => rfl
  | (k, v) :: rest => by
      simp only [mapLeavesEntries, Val.normEntries, norm_mapLeaves f v,
        normEntries_mapLeaves f rest]
end

theorem equiv_mapLeaves (f : Str → Str) {a b : Val} (h : a ≈ᵥ b) :
    mapLeaves f a ≈ᵥ mapLeaves f b := by
  unfold Val.equiv at h ⊢
  rw [norm_mapLeaves, norm_mapLeaves, h]

end Mxj.EscDec
