/-
  Mxj.Lemmas.Total — totality of the decoders (C15).  Decoder-independent scans of the token list
  say, for fuel above the token count, exactly how the decoders end: `closeRest`/`rootCloses` for
  `parseElem`/`decodeTop` (Mxj.Lemmas.Scan), `seqScan`/`seqClass` for `seqElem`/`seqTop` (so that
  the fuel above that count does not matter: `seqElem_fuel`, `seqTop_fuel`).  `SeqShaped` is the
  shape under which `seqEnc` reaches none of its `.panic` sites, and the sequence decoder
  establishes it; `encOK` is the shape the compact Map encoder accepts.  `getJson` returns `.doc`
  only in the form `{ … }`.
-/
import Mxj.Model.Seq
import Mxj.Lemmas.Scan
import Mxj.Lemmas.Seq
import Mxj.Lemmas.Stream
namespace Mxj

/-! ### the sequence decoder -/

/-- result of the end-tag scan of the sequence decoder -/
inductive Scan where
  | closed (rest : List Tok)   -- every open element was closed by an end tag of its own name
  | trunc                      -- the tokens ran out first
  | bad                        -- an end tag with the wrong name
  deriving Repr

def Scan.bind : Scan → (List Tok → Scan) → Scan
  | .closed r, g => g r
  | .trunc, _ => .trunc
  | .bad, _ => .bad

/-- decoder-independent scan with the stack of the names of the open elements (innermost
    first): a start tag pushes its qualified name, an end tag must carry the name on top of
    the stack and pops it; done when the stack is empty -/
def seqScan (c : SeqCfg) : List Str → List Tok → Scan
  | [], toks => .closed toks
  | _ :: _, [] => .trunc
  | k :: st, .start sp n _ :: rest => seqScan c (qualName c sp n :: k :: st) rest
  | k :: st, .stop sp n :: rest => if qualName c sp n = k then seqScan c st rest else .bad
  | k :: st, .text _ :: rest => seqScan c (k :: st) rest
  | k :: st, .comment _ :: rest => seqScan c (k :: st) rest
  | k :: st, .procinst _ _ :: rest => seqScan c (k :: st) rest
  | k :: st, .directive _ :: rest => seqScan c (k :: st) rest

/-- the four ways `NewMapXmlSeq` can end -/
inductive SeqClass where
  | doc        -- a root element, properly closed
  | noRoot     -- a comment / directive / processing instruction ahead of any root
  | trunc      -- the tokens run out before the root closes (or before any root)
  | badEnd     -- a stray end tag ahead of the root, or an end tag with the wrong name
  deriving Repr, DecidableEq

/-- decoder-independent classification of a token list (character data ahead of the root is
    skipped) -/
def seqClass (c : SeqCfg) : List Tok → SeqClass
  | [] => .trunc
  | .start sp n _ :: rest =>
      match seqScan c [qualName c sp n] rest with
      | .closed _ => .doc
      | .trunc => .trunc
      | .bad => .badEnd
  | .stop _ _ :: _ => .badEnd
  | .text _ :: rest => seqClass c rest
  | .comment _ :: _ => .noRoot
  | .procinst _ _ :: _ => .noRoot
  | .directive _ :: _ => .noRoot

namespace Total
open Dec SeqL
variable (c : SeqCfg) (S : Strconv) (fin : StreamEnd)

/- Both by induction along the clauses of `seqScan` (in their order: empty stack, no tokens, start
   tag, end tag of the right name, end tag of another name, the four that skip a token). -/
theorem seqScan_append (toks : List Tok) (s1 s2 : List Str) :
    seqScan c (s1 ++ s2) toks = (seqScan c s1 toks).bind (seqScan c s2) := by
  fun_induction seqScan c s1 toks with
  | case1 | case2 => rfl
  | case4 st sp n rest ih => rw [List.cons_append, seqScan, if_pos rfl]; exact ih
  | case5 k st sp n rest hq => rw [List.cons_append, seqScan, if_neg hq]; rfl
  | _ => rename_i ih; exact ih

theorem seqScan_length (toks : List Tok) (st : List Str) (r : List Tok)
    (h : seqScan c st toks = .closed r) : r.length + st.length ≤ toks.length := by
  fun_induction seqScan c st toks with
  | case1 toks => cases h; exact Nat.le_refl _
  | case2 | case5 => cases h
  | _ => rename_i ih; have := ih h; simp only [List.length_cons] at this ⊢; omega

/-- what `seqElem` returns with fuel > #tokens, in terms of the independent scan: a value and the
    scan's unread tokens, the stream's end, or the error of a wrongly named end tag -/
theorem seqElem_spec (f : Nat) (toks : List Tok) (hlen : toks.length < f)
    (skey : Str) (na : Entries) (seq : Nat) (pend : Option (Str × Bool)) :
    (∃ v r, seqScan c [skey] toks = .closed r ∧
        seqElem c S fin f skey na seq pend toks = .ok (v, r)) ∨
      (seqScan c [skey] toks = .trunc ∧ seqElem c S fin f skey na seq pend toks = finErr fin) ∨
      (seqScan c [skey] toks = .bad ∧ seqElem c S fin f skey na seq pend toks = .err .other) := by
  induction f generalizing toks skey na seq pend with
  | zero => nomatch hlen
  | succ f ih =>
    cases toks with
    | nil => exact .inr (.inl ⟨rfl, seqElem_nil c S fin⟩)
    | cons t rest =>
      have hlen' : rest.length < f := Nat.lt_of_succ_lt_succ hlen
      cases t with
      | stop sp n =>
        by_cases hq : qualName c sp n = skey <;> simp [seqScan, seqElem, hq]
      | text s => rw [SeqL.seqElem_text]; exact ih rest hlen' _ _ _ _
      -- one step of the loop, one step of the scan: both by unfolding
      | comment | directive | procinst => exact ih rest hlen' _ _ _ _
      | start sp name attrs =>
        rw [seqElem_start, show seqScan c [skey] (.start sp name attrs :: rest)
          = (seqScan c [qualName c sp name] rest).bind (seqScan c [skey]) from
            seqScan_append c rest [qualName c sp name] [skey]]
        rcases ih rest hlen' (qualName c sp name) (seqInitNa c S attrs) 0 none with
          ⟨v, r, hc, h⟩ | ⟨hc, h⟩ | ⟨hc, h⟩
        · rw [hc, h]
          exact ih r (Nat.lt_trans (seqScan_length c rest _ r hc) hlen') _ _ _ _
        · rw [hc, h]; exact .inr (.inl ⟨rfl, finErr_bind fin _⟩)
        · rw [hc, h]; exact .inr (.inr ⟨rfl, rfl⟩)

/-- complete outcome classification of `seqTop` with fuel > #tokens -/
def SeqTopSpec (c : SeqCfg) (fin : StreamEnd) (toks : List Tok) (o : Outcome SeqTop) : Prop :=
  match seqClass c toks with
  | .doc => ∃ k v, o = .ok (.doc (.map [(k, v)]))
  | .noRoot => ∃ m, o = .ok (.noRoot m)
  | .trunc => o = finErr fin
  | .badEnd => o = .err .other

variable {c fin} in
/-- what the classification says of the KIND of an outcome `o`, whatever Map it carries -/
theorem seqTopSpec_kind {toks : List Tok} {o : Outcome SeqTop} (h : SeqTopSpec c fin toks o) :
    (∀ site, o ≠ .panic site) ∧ (o = .err .other ↔ seqClass c toks = .badEnd) ∧
    ((∃ r, o = .ok r) ↔ (seqClass c toks = .doc ∨ seqClass c toks = .noRoot)) := by
  unfold SeqTopSpec at h
  split at h
  · obtain ⟨k, v, rfl⟩ := h; simp [*]
  · obtain ⟨m, rfl⟩ := h; simp [*]
  · subst h; cases fin <;> simp [*, finErr]
  · subst h; simp [*]

theorem seqTop_spec :
    ∀ (f : Nat) (toks : List Tok), toks.length < f →
      SeqTopSpec c fin toks (seqTop c S fin f toks) := by
  intro f
  induction f with
  | zero => intro toks h; cases h
  | succ f ih =>
    intro toks hlen
    cases toks with
    | nil => exact seqTop_nil c S fin
    | cons t rest =>
      have hlen' : rest.length < f := Nat.lt_of_succ_lt_succ hlen
      cases t with
      | stop => rfl
      | comment | procinst | directive => exact ⟨_, rfl⟩
      | text => exact ih rest hlen'
      | start sp name attrs =>
        rw [seqTop_start, SeqTopSpec, seqClass]
        rcases seqElem_spec c S fin f rest hlen' (qualName c sp name) (seqInitNa c S attrs) 0 none
          with ⟨v, r, hc, h⟩ | ⟨hc, h⟩ | ⟨hc, h⟩
        · rw [hc, h]; exact ⟨_, _, rfl⟩
        · rw [hc, h]; exact finErr_bind fin _
        · rw [hc, h]; rfl

/-! fuel above the token count: more of it gives the same result, and an element's unread tokens
    are fewer than its tokens -/
section Fuel
variable {c S fin}

theorem seqElem_fuel {f g : Nat} (toks : List Tok) (hf : toks.length < f) (hfg : f ≤ g)
    (skey : Str) (na : Entries) (seq : Nat) (pend : Option (Str × Bool)) :
    seqElem c S fin f skey na seq pend toks = seqElem c S fin g skey na seq pend toks := by
  have s := seqElem_spec c S fin g toks (Nat.lt_of_lt_of_le hf hfg) skey na seq pend
  rcases seqElem_spec c S fin f toks hf skey na seq pend with ⟨v, r, -, h⟩ | ⟨hs, h⟩ | ⟨hs, h⟩
  · rw [h, seqElem_mono_le c S fin hfg h]
  -- of the three outcomes at `g`, the scan's result leaves the one at `f`
  · simp [hs] at s; rw [h, s]
  · simp [hs] at s; rw [h, s]

theorem seqElem_rest_length {f : Nat} {toks : List Tok}
    (hf : toks.length < f) {skey : Str} {na : Entries} {seq : Nat} {pend : Option (Str × Bool)}
    {p : Val × List Tok} (h : seqElem c S fin f skey na seq pend toks = .ok p) :
    p.2.length < toks.length := by
  rcases seqElem_spec c S fin f toks hf skey na seq pend with ⟨v, r, hs, h'⟩ | ⟨-, h'⟩ | ⟨-, h'⟩
  · cases h.symm.trans h'
    exact seqScan_length c toks [skey] r hs
  · cases fin <;> cases h.symm.trans h'
  · cases h.symm.trans h'

theorem seqTop_fuel {f g : Nat} (toks : List Tok) (hf : toks.length < f) (hfg : f ≤ g) :
    seqTop c S fin f toks = seqTop c S fin g toks := by
  induction f generalizing g toks with
  | zero => cases hf
  | succ f ih =>
    obtain ⟨g, rfl⟩ := exists_add_one_of_le hfg
    have hfg' := Nat.le_of_succ_le_succ hfg
    cases toks with
    | nil => rfl
    | cons t rest =>
      have hf' := Nat.lt_of_succ_lt_succ hf
      cases t with
      | start sp name attrs => rw [seqTop_start, seqTop_start, seqElem_fuel rest hf' hfg']
      | text s => exact ih rest hf' hfg'
      | _ => rfl

end Fuel

end Total

/-! ### the sequence encoder on decoder output -/

/-- the value under the `#attr` key, when it is a map, holds only maps (`seqAttrText` asserts
    that) -/
def attrsShaped : Val → Bool
  | .map av => av.all (fun e => e.2.isMap)
  | _ => true

mutual
/-- `shapedAt c key v`: the value `v` stored under `key` passes every unchecked type assertion
    of `mapToXmlSeqIndent`: under the comment / directive key a map whose text is a string,
    under the procinst key a map with string target and instruction, elsewhere a map whose
    entries are shaped -/
def shapedAt (c : SeqCfg) : Str → Val → Bool
  | key, .map val =>
      if key = c.commentK then (strOf (lookup c.textK val)).isSome
      else if key = c.directiveK then (strOf (lookup c.textK val)).isSome
      else if key = c.procinstK then
        (strOf (lookup c.targetK val)).isSome && (strOf (lookup c.instK val)).isSome
      else shapedEntries c val
  | key, .list xs => shapedList c key xs
  | _, _ => true
def shapedList (c : SeqCfg) : Str → List Val → Bool
  | _, [] => true
  | key, x :: xs => shapedAt c key x && shapedList c key xs
/-- the entries of an element: an `#attr` map holds maps, the sequence number and the text are
    not looked into, every other entry (those `unrollEntries` keeps) is shaped under its key -/
def shapedEntries (c : SeqCfg) : Entries → Bool
  | [] => true
  | (k, v) :: rest =>
      (if k = c.attrK then attrsShaped v
        else decide (k = c.seqK) || decide (k = c.textK) || shapedAt c k v)
        && shapedEntries c rest
end

/-- the invariant on a MapSeq: one root entry, not a list, shaped under its key -/
def SeqShaped (c : SeqCfg) : Val → Bool
  | .map [(key, v)] => !v.isList && shapedAt c key v
  | _ => false

def NoPanic {α : Type} (o : Outcome α) : Prop := ∀ site, o ≠ .panic site

/-- the configuration keys the encoder dispatches on do not collide (true of the fixed keys
    `#comment`, `#directive`, `#procinst`, `#attr` of xmlseq.go) -/
def SeqCfg.keysOK (c : SeqCfg) : Bool :=
  decide (c.procinstK ≠ c.commentK) && decide (c.procinstK ≠ c.directiveK) &&
  decide (c.attrK ≠ c.commentK) && decide (c.attrK ≠ c.directiveK) && decide (c.attrK ≠ c.procinstK)

/-- a key that is none of the comment / directive / procinst / attribute keys -/
def plainKey (c : SeqCfg) (q : Str) : Bool :=
  decide (q ≠ c.commentK) && decide (q ≠ c.directiveK) && decide (q ≠ c.procinstK) &&
  decide (q ≠ c.attrK)

/-- no element is named like one of the special keys (an XML name cannot start with `#`) -/
def seqNamesOK (c : SeqCfg) (toks : List Tok) : Bool :=
  toks.all fun t => match t with
    | .start sp n _ => plainKey c (qualName c sp n)
    | _ => true

namespace Total
open SeqL
variable (c : SeqCfg) (S : Strconv) (fin : StreamEnd)
theorem seqAttrText_noPanic (esc : Bool) (k : Str) (v : Val) (h : v.isMap = true) :
    NoPanic (seqAttrText c esc k v) := by
  intro site
  cases v with
  | map vv => simp only [seqAttrText]; split <;> nofun
  | _ => cases h

theorem NoPanic.mapOk {α β : Type} {g : α → β} {o : Outcome α} (h : NoPanic o) :
    NoPanic (o.mapOk g) := by
  intro site e
  cases o <;> cases e
  exact h site rfl

theorem NoPanic.bind {α β : Type} {o : Outcome α} {g : α → Outcome β} (h : NoPanic o)
    (hg : ∀ a, NoPanic (g a)) : NoPanic (o.bind g) := by
  intro site e
  cases o with
  | ok a => exact hg a site e
  | panic s => cases e; exact h site rfl
  | _ => cases e

theorem NoPanic.app {α : Type} {o1 o2 : Outcome (List α)} (h1 : NoPanic o1) (h2 : NoPanic o2) :
    NoPanic (o1.app o2) :=
  SeqG.app_eq_bind o1 o2 ▸ NoPanic.bind h1 fun _ => NoPanic.mapOk h2

/-- a loop of the encoders panics only where one of its steps does -/
theorem NoPanic.seqAll {ι α : Type} {F : ι → Outcome (List α)} : ∀ {l : List ι},
    (∀ i ∈ l, NoPanic (F i)) → NoPanic (seqAll F l)
  | [], _ => fun _ => nofun
  | i :: _, h => NoPanic.app (h i (List.mem_cons_self ..))
      (NoPanic.seqAll fun j hj => h j (List.mem_cons_of_mem _ hj))

/-- however the element is written (`ElemKind`), only its children can panic -/
theorem NoPanic.run {κ γ : Type} {fw : Str → γ} {fa : Str → κ → γ} {ko : Outcome κ}
    (h : NoPanic ko) : ∀ (k : ElemKind), NoPanic (k.run fw fa ko)
  | .whole _ | .bad => fun _ => nofun
  | .around _ => NoPanic.mapOk h

theorem seqAttrsText_noPanic (esc : Bool) (l : List (Str × Val))
    (h : ∀ e ∈ l, e.2.isMap = true) : NoPanic (seqAttrsText c esc l) :=
  seqAttrsText_eq c esc l ▸ NoPanic.seqAll fun e he => seqAttrText_noPanic c esc e.1 e.2 (h e he)

/-- the attributes panic only where writing the attribute map does -/
theorem NoPanic.attrsOut {π ρ α : Type} (A : SeqG.Alg π ρ α) (val : Entries)
    (h : ∀ av, lookup c.attrK val = some (.map av) → NoPanic (A.attrs (sortBySeq c av))) :
    NoPanic (A.attrsOut c val) := by
  unfold SeqG.Alg.attrsOut
  split
  · next av hl => exact NoPanic.mapOk (h av hl)
  · exact fun _ => nofun

/-- the test of one entry (`shapedEntries` is `all` of it) -/
def entryOK (c : SeqCfg) (e : Str × Val) : Bool :=
  if e.1 = c.attrK then attrsShaped e.2
  else decide (e.1 = c.seqK) || decide (e.1 = c.textK) || shapedAt c e.1 e.2

theorem shapedEntries_eq_all : ∀ (l : Entries), shapedEntries c l = l.all (entryOK c)
  | [] => rfl
  | (k, v) :: rest => by
      simp only [shapedEntries, List.all_cons, entryOK, shapedEntries_eq_all rest]

theorem shapedAt_list (key : Str) (xs : List Val) :
    shapedAt c key (.list xs) = true ↔ ∀ x ∈ xs, shapedAt c key x = true := by
  rw [shapedAt]
  induction xs <;> simp [shapedList, *]

theorem shaped_unroll (val : Entries) (h : shapedEntries c val = true) :
    ∀ e ∈ unrollEntries c val, shapedAt c e.1 e.2 = true :=
  unroll_all c (Q := fun k v => shapedAt c k v = true)
    (fun k xs => (shapedAt_list c k xs).1)
    fun e he hd => by
      have := List.all_eq_true.1 ((shapedEntries_eq_all c val).symm.trans h) e he
      obtain ⟨h1, h2, h3⟩ := dropK_false hd
      simpa [entryOK, h1, h2, h3] using this

/-- under the shape invariant the generic encoder at the byte algebra panics nowhere: its own
    three panic sites are the tests of `shapedAt` under the note keys, the attributes are maps,
    and the children are shaped again -/
theorem enc_noPanic (esc goEmpty : Bool) : ∀ (f : Nat) (key : Str) (v : Val),
    shapedAt c key v = true → NoPanic (SeqG.enc (bytesAlg c esc goEmpty) c f () key v) := by
  intro f
  induction f with
  | zero => intro key v _ site; rw [SeqG.enc]; nofun
  | succ f ih =>
    intro key v hs
    cases v with
    | null | bool b | num t | str s => intro site; rw [SeqG.enc]; nofun
    | list xs =>
      rw [SeqG.enc]
      exact NoPanic.seqAll fun x hx => ih key x ((shapedAt_list c key xs).1 hs x hx)
    | map val =>
      rw [shapedAt] at hs
      -- under a note key `hs` is `isSome` of the very `strOf` the encoder matches on: it takes the
      -- `.ok` branch
      split at hs
      · obtain ⟨s, e⟩ := Option.isSome_iff_exists.1 hs
        rw [SeqG.enc, if_pos ‹_›, e]
        exact fun _ => nofun
      rename_i h1
      split at hs
      · obtain ⟨s, e⟩ := Option.isSome_iff_exists.1 hs
        rw [SeqG.enc, if_neg h1, if_pos ‹_›, e]
        exact fun _ => nofun
      rename_i h2
      split at hs
      · obtain ⟨⟨t, e1⟩, ⟨i, e2⟩⟩ := (Bool.and_eq_true_iff.1 hs).imp Option.isSome_iff_exists.1
          Option.isSome_iff_exists.1
        rw [SeqG.enc, if_neg h1, if_neg h2, if_pos ‹_›, e1, e2]
        exact fun _ => nofun
      rename_i h3
      rw [SeqG.enc_elem fun h => h.elim h1 (·.elim h2 h3)]
      refine NoPanic.bind (NoPanic.attrsOut c _ val fun av hl => ?_) fun a => NoPanic.run ?_ _
      · have := all_lookup (shapedEntries_eq_all c val ▸ hs) hl
        simp only [entryOK, if_true, attrsShaped, List.all_eq_true] at this
        exact seqAttrsText_noPanic c esc _ fun e he => this e ((sortBySeq_perm c _).mem_iff.1 he)
      · exact NoPanic.seqAll fun e he =>
          ih e.1 e.2 (shaped_unroll c val hs e ((sortBySeq_perm c _).mem_iff.1 he))

theorem seqEnc_noPanic (esc goEmpty : Bool) (f : Nat) (key : Str) (v : Val)
    (h : shapedAt c key v = true) : NoPanic (seqEnc c esc goEmpty f key v) :=
  seqEnc_eq c esc goEmpty f () key v ▸ enc_noPanic c esc goEmpty f key v h

theorem shaped_insert {k : Str} {v : Val} {na : Entries} (hna : shapedEntries c na = true)
    (hv : entryOK c (k, v) = true) : shapedEntries c (insert k v na) = true := by
  rw [shapedEntries_eq_all] at hna ⊢
  exact all_insert hv hna

/-- under the sequence key and the text key anything but a map passes (also when one of them
    coincides with the attribute key) -/
theorem entryOK_exempt {k : Str} {v : Val} (hk : k = c.seqK ∨ k = c.textK) (hv : v.isMap = false) :
    entryOK c (k, v) = true := by
  unfold entryOK
  split
  · cases v <;> first | rfl | cases hv
  · rcases hk with h | h <;> simp [h]

theorem shaped_onText (na : Entries) (seq : Nat)
    (pend : Option (Str × Bool)) (s : Str) (hna : shapedEntries c na = true) :
    shapedEntries c (SeqFold.onText c S na seq pend s).1 = true := by
  have ht : ∀ s, shapedEntries c (insert c.textK (cast S c.cast s []) na) = true := fun s =>
    shaped_insert c hna <| entryOK_exempt c (.inr rfl) <| by
      have := Dec.cast_scalar S c.cast s []
      revert this
      cases cast S c.cast s [] <;> first | exact fun _ => rfl | exact nofun
  -- blank: unchanged; numbered already: new text; else: new text and its sequence number
  fun_cases SeqFold.onText c S na seq pend s
  · exact hna
  · exact ht _
  · exact shaped_insert c (ht _) (entryOK_exempt c (.inl rfl) rfl)

theorem shapedAt_plain (k : Str) (X : Entries) (hk : plainKey c k = true) :
    shapedAt c k (.map X) = shapedEntries c X := by
  simp only [plainKey, Bool.and_eq_true, decide_eq_true_eq] at hk
  simp only [shapedAt, if_neg hk.1.1.1, if_neg hk.1.1.2, if_neg hk.1.2]

theorem shaped_addChild (k : Str) (v : Val) (na : Entries)
    (hna : shapedEntries c na = true) (hk : plainKey c k = true) (hv : shapedAt c k v = true) :
    shapedEntries c (addChild na k v) = true := by
  have hka : ¬ k = c.attrK := by
    simp only [plainKey, Bool.and_eq_true, decide_eq_true_eq] at hk
    exact hk.2
  rw [Dec.addChild_eq]
  refine shaped_insert c hna ?_
  rw [shapedEntries_eq_all] at hna
  -- under the sequence key or the text key anything goes; elsewhere the old value was shaped
  simp only [entryOK, if_neg hka, Bool.or_eq_true, decide_eq_true_eq]
  by_cases hs : k = c.seqK
  · exact .inl (.inl hs)
  by_cases ht : k = c.textK
  · exact .inl (.inr ht)
  refine .inr ?_
  cases hl : lookup k na with
  | none => exact hv
  | some old =>
    exact Dec.promote_of_list (Q := (shapedAt c k · = true))
      (shapedAt_list c k) (by simpa [entryOK, hka, hs, ht] using all_lookup hna hl) hv

theorem shapedAt_seqChild (k : Str) (seq : Nat) (v : Val)
    (hk : plainKey c k = true) (hv : (!v.isList && shapedAt c k v) = true) :
    shapedAt c k (seqChild c seq v) = true := by
  cases v with
  | map kvs =>
    simp only [seqChild]
    rw [shapedAt_plain c k _ hk]
    exact shaped_insert c ((shapedAt_plain c k kvs hk).symm.trans hv)
      (entryOK_exempt c (.inl rfl) rfl)
  | list xs => cases hv
  | null | bool b | num t | str t =>
    simp only [seqChild]
    rw [shapedAt_plain c k _ hk, shapedEntries_eq_all]
    simp only [List.all_cons, List.all_nil, Bool.and_true, Bool.and_eq_true]
    exact ⟨entryOK_exempt c (.inr rfl) rfl, entryOK_exempt c (.inl rfl) rfl⟩

theorem allMaps_seqAttrs : ∀ (attrs : List Attr) (i : Nat) (acc : Entries),
    acc.all (fun e => e.2.isMap) = true →
      (seqAttrs c S i attrs acc).all (fun e => e.2.isMap) = true
  | [], _, _, h => h
  | _ :: rest, i, _, h => allMaps_seqAttrs rest (i + 1) _ (all_insert rfl h)

theorem shaped_seqInitNa (attrs : List Attr) :
    shapedEntries c (seqInitNa c S attrs) = true := by
  simp only [seqInitNa]
  split
  · rfl
  · simp only [shapedEntries, if_true, attrsShaped, Bool.and_true]
    exact allMaps_seqAttrs c S attrs 0 [] rfl

/-- every value the element loop returns is no list and shaped under the key it is stored
    under, and the unread tokens keep `seqNamesOK` -/
theorem seqElem_shaped (hc : c.keysOK = true) :
    ∀ (f : Nat) {toks : List Tok} {skey : Str} {na : Entries} {seq : Nat}
      {pend : Option (Str × Bool)} {v : Val} {r : List Tok},
      seqNamesOK c toks = true → plainKey c skey = true → shapedEntries c na = true →
      seqElem c S fin f skey na seq pend toks = .ok (v, r) →
      (!v.isList && shapedAt c skey v) = true ∧ seqNamesOK c r = true := by
  obtain ⟨⟨⟨⟨hpc, hpd⟩, hac⟩, had⟩, hap⟩ :
      (((c.procinstK ≠ c.commentK ∧ c.procinstK ≠ c.directiveK) ∧ c.attrK ≠ c.commentK)
        ∧ c.attrK ≠ c.directiveK) ∧ c.attrK ≠ c.procinstK := by
    simpa only [SeqCfg.keysOK, Bool.and_eq_true, decide_eq_true_eq] using hc
  intro f
  induction f with
  | zero => intro _ _ _ _ _ _ _ _ _ _ h; cases h
  | succ f ih =>
    intro toks skey na seq pend v r hn hs hna h
    cases toks with
    | nil => rw [seqElem_nil] at h; cases fin <;> cases h
    | cons t rest =>
      simp only [seqNamesOK, List.all_cons, Bool.and_eq_true] at hn
      cases t with
      | stop sp n =>
        simp only [seqElem] at h
        split at h
        · cases h
        · cases h
          refine ⟨?_, hn.2⟩
          split
          · rfl
          · exact (shapedAt_plain c skey na hs).trans hna
      | text s =>
        rw [SeqL.seqElem_text] at h
        exact ih hn.2 hs (shaped_onText c S na seq pend s hna) h
      | comment s =>
        refine ih hn.2 hs (shaped_insert c hna ?_) h
        simp [entryOK, Ne.symm hac, shapedAt, lookup, strOf]
      | directive s =>
        refine ih hn.2 hs (shaped_insert c hna ?_) h
        by_cases e : c.directiveK = c.commentK <;>
          simp [entryOK, Ne.symm had, Ne.symm hac, shapedAt, lookup, strOf, e]
      | procinst t i =>
        refine ih hn.2 hs (shaped_insert c hna ?_) h
        by_cases e : c.instK = c.targetK <;>
          simp [entryOK, Ne.symm hap, shapedAt, lookup, strOf, e, hpc, hpd]
      | start sp name attrs =>
        rw [seqElem_start] at h
        obtain ⟨p, hp, h⟩ := Outcome.bind_eq_ok.1 h
        have h1 := ih hn.2 hn.1 (shaped_seqInitNa c S attrs) hp
        exact ih h1.2 hs
          (shaped_addChild c _ _ na hna hn.1 (shapedAt_seqChild c _ seq p.1 hn.1 h1.1)) h

/-- only a start tag whose element decodes, after leading character data, gives a document -/
theorem seqTop_shaped (hc : c.keysOK = true) (f : Nat) (toks : List Tok) (m : Val)
    (hn : seqNamesOK c toks = true) (h : seqTop c S fin f toks = .ok (.doc m)) :
    SeqShaped c m = true := by
  fun_induction seqTop c S fin f toks with
  | case4 f sp name attrs rest key v r hp =>  -- a start tag, its element decoded to `v`
    cases h
    simp only [seqNamesOK, List.all_cons, Bool.and_eq_true] at hn
    exact (seqElem_shaped c S fin hc f hn.2 hn.1 (shaped_seqInitNa c S attrs) hp).1
  | case10 f s rest ih =>  -- character data ahead of the root
    simp only [seqNamesOK, List.all_cons, Bool.and_eq_true] at hn
    exact ih hn.2 h
  | _ => cases h

end Total

/-! ### the Map encoder on decoder output -/

/-- a key the encoder treats as a child-element key: neither an attribute key nor the text key -/
def plainE (ec : EncCfg) (k : Str) : Bool := !isAttrK ec k && decide (k ≠ ec.textK)

mutual
/-- the shape the compact Map encoder accepts: in every map, the entries under attribute keys
    and under the text key hold strings, numbers or booleans -/
def encOK (ec : EncCfg) : Val → Bool
  | .map kvs => encOKEntries ec kvs
  | .list xs => encOKList ec xs
  | _ => true
def encOKList (ec : EncCfg) : List Val → Bool
  | [] => true
  | x :: xs => encOK ec x && encOKList ec xs
def encOKEntries (ec : EncCfg) : Entries → Bool
  | [] => true
  | (k, v) :: rest => (plainE ec k || Dec.scalar v) && encOK ec v && encOKEntries ec rest
end

/-- no element key (after the decoder's key transforms) is read by the encoder as an attribute
    key or as the text key -/
def elemKeysOK (cfg : DecCfg) (S : Strconv) (ec : EncCfg) (toks : List Tok) : Bool :=
  toks.all fun t => match t with
    | .start _ n _ => plainE ec (elemKey cfg S n)
    | _ => true

namespace Total
variable (ec : EncCfg)
def encOKEntry (ec : EncCfg) (e : Str × Val) : Bool :=
  (plainE ec e.1 || Dec.scalar e.2) && encOK ec e.2

theorem encOKEntries_eq_all : ∀ (l : Entries),
    encOKEntries ec l = l.all (encOKEntry ec)
  | [] => rfl
  | (k, v) :: rest => by
      simp only [encOKEntries, List.all_cons, encOKEntry, encOKEntries_eq_all rest]

theorem scalar_encOK {v : Val} (h : Dec.scalar v = true) : encOK ec v = true := by
  cases v <;> first | rfl | cases h

mutual
theorem encOK_norm (ec : EncCfg) : ∀ (v : Val), encOK ec v = true → encOK ec v.norm = true
  | .null, h => h
  | .bool _, h => h
  | .num _, h => h
  | .str _, h => h
  | .list xs, h => by
      simp only [Val.norm, encOK] at h ⊢
      exact encOKList_norm ec xs h
  | .map kvs, h => by
      simp only [Val.norm, encOK] at h ⊢
      rw [encOKEntries_eq_all, (sortByKey_perm _).all_eq, ← encOKEntries_eq_all]
      exact encOKEntries_norm ec kvs h
theorem encOKList_norm (ec : EncCfg) : ∀ (xs : List Val), encOKList ec xs = true →
    encOKList ec (Val.normList xs) = true
  | [], h => h
  | x :: xs, h => by
      simp only [Val.normList, encOKList, Bool.and_eq_true] at h ⊢
      exact ⟨encOK_norm ec x h.1, encOKList_norm ec xs h.2⟩
theorem encOKEntries_norm (ec : EncCfg) : ∀ (l : Entries), encOKEntries ec l = true →
    encOKEntries ec (Val.normEntries l) = true
  | [], h => h
  | (k, v) :: rest, h => by
      simp only [Val.normEntries, encOKEntries, Bool.and_eq_true, Bool.or_eq_true] at h ⊢
      refine ⟨⟨?_, encOK_norm ec v h.1.2⟩, encOKEntries_norm ec rest h.2⟩
      rcases h.1.1 with h1 | h1
      · exact .inl h1
      · exact .inr (by cases v <;> first | exact h1 | cases h1)
end

theorem attrText_ok (k : Str) {v : Val} (h : Dec.scalar v = true) :
    ∃ a, attrText ec k v = .ok a := by
  cases v with
  | str _ | num _ | bool _ => exact ⟨_, rfl⟩
  | _ => cases h

theorem attrsText_ok : ∀ (l : Entries), encOKEntries ec l = true →
    ∃ a, attrsText ec l = .ok a
  | [], _ => ⟨[], rfl⟩
  | (k, v) :: rest, h => by
      simp only [encOKEntries, Bool.and_eq_true, Bool.or_eq_true] at h
      obtain ⟨r, hr⟩ := attrsText_ok rest h.2
      simp only [attrsText]
      split
      · rename_i hk
        have hs : Dec.scalar v = true := by
          rcases h.1.1 with h1 | h1
          · simp [plainE, hk] at h1
          · exact h1
        obtain ⟨a, ha⟩ := attrText_ok ec k hs
        rw [ha, hr]
        exact ⟨_, rfl⟩
      · exact ⟨r, hr⟩

theorem encOKEntries_lookup (k : Str) (v : Val) (l : Entries) (h : encOKEntries ec l = true)
    (hl : lookup k l = some v) :
    (plainE ec k = true ∨ Dec.scalar v = true) ∧ encOK ec v = true := by
  rw [encOKEntries_eq_all] at h
  simpa only [encOKEntry, Bool.and_eq_true, Bool.or_eq_true] using all_lookup h hl

theorem textValue_ok {v : Val} (h : Dec.scalar v = true) :
    ∃ t, textValue ec v = some t := by
  cases v with
  | bool b => cases b <;> exact ⟨_, rfl⟩
  | num t | str t => exact ⟨_, rfl⟩
  | null | list xs | map kvs => cases h

mutual
theorem marshalN_ok (ec : EncCfg) : ∀ (key : Str) (v : Val), encOK ec v = true →
    ∃ out, marshalN ec key v = .ok out
  | key, .null, _ | key, .num t, _ | key, .str s, _ => ⟨_, rfl⟩
  | key, .bool b, _ => by cases b <;> exact ⟨_, rfl⟩
  | key, .list xs, h => by
      simp only [encOK] at h
      simp only [marshalN]
      split
      · exact ⟨_, rfl⟩
      · exact marshalMembers_ok ec key xs h
  | key, .map vv, h => by
      simp only [encOK] at h
      obtain ⟨a, ha⟩ := attrsText_ok ec vv h
      obtain ⟨kids, hk⟩ := marshalElems_ok ec vv h
      simp only [marshalN, ha, hk]
      split
      · exact ⟨_, rfl⟩
      · cases hl : lookup ec.textK vv with
        | none => exact ⟨_, rfl⟩
        | some tv =>
          have hs : Dec.scalar tv = true := by
            rcases (encOKEntries_lookup ec _ _ vv h hl).1 with h1 | h1
            · simp [plainE] at h1
            · exact h1
          obtain ⟨t, ht⟩ := textValue_ok ec hs
          simp only [ht]
          split <;> exact ⟨_, rfl⟩
theorem marshalMembers_ok (ec : EncCfg) (key : Str) : ∀ (xs : List Val), encOKList ec xs = true →
    ∃ out, marshalMembers ec key xs = .ok out
  | [], _ => ⟨[], rfl⟩
  | x :: xs, h => by
      simp only [encOKList, Bool.and_eq_true] at h
      obtain ⟨a, ha⟩ := marshalN_ok ec key x h.1
      obtain ⟨r, hr⟩ := marshalMembers_ok ec key xs h.2
      simp only [marshalMembers, ha, hr]
      exact ⟨_, rfl⟩
theorem marshalElems_ok (ec : EncCfg) : ∀ (l : Entries), encOKEntries ec l = true →
    ∃ out, marshalElems ec l = .ok out
  | [], _ => ⟨[], rfl⟩
  | (k, v) :: rest, h => by
      simp only [encOKEntries, Bool.and_eq_true] at h
      obtain ⟨a, ha⟩ := marshalN_ok ec k v h.1.2
      obtain ⟨r, hr⟩ := marshalElems_ok ec rest h.2
      simp only [marshalElems, ha, hr]
      split <;> exact ⟨_, rfl⟩
end

theorem marshal_ok (key : Str) (v : Val) (h : encOK ec v = true) :
    ∃ out, marshal ec key v = .ok out :=
  marshalN_ok ec key v.norm (encOK_norm ec v h)

theorem encOKEntries_insert (k : Str) (v : Val)
    (hc : plainE ec k = true ∨ Dec.scalar v = true) (hv : encOK ec v = true) (na : Entries)
    (h : encOKEntries ec na = true) : encOKEntries ec (insert k v na) = true := by
  rw [encOKEntries_eq_all] at h ⊢
  exact all_insert (by simpa only [encOKEntry, Bool.and_eq_true, Bool.or_eq_true] using ⟨hc, hv⟩) h

theorem encOKEntries_insert_scalar (k : Str) {v : Val} (hv : Dec.scalar v = true)
    (na : Entries) (h : encOKEntries ec na = true) : encOKEntries ec (insert k v na) = true :=
  encOKEntries_insert ec k v (.inr hv) (scalar_encOK ec hv) na h

theorem encOKList_eq_all : ∀ (xs : List Val), encOKList ec xs = xs.all (encOK ec)
  | [] => rfl
  | x :: xs => by simp only [encOKList, List.all_cons, encOKList_eq_all xs]

theorem encOKEntries_addChild (k : Str) (v : Val) (na : Entries)
    (hk : plainE ec k = true) (hv : encOK ec v = true) (hna : encOKEntries ec na = true) :
    encOKEntries ec (addChild na k v) = true := by
  rw [Dec.addChild_eq]
  refine encOKEntries_insert ec k _ (.inl hk) ?_ na hna
  cases hl : lookup k na with
  | none => exact hv
  | some old =>
    exact Dec.promote_of_list (Q := (encOK ec · = true))
      (fun xs => by rw [encOK, encOKList_eq_all, List.all_eq_true])
      (encOKEntries_lookup ec k old na hna hl).2 hv

theorem encOK_seqDecorate (cfg : DecCfg) (seq : Nat) (v : Val)
    (hv : encOK ec v = true) : encOK ec (seqDecorate cfg seq v).1 = true := by
  unfold seqDecorate
  split
  · exact hv
  · cases v with
    | list xs | null => exact hv
    | map kvs =>
      simp only [encOK] at hv ⊢
      exact encOKEntries_insert_scalar ec _ rfl kvs hv
    | bool b | num t | str t =>
      simp only [encOK]
      exact encOKEntries_insert_scalar ec _ rfl _ (by simp [encOKEntries, Dec.scalar, encOK])

/-- the state of an element under construction: `encOK` entries, a scalar pending text value -/
def encOKState (ec : EncCfg) (na : Entries) (n : Option Val) : Prop :=
  encOKEntries ec na = true ∧ ∀ x, n = some x → Dec.scalar x = true

theorem encOK_finishElem (cfg : DecCfg) {na : Entries} {n : Option Val}
    (h : encOKState ec na n) : encOK ec (finishElem cfg na n) = true := by
  fun_cases finishElem cfg na n
  · rfl
  · exact h.1
  · exact scalar_encOK ec (h.2 _ rfl)
  · exact encOKEntries_insert_scalar ec _ (h.2 _ rfl) na h.1

end Total

/-! ### the `getJson` scanner -/

namespace Total
open Mxj.Stream

/-- scanner invariant: nothing is collected before the first `{`, and what is collected
    starts with it (`jb` is kept reversed) -/
def JInv (st : JState) : Prop :=
  (st.inJson = false → st.jb = []) ∧ (st.inJson = true → st.jb.getLast? = some '{')

def docShape : JRes → Prop
  | .doc raw => raw.head? = some '{' ∧ raw.getLast? = some '}'
  | _ => True

theorem getLast?_cons_of (c : Char) (l : List Char) (x : Char) (h : l.getLast? = some x) :
    (c :: l).getLast? = some x := by
  rw [List.getLast?_cons, h, Option.getD_some]

theorem shape_of (l : List Char) (x : Char) (h : l.getLast? = some x) :
    (l.reverse ++ ['}']).head? = some x ∧ (l.reverse ++ ['}']).getLast? = some '}' := by
  refine ⟨?_, by simp⟩
  have := List.head?_reverse (l := l)
  rw [h] at this
  cases hr : l.reverse with
  | nil => rw [hr] at this; simp at this
  | cons y t => rw [hr] at this; simpa using this

/-- appending the byte to what is collected (or not) keeps the invariant, whatever happens to the
    other fields -/
theorem JInv.keep {st st' : JState} (h : JInv st) (c : Char) (hj : st'.inJson = st.inJson)
    (hb : st'.jb = st.jb ∨ st'.jb = (if st.inJson then c :: st.jb else st.jb)) : JInv st' := by
  unfold JInv at h ⊢
  rw [hj]
  rcases hb with hb | hb <;> rw [hb]
  · exact h
  · cases hi : st.inJson with
    | false => rw [hi] at h; exact ⟨fun _ => h.1 rfl, nofun⟩
    | true => rw [hi] at h; exact ⟨nofun, fun _ => getLast?_cons_of _ _ _ (h.2 rfl)⟩

def stepOK : JRes ⊕ JState → Prop
  | .inl r => docShape r
  | .inr st' => JInv st'

theorem stepJ_ok (c : Char) (st : JState) (h : JInv st) : stepOK (stepJ c st) := by
  fun_cases stepJ c st with
  | case1 _ _ hb st' =>
    -- `{`: outside a quote it opens (or deepens) the document and is collected
    cases hq : st.inQuote with
    | true =>
      have e : st' = st := by simp only [st', hq]; rfl
      rw [e]
      exact h.keep c rfl (.inr rfl)
    | false =>
      have e : st' = { st with paren := st.paren + 1, inJson := true } := by
        simp only [st', hq]; rfl
      rw [e]
      refine ⟨nofun, fun _ => ?_⟩
      cases hi : st.inJson with
      | false => exact congrArg (fun l => (c :: l).getLast?) (h.1 hi) |>.trans (by rw [hb]; rfl)
      | true => exact getLast?_cons_of _ _ _ (h.2 hi)
  | case2 => exact True.intro
  | case3 _ hc _ p jb hd =>
    -- `}`: at depth 0 the collected text `{ … }` is handed out
    subst hc
    simp only [Bool.and_eq_true] at hd
    simp only [jb, hd.1, if_true, List.reverse_cons]
    exact shape_of _ _ (h.2 hd.1)
  -- a deeper `}`, a quote, any other byte: collected when inside the document; white space: dropped
  | case4 | case5 | case7 => exact h.keep c rfl (.inr rfl)
  | case6 => exact h.keep c rfl (.inl rfl)

theorem getJson_docShape : ∀ (s : Sched) (st : JState), JInv st → docShape (getJson s st).1 := by
  intro s
  induction s with
  | nil => intro st _; rw [getJson_nil]; simp only [endRes]; split <;> trivial
  | cons r rest ih =>
    intro st h
    cases r with
    | zero => rw [getJson_zero]; exact ih st h
    | zeroEof => rw [getJson_zeroEof]; simp only [endRes]; split <;> trivial
    | fail => rw [getJson_fail]; trivial
    | byte c e =>
      rw [getJson_byte]
      have h1 := stepJ_ok c st h
      cases hs : stepJ c st with
      | inl r => rw [hs] at h1; exact h1
      | inr st' => rw [hs] at h1; exact ih st' h1

end Total
end Mxj
