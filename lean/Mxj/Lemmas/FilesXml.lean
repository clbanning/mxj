/-
  Mxj.Lemmas.FilesXml — the XML file loop (C19ExtXml): `fileToks docs trail` is the token stream
  of several documents, each behind a separator of non-start tokens; the loop reads them one by
  one (each round is `decodeTop` on what the previous round left unread); a stream that ends
  inside an element never closes it (by the scan of Mxj.Lemmas.Scan); `handleXml` is the loop with a
  handler that stops, and the file loop is `handleXml` with a budget that is never used up.
-/
import Mxj.Lemmas.Scan
import Mxj.Model.FilesXml
namespace Mxj.Files
open Mxj Mxj.Dec
variable (cfg : DecCfg) (S : Strconv) (fin : StreamEnd)
/-- element nodes (what a document's root is) -/
def isElem : Node → Bool
  | .elem .. => true
  | _ => false

/-- the token stream of a file: each document `d.2` preceded by its separator `d.1`
    (white-space text, comments, PIs, directives), `trail` after the last document -/
def fileToks : List (List Tok × Node) → List Tok → List Tok
  | [], trail => trail
  | d :: ds, trail => d.1 ++ flatten d.2 ++ fileToks ds trail

theorem exists_elem_of_isElem {t : Node} (h : isElem t = true) : ∃ sp name attrs kids, t = .elem sp name attrs kids := by
  cases t with
  | elem sp name attrs kids => exact ⟨sp, name, attrs, kids, rfl⟩
  | text _ | comment _ | procinst _ _ | directive _ => cases h

theorem fileToks_nil (trail : List Tok) : fileToks [] trail = trail := rfl

theorem fileToks_cons (d : List Tok × Node) (ds : List (List Tok × Node)) (trail : List Tok) :
    fileToks (d :: ds) trail = d.1 ++ flatten d.2 ++ fileToks ds trail := rfl

theorem fileToks_append : ∀ (ds es : List (List Tok × Node)) (trail : List Tok),
    fileToks (ds ++ es) trail = fileToks ds (fileToks es trail)
  | [], _, _ => rfl
  | d :: ds, es, trail => by
      simp only [List.cons_append, fileToks_cons, fileToks_append ds es trail]

/-! ### one round -/

/-- `decodeTop` with the loop's fuel on separator + document + anything: the document's Map, and
    exactly the tokens after the root's end tag left unread -/
theorem decodeTop_doc (sep : List Tok)
    (hsep : ∀ t ∈ sep, ¬ isStart t) (t : Node) (ht : isElem t = true) (rest : List Tok) :
    decodeTop cfg S fin ((sep ++ flatten t ++ rest).length + 1) (sep ++ flatten t ++ rest)
      = .ok (Fold.doc cfg S t, rest) := by
  obtain ⟨sp, name, attrs, kids, rfl⟩ := exists_elem_of_isElem ht
  rw [List.append_assoc, List.length_append, Nat.add_assoc, decodeTop_skip cfg S fin sep hsep]
  exact decodeTop_tree cfg S fin sp name attrs kids rest _ (by rw [List.length_append]; omega)

/-- `NewMapXml` on one document alone, behind a separator or not: its Map, whatever the end of the
    stream -/
theorem newMapXml_doc (sep : List Tok) (hsep : ∀ t ∈ sep, ¬ isStart t) (t : Node) (ht : isElem t = true) :
    newMapXml cfg S (sep ++ flatten t) fin = .ok (Fold.doc cfg S t) := by
  have h := decodeTop_doc cfg S fin sep hsep t ht []
  rw [List.append_nil] at h
  rw [newMapXml_eq, h]
  rfl

/-- `decodeTop` with the loop's fuel on non-start tokens only: nothing to decode, the stream's end
    is reported -/
theorem decodeTop_sep (sep : List Tok) (hsep : ∀ t ∈ sep, ¬ isStart t) :
    decodeTop cfg S fin (sep.length + 1) sep = finErr fin := by
  have h := decodeTop_skip cfg S fin sep hsep 1 []
  rwa [List.append_nil, decodeTop_nil] at h

/-! ### a stream that ends inside an element -/

/-- a proper prefix (possibly empty) of a document's tokens behind its separator: the scan finds
    no closing end tag (`Total.rootCloses_cut`), so the round meets the end of the stream -/
theorem decodeTop_sep_prefix (sep : List Tok)
    (hsep : ∀ t ∈ sep, ¬ isStart t) (t : Node) (ht : isElem t = true) (cut : List Tok)
    (hpre : cut <+: flatten t) (hproper : cut ≠ flatten t) (f : Nat) (hf : (sep ++ cut).length < f) :
    decodeTop cfg S fin f (sep ++ cut) = finErr fin := by
  obtain ⟨sp, name, attrs, kids, rfl⟩ := exists_elem_of_isElem ht
  exact (Total.decodeTop_spec cfg S fin f _ hf).2
    ((Total.rootCloses_skip sep hsep cut).trans (Total.rootCloses_cut sp name attrs kids cut hpre hproper))

/-! ### the loop, in the handler form -/

/-- the loop of `HandleXmlReader` with a Map handler that accepts `budget` Maps in all (it
    returns `false` on the `budget`-th, which ends the loop without another read) and an error
    handler that returns `false` (the first error ends the loop); `maps` are the Maps handed to
    the handler (xml.go, `HandleXmlReader`).  It stands beside its lemmas and not in
    Mxj.Model.FilesXml because no driver operation runs it: unlike `readMapsXml` it is not compared
    with Go. -/
def handleXml (cfg : DecCfg) (S : Strconv) (fin : StreamEnd) :
    Nat → Nat → List Tok → List Val → ReadRes
  | 0, _, _, acc => ⟨acc.reverse, true⟩
  | _ + 1, 0, _, acc => ⟨acc.reverse, false⟩
  | f + 1, b + 1, toks, acc =>
    match decodeTop cfg S fin (toks.length + 1) toks with
    | .ok (v, rest) => handleXml cfg S fin f b rest (v :: acc)
    | .eof => ⟨acc.reverse, false⟩
    | _ => ⟨acc.reverse, true⟩

/-- the handler's loop over a well-formed file (separators hold no start token, every document is
    an element) with budget for every document, followed by ANY tokens `trail`: every document is
    read — exactly `Fold.doc` of it, in order — and the loop goes on with `trail` and the remaining
    budget -/
theorem handleXml_file :
    ∀ (docs : List (List Tok × Node)), (∀ d ∈ docs, ∀ t ∈ d.1, ¬ isStart t) →
      (∀ d ∈ docs, isElem d.2 = true) → ∀ (f b : Nat) (trail : List Tok) (acc : List Val),
      handleXml cfg S fin (docs.length + f) (docs.length + b) (fileToks docs trail) acc
        = handleXml cfg S fin f b trail ((docs.map (fun d => Fold.doc cfg S d.2)).reverse ++ acc)
  | [], _, _, f, b, trail, acc => by simp [fileToks]
  | d :: ds, hsep, helem, f, b, trail, acc => by
      obtain ⟨hs, hsep⟩ := List.forall_mem_cons.1 hsep
      obtain ⟨he, helem⟩ := List.forall_mem_cons.1 helem
      rw [List.length_cons, Nat.add_right_comm _ 1 f, Nat.add_right_comm _ 1 b, handleXml, fileToks_cons,
        decodeTop_doc cfg S fin d.1 hs d.2 he]
      simp only [handleXml_file ds hsep helem f b trail, List.map_cons, List.reverse_cons,
        List.append_assoc, List.cons_append, List.nil_append]

/-- … followed by tokens on which the next round meets the end of the stream, whatever they are,
    and with budget to spare: every document's Map, and an error exactly when the stream ended with
    the tokenizer's error -/
theorem handleXml_file_end (docs : List (List Tok × Node))
    (hsep : ∀ d ∈ docs, ∀ t ∈ d.1, ¬ isStart t) (helem : ∀ d ∈ docs, isElem d.2 = true) (trail : List Tok)
    (hend : decodeTop cfg S fin (trail.length + 1) trail = finErr fin) (f b : Nat)
    (hf : docs.length < f) (hb : docs.length < b) :
    handleXml cfg S fin f b (fileToks docs trail) []
      = ⟨docs.map (fun d => Fold.doc cfg S d.2), decide (fin = .bad)⟩ := by
  obtain ⟨g, rfl⟩ := Nat.exists_eq_add_of_lt hf
  obtain ⟨c, rfl⟩ := Nat.exists_eq_add_of_lt hb
  rw [Nat.add_assoc, Nat.add_assoc _ c, handleXml_file cfg S fin docs hsep helem, handleXml, hend]
  cases fin <;> simp [finErr]

/-! ### the file loop -/

/-- the file loop is the handler's loop with a budget that outlasts the fuel -/
theorem readMapsXml_eq_handleXml : ∀ (f : Nat) (toks : List Tok) (acc : List Val),
    readMapsXml cfg S fin f toks acc = handleXml cfg S fin f f toks acc
  | 0, _, _ => rfl
  | f + 1, toks, acc => by
      rw [readMapsXml, handleXml]
      cases decodeTop cfg S fin (toks.length + 1) toks with
      | ok p => exact readMapsXml_eq_handleXml f p.2 (p.1 :: acc)
      | _ => rfl

/-- so the file loop too reads every document of a well-formed file and goes on with `trail` -/
theorem readMapsXml_file (docs : List (List Tok × Node)) (hsep : ∀ d ∈ docs, ∀ t ∈ d.1, ¬ isStart t)
    (helem : ∀ d ∈ docs, isElem d.2 = true) (f : Nat) (trail : List Tok) (acc : List Val) :
    readMapsXml cfg S fin (docs.length + f) (fileToks docs trail) acc
      = readMapsXml cfg S fin f trail ((docs.map (fun d => Fold.doc cfg S d.2)).reverse ++ acc) := by
  rw [readMapsXml_eq_handleXml, handleXml_file cfg S fin docs hsep helem, readMapsXml_eq_handleXml]

/-- … and, followed by tokens on which the next round meets the end of the stream, returns every
    document's Map, with an error exactly when the stream ended with the tokenizer's error -/
theorem readMapsXml_file_end (docs : List (List Tok × Node))
    (hsep : ∀ d ∈ docs, ∀ t ∈ d.1, ¬ isStart t) (helem : ∀ d ∈ docs, isElem d.2 = true) (trail : List Tok)
    (hend : decodeTop cfg S fin (trail.length + 1) trail = finErr fin) (f : Nat)
    (hf : docs.length < f) :
    readMapsXml cfg S fin f (fileToks docs trail) []
      = ⟨docs.map (fun d => Fold.doc cfg S d.2), decide (fin = .bad)⟩ :=
  (readMapsXml_eq_handleXml ..).trans (handleXml_file_end cfg S fin docs hsep helem trail hend f f hf hf)

/-! ### a sample file: for the non-vacuity examples of C19ExtXml and of the property files that reuse it -/

/-- `<?xml version="1.0"?>␤` -/
def exSep0 : List Tok := [.procinst "xml".toList "version=\"1.0\"".toList, .text "\n".toList]

/-- `␤<!--second-->␤` -/
def exSep1 : List Tok := [.text "\n".toList, .comment "second".toList, .text "\n  ".toList]

/-- `<s><k a="b"/>tail<k>2</k></s>` -/
def exDoc2 : Node :=
  .elem [] "s".toList []
    [ .elem [] "k".toList [⟨[], "a".toList, "b".toList⟩] [], .text "tail".toList,
      .elem [] "k".toList [] [.text "2".toList] ]

/-- three documents: C01's sample tree, `exDoc2` behind a comment, and (directly adjacent, no
    separator) the sample tree with its text first -/
def exDocs : List (List Tok × Node) :=
  [(exSep0, sampleTree), (exSep1, exDoc2), ([], sampleTreeTextFirst)]

/-- `␤<!DOCTYPE x>` after the last document -/
def exTrail : List Tok := [.text "\n".toList, .directive "DOCTYPE x".toList]

end Mxj.Files
