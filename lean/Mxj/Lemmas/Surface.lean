/-
  Mxj.Lemmas.Surface — the tokenizer law for the surface renderings of `Model/Surface.lean`:
  `tokenize (renderS n) = some (flatten (toNode n))` on `surfOk` trees.  The surface attributes
  are an `AttrsLex` list (Lemmas/Tokenizer.lean), so only CDATA sections need a step lemma of
  their own.  `rawOk`, the condition on raw values and text runs, is defined in
  Lemmas/Tokenizer.lean beside the two lemmas every renderer uses it through.
-/
import Mxj.Model.Surface
import Mxj.Lemmas.Tokenizer
namespace Mxj.Surf
open Mxj Mxj.Enc Mxj.EscDec Mxj.Tokz

def allSp (w : Str) : Bool := w.all isSp

def sattrOk (a : SAttr) : Bool :=
  xmlNameOk a.name && allSp a.w1 && allSp a.w2 && allSp a.w3 && rawOk (quoteOf a.single) a.raw
    && decide (unesc a.raw = some a.val) && xmlCharsOk a.val

def cmtOk : Str → Bool
  | [] => true
  | c :: r => !(['-', '-'].isPrefixOf (c :: (r ++ ['-']))) && cmtOk r

/-- the same predicate as `Tokz.commentOk`, so that comments have one step lemma
    (`Tokz.step_comment`) -/
theorem cmtOk_eq_commentOk : ∀ (s : Str), cmtOk s = commentOk s
  | [] => rfl
  | c :: r => by
      simp only [cmtOk, commentOk, cmtOk_eq_commentOk r]
      congr 1
      by_cases hc : c = '-'
      · subst hc
        cases r with
        | nil => simp [List.isPrefixOf]
        | cons d r' =>
          by_cases hd : d = '-'
          · subst hd; rfl
          · have h1 : ('-' == d) = false := beq_false_of_ne (Ne.symm hd)
            have h2 : (d != '-') = true := bne_iff_ne.2 hd
            simp [List.isPrefixOf, h1, h2]
      · cases r <;> simp [List.isPrefixOf, hc, Ne.symm hc]

def nextNotRaw : List SNode → Bool
  | [] => true
  | k :: _ => !isRaw k

mutual
/-- well-formed surface trees: XML names; attribute values and raw text runs well-formed
    (`unesc raw = some val`), without raw `<`, `>`, `\r` (text: `<` is what ends the run, so a
    quote character may stand in text); CDATA content without `]]>`; comments without `--`;
    white space where white space is written; no raw run directly after another raw run (the two
    would be ONE run) -/
def surfOk : SNode → Bool
  | .elem name attrs wt ws kids =>
      xmlNameOk name && attrs.all sattrOk && allSp wt && allSp ws && surfOkKids kids
  | .empty name attrs wt => xmlNameOk name && attrs.all sattrOk && allSp wt
  | .text raw v => !raw.isEmpty && rawOk '<' raw && decide (unesc raw = some v) && xmlCharsOk v
  | .cdata s => !hasCDEnd s && xmlCharsOk s
  | .comment s => cmtOk s
def surfOkKids : List SNode → Bool
  | [] => true
  | k :: ks => surfOk k && (!isRaw k || nextNotRaw ks) && surfOkKids ks
end

theorem quoteOf_cases (single : Bool) : quoteOf single = '"' ∨ quoteOf single = '\'' := by
  cases single <;> simp [quoteOf]

theorem attrsLex_surf : ∀ (as : List SAttr), as.all sattrOk = true →
    AttrsLex (renderSAttrs as) (valsOf as)
  | [], _ => .nil
  | a :: as, hok => by
      simp only [List.all_cons, Bool.and_eq_true] at hok
      obtain ⟨ha, has⟩ := hok
      simp only [sattrOk, Bool.and_eq_true, decide_eq_true_eq] at ha
      obtain ⟨⟨⟨⟨⟨⟨hn, hw1⟩, hw2⟩, hw3⟩, hr⟩, hu⟩, hv⟩ := ha
      exact .cons (nameLex_plain a.name hn) hw1 hw2 hw3
        (quoteOf_cases a.single) (fun _ hx => (rawOk_mem hr hx).2.2.2)
        (lexChars_rawOk hr hu hv) (attrsLex_surf as has)

theorem isPrefix_cdEnd (c : Char) (r rest : Str)
    (h : cdClose.isPrefixOf (c :: r) = false) :
    cdClose.isPrefixOf (c :: (r ++ (cdClose ++ rest))) = false := by
  match r, h with
  | [], _ => simp [cdClose, List.isPrefixOf]
  | [d], _ => simp [cdClose, List.isPrefixOf]
  | d :: e :: r', h => simpa [cdClose, List.isPrefixOf] using h

theorem breakOn_cdEnd : ∀ (s rest : Str), hasCDEnd s = false →
    breakOn cdClose (s ++ (cdClose ++ rest)) = some (s, rest)
  | [], rest, _ => by simp [breakOn, cdClose, List.isPrefixOf]
  | c :: r, rest, h => by
      simp only [hasCDEnd, Bool.or_eq_false_iff] at h
      exact breakOn_cons (isPrefix_cdEnd c r rest h.1) (breakOn_cdEnd r rest h.2)

theorem step_cdata (s rest : Str) (hc : hasCDEnd s = false) (hx : xmlCharsOk s = true) :
    step (cdOpen ++ (s ++ (cdClose ++ rest))) = some ([Tok.text s], rest) := by
  have hcd : cdataChars s = some s := by
    simp [cdataChars, show normCR s = s from normCRa_id s (xmlCharsOk_no_cr hx), charsOk_of_xml hx]
  have hb : breakOn [']', ']', '>'] (s ++ (cdClose ++ rest)) = some (s, rest) :=
    breakOn_cdEnd s rest hc
  simp [cdOpen, step, bang, List.isPrefixOf, hb, hcd]

theorem startsLt_notRaw (k : SNode) (x : Str) (h : isRaw k = false) :
    startsLt (renderS k ++ x) = true := by
  cases k with
  | text _ _ => cases h
  | _ => rfl

mutual
theorem tok_node : ∀ (n : SNode), surfOk n = true → ∀ (rest : Str) (us : List Tok),
    tokenize rest = some us → (isRaw n = true → startsLt rest = true) →
    tokenize (renderS n ++ rest) = some (flatten (toNode n) ++ us)
  | .elem name attrs wt ws kids, hok, rest, us, hr, _ => by
      simp only [surfOk, Bool.and_eq_true] at hok
      obtain ⟨⟨⟨⟨hn, ha⟩, hwt⟩, hw⟩, hk⟩ := hok
      have hq := nameLex_plain name hn
      have hend := tokenize_step (step_stop hq hw rest) (by simp; omega) hr
      have hkids := tok_kids kids hk _ _ hend rfl
      have hall := tokenize_step
        (step_start hq (attrsLex_surf attrs ha) hwt false _) (by simp; omega) hkids
      simpa [renderS, toNode, flatten, tagEnd, List.append_assoc] using hall
  | .empty name attrs wt, hok, rest, us, hr, _ => by
      simp only [surfOk, Bool.and_eq_true] at hok
      obtain ⟨⟨hn, ha⟩, hwt⟩ := hok
      have hall := tokenize_step
        (step_start (nameLex_plain name hn) (attrsLex_surf attrs ha) hwt true rest)
        (by simp [tagEnd]; omega) hr
      simpa [renderS, toNode, flatten, flattenKids, tagEnd, List.append_assoc] using hall
  | .text raw v, hok, rest, us, hr, hlt => by
      simp only [surfOk, Bool.and_eq_true, decide_eq_true_eq, Bool.not_eq_true',
        List.isEmpty_eq_false_iff] at hok
      obtain ⟨⟨⟨hne, hv⟩, hu⟩, hx⟩ := hok
      have hs := step_text raw v rest hne (fun _ hc => (rawOk_mem hv hc).1)
        (lexChars_rawOk hv hu hx) (hlt rfl)
      have := tokenize_step hs (length_lt_append hne rest) hr
      simpa [renderS, toNode, flatten] using this
  | .cdata s, hok, rest, us, hr, _ => by
      simp only [surfOk, Bool.and_eq_true, Bool.not_eq_true'] at hok
      have hs := step_cdata s rest hok.1 hok.2
      have := tokenize_step hs (by simp [cdOpen, cdClose]; omega) hr
      simpa [renderS, toNode, flatten, List.append_assoc] using this
  | .comment s, hok, rest, us, hr, _ => by
      simp only [surfOk] at hok
      have hs := step_comment s rest (cmtOk_eq_commentOk s ▸ hok)
      have := tokenize_step hs (by simp; omega) hr
      simpa [renderS, toNode, flatten, List.append_assoc] using this
theorem tok_kids : ∀ (ks : List SNode), surfOkKids ks = true → ∀ (rest : Str) (us : List Tok),
    tokenize rest = some us → startsLt rest = true →
    tokenize (renderSKids ks ++ rest) = some (flattenKids (toNodes ks) ++ us)
  | [], _, rest, us, hr, _ => by simpa [renderSKids, toNodes, flattenKids] using hr
  | k :: ks, hok, rest, us, hr, hlt => by
      simp only [surfOkKids, Bool.and_eq_true, Bool.or_eq_true, Bool.not_eq_true'] at hok
      obtain ⟨⟨hk, hj⟩, hks⟩ := hok
      have ih := tok_kids ks hks rest us hr hlt
      have hn := tok_node k hk (renderSKids ks ++ rest) _ ih (by
        intro hraw
        rcases hj with hj | hj
        · rw [hraw] at hj; cases hj
        · cases ks with
          | nil => simpa [renderSKids] using hlt
          | cons k2 ks' =>
            simp only [nextNotRaw, Bool.not_eq_true'] at hj
            simp only [renderSKids, List.append_assoc]
            exact startsLt_notRaw k2 _ hj)
      simpa [renderSKids, toNodes, flattenKids, List.append_assoc] using hn
end

def isElemS : SNode → Bool
  | .elem .. => true
  | .empty .. => true
  | _ => false

theorem isRaw_of_elemS {n : SNode} (h : isElemS n = true) : isRaw n = false := by
  cases n with
  | text _ _ => cases h
  | _ => rfl

theorem startsLt_elemS (n : SNode) (x : Str) (h : isElemS n = true) :
    startsLt (renderS n ++ x) = true :=
  startsLt_notRaw n x (isRaw_of_elemS h)

theorem toNode_elemS (n : SNode) (h : isElemS n = true) :
    ∃ name vals kids, toNode n = .elem [] name vals kids := by
  cases n with
  | elem | empty => exact ⟨_, _, _, rfl⟩
  | _ => cases h

end Mxj.Surf
