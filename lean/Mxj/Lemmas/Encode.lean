/-
  Mxj.Lemmas.Encode — C02 / C03 for the default options: `(dc, ec)` is a symmetric pair and
  `Decoded`, `image`, `NamesOk` are the vocabulary of Lemmas/EncodeSym1 at that pair, so what is
  proved there for every symmetric pair is instantiated here; `EncDomain`, `image` under
  normalisation and `AnyXml` exist for the default options only and are proved directly.
-/
import Mxj.Lemmas.EncodeSym
namespace Mxj.Enc
open Mxj Mxj.EncSym

theorem elemKey_dc (S : Strconv) (n : Str) : elemKey dc S n = n := rfl

theorem attrKey_dc (S : Strconv) (n : Str) : attrKey dc S n = '-' :: n := rfl

theorem escDecIf_dc (s : Str) : escDecIf dc s = s := rfl

theorem seqDecorate_dc (seq : Nat) (v : Val) : seqDecorate dc seq v = (v, seq) := rfl

theorem textOf_dc (s : Str) : Conv.textOf dc s = trimD s := rfl

theorem textK_ec : ec.textK = "#text".toList := rfl

theorem textK_dc : dc.textK = ec.textK := rfl

theorem asMap_dc : dc.asMap = false := rfl

theorem textK_not_attr : isAttrK ec ec.textK = false := by decide

/-- at `dc` (cast off, no key folding) none of `DecodedChildG`, `imageSibsG`, `NamesOkG`, … depends
    on `S`; the default-pair statements, which mention no `S`, are instantiated at `default` -/
instance : Inhabited Strconv := ⟨Dec.S0⟩

theorem sym_dc : Sym dc ec := ⟨rfl, rfl, textK_not_attr, rfl, rfl, rfl⟩

theorem foldLaw_dc (S : Strconv) : FoldLaw dc S := ⟨fun _ => rfl, fun _ => rfl⟩

theorem leafLaw_dc (S : Strconv) : LeafLaw dc S := LeafLaw_of_noCast dc S rfl

theorem lf_dc (S : Strconv) (s : Str) : lf dc S s = .str s := cast_off S dc.cast s [] rfl

theorem attrOk_dc (S : Strconv) (v : Val) : attrOk dc S v = isStr v := by
  unfold attrOk
  rw [lf_dc]
  cases v with
  | null | list _ | map _ => rfl
  | str _ => exact decide_eq_true rfl
  | num _ | bool _ =>
    simp only [isScalar, attrValue, Option.isSome, Bool.true_and, isStr]
    exact decide_eq_false (by intro h; cases h)

theorem textOk_dc (S : Strconv) (v : Val) : textOk dc S v = textEntryOk v := by
  -- at `dc`, `attrOk` is `isStr` (`attrOk_dc`) and `trimG dc` is `trimD`: on a string both sides
  -- are `trimmed s && !s.isEmpty`, on anything else both are `false`
  cases v <;> simp [textOk, attrOk_dc, isStr, textEntryOk, leafText, fmtV, trimmed, trimG, trimD]

theorem trimmed_nil : trimmed [] = true := rfl

theorem leafChildOk_dc (S : Strconv) (v : Val) :
    leafChildOk dc S v = match v with | .str s => trimmed s | _ => false := by
  cases v with
  | str s => cases s <;> simp [leafChildOk, textOk_dc, textEntryOk, asMap_dc, trimmed_nil]
  | _ => simp [leafChildOk, textOk_dc, textEntryOk]

mutual
theorem DecodedChildG_dc (S : Strconv) : ∀ (v : Val), DecodedChildG dc S ec v = DecodedChild v
  | .str _ | .num _ | .bool _ => by simp only [DecodedChildG, leafChildOk_dc, DecodedChild]
  | .null => rfl
  | .map kvs => by
      simp only [DecodedChildG, DecodedChild, DecodedEntriesG_dc S kvs,
        asMap_dc, Bool.false_and, Bool.or_false]
  | .list xs => by simp only [DecodedChildG, DecodedChild, DecodedListG_dc S xs]
theorem DecodedListG_dc (S : Strconv) : ∀ (xs : List Val), DecodedListG dc S ec xs = DecodedList xs
  | [] => rfl
  | x :: xs => by
      simp only [DecodedListG, DecodedList, DecodedChildG_dc S x, DecodedListG_dc S xs]
theorem DecodedEntriesG_dc (S : Strconv) :
    ∀ (kvs : Entries), DecodedEntriesG dc S ec kvs = DecodedEntries kvs
  | [] => rfl
  | (k, v) :: rest => by
      simp only [DecodedEntriesG, DecodedEntries, DecodedEntriesG_dc S rest, DecodedChildG_dc S v,
        attrOk_dc, textOk_dc, elemKey_dc, decide_true, Bool.true_and]
      split
      · rename_i ha
        rw [show attrKey dc S (k.drop ec.attrPrefix.length) = k from isAttrK_drop ec k ha]
        simp only [decide_true, Bool.and_true]
      · rfl
end

theorem textImg_dc (S : Strconv) (s : Str) :
    textImg dc S s = if (trimD s).isEmpty then none else some (.str (trimD s)) := by
  simp only [textImg, lf_dc]; rfl

theorem leafImage_dc (S : Strconv) (s : Str) :
    finishImageG dc ec [] (textImg dc S s) = .str (trimD s) := by
  rw [textImg_dc]
  split
  · rename_i h; rw [List.isEmpty_iff.1 h]; rfl
  · rfl

theorem finishImageG_dc (base : Entries) (txt : Option Str) :
    finishImageG dc ec base (txt.map .str) = finishImage base txt := by
  cases txt <;> simp [finishImageG, finishImage, asMap_dc]

theorem imageTextG_dc (S : Strconv) (kvs : Entries) :
    imageTextG dc S ec kvs = (imageText kvs).map .str := by
  unfold imageTextG imageText
  cases lookup ec.textK kvs with
  | none => rfl
  | some tv => simp only [textImg_dc]; split <;> rfl

theorem imageAttrsG_dc (S : Strconv) : ∀ (kvs : Entries), imageAttrsG dc S ec kvs = imageAttrs kvs
  | [] => rfl
  | (k, v) :: rest => by simp only [imageAttrsG, imageAttrs, lf_dc, imageAttrsG_dc S rest]

mutual
theorem imageSibsG_dc (S : Strconv) : ∀ (v : Val), imageSibsG dc S ec v = imageSibs v
  | .null => rfl
  | .str _ | .num _ | .bool _ => by simp only [imageSibsG, imageSibs, leafImage_dc]
  | .list xs => by simp only [imageSibsG, imageSibs, imageMembersG_dc S xs]
  | .map kvs => by
      simp only [imageSibsG, imageSibs, imageAttrsG_dc, imageElemsG_dc S kvs, imageTextG_dc,
        finishImageG_dc]
theorem imageMembersG_dc (S : Strconv) : ∀ (xs : List Val), imageMembersG dc S ec xs = imageMembers xs
  | [] => rfl
  | x :: xs => by simp only [imageMembersG, imageMembers, imageSibsG_dc S x, imageMembersG_dc S xs]
theorem imageElemsG_dc (S : Strconv) : ∀ (kvs : Entries), imageElemsG dc S ec kvs = imageElems kvs
  | [] => rfl
  | (k, v) :: rest => by
      simp only [imageElemsG, imageElems, imageSibsG_dc S v, imageElemsG_dc S rest]
end

theorem imageG_dc (S : Strconv) (v : Val) : imageG dc S ec v = image v := by
  simp only [imageG, image, imageSibsG_dc]

theorem DecodedG_dc (S : Strconv) (v : Val) : DecodedG dc S ec v = Decoded v := by
  simp only [DecodedG, Decoded, DecodedChildG_dc]

theorem isAttrK_attrKey_dc (S : Strconv) (n : Str) : isAttrK ec (attrKey dc S n) = !n.isEmpty :=
  isAttrK_attrKey dc S ec sym_dc (by decide) n

theorem NamesOkKidsG_dc (S : Strconv) (ks : List Node) : NamesOkKidsG dc S ec ks = NamesOkKids ks := by
  induction ks using Node.forest_ind with
  | nil => rfl
  | elem sp name attrs kids rest ihk ihr =>
    simp only [NamesOkKidsG, NamesOkKids, NamesOkG, NamesOk, isAttrK_attrKey_dc, elemKey_dc, ihk, ihr]
  | text _ r ih | comment _ r ih | procinst _ _ r ih | directive _ r ih => exact ih

theorem NamesOkG_dc (S : Strconv) (t : Node) : NamesOkG dc S ec t = NamesOk t := by
  cases t with
  | elem _ _ attrs kids => simp only [NamesOkG, NamesOk, isAttrK_attrKey_dc, NamesOkKidsG_dc S kids]
  | _ => rfl

mutual
theorem keysFixed_dc (S : Strconv) : ∀ (v : Val), KeysFixedG dc S ec v = true
  | .null | .bool _ | .num _ | .str _ => rfl
  | .list xs => keysFixedList_dc S xs
  | .map kvs => keysFixedEntries_dc S kvs
theorem keysFixedList_dc (S : Strconv) : ∀ (xs : List Val), KeysFixedListG dc S ec xs = true
  | [] => rfl
  | x :: xs => by simp only [KeysFixedListG, keysFixed_dc S x, keysFixedList_dc S xs, Bool.and_self]
theorem keysFixedEntries_dc (S : Strconv) :
    ∀ (kvs : Entries), KeysFixedEntriesG dc S ec kvs = true
  | [] => rfl
  | (k, v) :: rest => by
      simp only [KeysFixedEntriesG, keysFixedEntries_dc S rest, keysFixed_dc S v, elemKey_dc,
        decide_true, Bool.and_true, Bool.or_true]
      split
      · rename_i ha
        exact decide_eq_true (isAttrK_drop ec k ha)
      · rfl
end

/-- `isElemKG ec`: a key whose entry becomes child elements -/
def isElemK (k : Str) : Bool := !(k = ec.textK || isAttrK ec k)

/-- `elemPairsG dc S ec` written out (`elemPairsG_dc`) -/
def elemPairs : Entries → List (Str × Val)
  | [] => []
  | (k, v) :: rest =>
      if k = ec.textK || isAttrK ec k then elemPairs rest
      else (imageSibs v).map (k, ·) ++ elemPairs rest

theorem imageSibs_ne_nil : ∀ (v : Val), imageSibs v ≠ [] := fun v =>
  imageSibsG_dc default v ▸ imageSibsG_ne_nil dc default ec v

theorem imageMembers_ne_nil : ∀ (xs : List Val), xs ≠ [] → imageMembers xs ≠ [] := fun xs h =>
  imageMembersG_dc default xs ▸ imageMembersG_ne_nil dc default ec xs h

theorem keys_imageAttrs (kvs : Entries) :
    keys (imageAttrs kvs) = (keys kvs).filter (isAttrK ec) :=
  imageAttrsG_dc default kvs ▸ keys_imageAttrsG kvs

theorem keys_imageElems (kvs : Entries) :
    keys (imageElems kvs) = (keys kvs).filter isElemK :=
  imageElemsG_dc default kvs ▸ keys_imageElemsG kvs

theorem elemPairsG_dc (S : Strconv) : ∀ (kvs : Entries), elemPairsG dc S ec kvs = elemPairs kvs
  | [] => rfl
  | (k, v) :: rest => by simp only [elemPairsG, elemPairs, imageSibsG_dc, elemPairsG_dc S rest]

theorem childVals_append (S : Strconv) : ∀ (a b : List Node) (seq : Nat),
    Conv.childVals dc S seq (a ++ b) = Conv.childVals dc S seq a ++ Conv.childVals dc S seq b :=
  childVals_appendG rfl

theorem textK_not_mem_base (vv : Entries) : ec.textK ∉ keys (imageAttrs vv ++ imageElems vv) := by
  rw [← imageAttrsG_dc default, ← imageElemsG_dc default]
  exact textK_not_mem_baseG textK_not_attr vv

theorem value_empty (S : Strconv) (key : Str) : Conv.value dc S (.elem [] key [] []) = .str [] := by
  rw [value_elem_nil dc S _ _ _ _ rfl]; rfl

theorem trimD_nil : trimD [] = [] := rfl

theorem value_leaf (S : Strconv) (key t : Str) :
    Conv.value dc S (.elem [] key [] [.text t]) = .str (trimD t) :=
  (value_scalarG sym_dc key (v := .str t) (.inr rfl)).trans (leafImage_dc S t)

theorem childVals_single (S : Strconv) (key : Str) (attrs : List Attr) (kids : List Node) :
    Conv.childVals dc S 0 [.elem [] key attrs kids]
      = [(key, Conv.value dc S (.elem [] key attrs kids))] :=
  childVals_singleG rfl key attrs kids

/-- the decoding conventions on the encoder's sibling trees: the sibling elements decode under
    `key` to, in order, the sibling images of `v` (that every sibling is an element named `key`:
    `encTree_dom`) -/
theorem childVals_encTree (S : Strconv) : ∀ (key : Str) (v : Val) (ns : List Node),
    v.wf = true → encTree ec key v = .ok ns →
    Conv.childVals dc S 0 ns = (imageSibs v).map (key, ·) := fun key v ns hwf h => by
  rw [← imageSibsG_dc S, encTree_inv textK_not_attr h]
  exact childVals_encT sym_dc key v rfl hwf (keysFixed_dc S v)

theorem childVals_encMembers (S : Strconv) (key : Str) : ∀ (xs : List Val) (ns : List Node),
    Val.wfList xs = true → encMembers ec key xs = .ok ns →
    Conv.childVals dc S 0 ns = (imageMembers xs).map (key, ·) := fun xs ns hwf h => by
  rw [← imageMembersG_dc S, encMembers_inv textK_not_attr h]
  exact childVals_membersT sym_dc key xs rfl hwf (keysFixedList_dc S xs)

theorem childVals_encElems (S : Strconv) : ∀ (kvs : Entries) (ns : List Node),
    Val.wfEntries kvs = true → encElems ec kvs = .ok ns →
    Conv.childVals dc S 0 ns = elemPairs kvs := fun kvs ns hwf h => by
  rw [← elemPairsG_dc S, encElems_inv textK_not_attr h]
  exact childVals_elemsT sym_dc kvs hwf (keysFixedEntries_dc S kvs)

theorem siblingsValue_encTree (S : Strconv) (key : Str) (v : Val) (ns : List Node)
    (hwf : v.wf = true) (h : encTree ec key v = .ok ns) :
    siblingsValue dc S ns = imageUnder key v := by
  unfold siblingsValue imageUnder image
  rw [childVals_encTree S key v ns hwf h, groupOnto_single key (imageSibs_ne_nil v)]

mutual
theorem EncDomain_wf : ∀ (v : Val), EncDomain v = true → v.wf = true
  | .null, _ => rfl
  | .bool _, _ => rfl
  | .num _, _ => rfl
  | .str _, _ => rfl
  | .list xs, h => by
      simp only [EncDomain] at h
      simp only [Val.wf, EncDomainList_wf xs h]
  | .map kvs, h => by
      simp only [EncDomain, Bool.and_eq_true] at h
      simp only [Val.wf, EncDomainEntries_wf kvs h.2, h.1, Bool.and_self]
theorem EncDomainList_wf : ∀ (xs : List Val), EncDomainList xs = true → Val.wfList xs = true
  | [], _ => rfl
  | x :: xs, h => by
      simp only [EncDomainList, Bool.and_eq_true] at h
      simp only [Val.wfList, EncDomain_wf x h.1, EncDomainList_wf xs h.2, Bool.and_self]
theorem EncDomainEntries_wf : ∀ (kvs : Entries), EncDomainEntries kvs = true →
    Val.wfEntries kvs = true
  | [], _ => rfl
  | (k, v) :: rest, h => by
      simp only [EncDomainEntries, Bool.and_eq_true] at h
      simp only [Val.wfEntries, EncDomainEntries_wf rest h.2, Bool.and_true]
      have h1 := h.1
      split at h1
      · exact isScalar_wf h1
      · exact EncDomain_wf v h1
end

def entryDom (e : Str × Val) : Bool :=
  if isAttrK ec e.1 || e.1 = ec.textK then isScalar e.2 else EncDomain e.2

theorem EncDomainEntries_iff : ∀ (l : Entries),
    EncDomainEntries l = true ↔ ∀ e ∈ l, entryDom e = true
  | [] => by simp [EncDomainEntries]
  | (k, v) :: rest => by
      simp only [EncDomainEntries, Bool.and_eq_true, EncDomainEntries_iff rest, List.mem_cons,
        forall_eq_or_imp, entryDom]

theorem attrsOk_dom (kvs : Entries) (h : EncDomainEntries kvs = true) : attrsOk ec kvs = true :=
  List.all_eq_true.2 fun x hx => by
    have hx := (EncDomainEntries_iff kvs).1 h x hx
    cases ha : isAttrK ec x.1
    · rfl
    · simpa [entryDom, ha] using hx

mutual
theorem EncDomain_ok : ∀ (v : Val), EncDomain v = true → EncOk ec v = true
  | .null, _ | .bool _, _ | .num _, _ | .str _, _ => rfl
  | .list xs, h => EncDomainList_ok xs h
  | .map kvs, h => by
      simp only [EncDomain, Bool.and_eq_true] at h
      simp only [EncOk, attrsOk_dom kvs h.2, EncDomainEntries_ok kvs h.2, Bool.and_true, Bool.true_and]
      refine textValOk_of kvs fun tv hl => ?_
      simpa [entryDom] using (EncDomainEntries_iff kvs).1 h.2 _ (mem_of_lookup hl)
theorem EncDomainList_ok : ∀ (xs : List Val), EncDomainList xs = true → EncOkList ec xs = true
  | [], _ => rfl
  | x :: xs, h => by
      simp only [EncDomainList, Bool.and_eq_true] at h
      simp only [EncOkList, EncDomain_ok x h.1, EncDomainList_ok xs h.2, Bool.and_self]
theorem EncDomainEntries_ok : ∀ (kvs : Entries), EncDomainEntries kvs = true →
    EncOkEntries ec kvs = true
  | [], _ => rfl
  | (k, v) :: rest, h => by
      simp only [EncDomainEntries, Bool.and_eq_true] at h
      simp only [EncOkEntries, EncDomainEntries_ok rest h.2, Bool.and_true]
      cases ha : isAttrK ec k
      · by_cases hk : k = ec.textK
        · simp [hk]
        · simpa [ha, hk] using EncDomain_ok v (by simpa [ha, hk] using h.1)
      · simp
end

theorem encTree_ok (key : Str) (v : Val) (h : EncDomain v = true) :
    encTree ec key v = .ok (encT ec key v) :=
  (encTree_eq textK_not_attr key v).trans (okIf_true (EncDomain_ok v h) _)

theorem encMembers_ok (key : Str) : ∀ (xs : List Val), EncDomainList xs = true →
    ∃ ns, encMembers ec key xs = .ok ns := fun xs h =>
  ⟨_, (encMembers_eq textK_not_attr key xs).trans (okIf_true (EncDomainList_ok xs h) _)⟩

theorem encElems_ok : ∀ (kvs : Entries), EncDomainEntries kvs = true →
    ∃ ns, encElems ec kvs = .ok ns := fun kvs h =>
  ⟨_, (encElems_eq textK_not_attr kvs).trans (okIf_true (EncDomainEntries_ok kvs h) _)⟩

/-- `textEntriesG ec` written out (`textEntriesG_dc`) -/
def textEntries : Entries → Entries
  | [] => []
  | (k, v) :: rest =>
      if isAttrK ec k then textEntries rest
      else if k = ec.textK then (k, v) :: textEntries rest
      else textEntries rest

theorem textEntriesG_dc : ∀ (kvs : Entries), textEntriesG ec kvs = textEntries kvs
  | [] => rfl
  | (k, v) :: rest => by simp only [textEntriesG, textEntries, textEntriesG_dc rest]

theorem image_decodedChild : ∀ (v : Val), DecodedChild v = true →
    (imageSibs v).map Val.norm = (sibsOf v).map Val.norm :=
  funext (imageSibsG_dc default) ▸ funext (DecodedChildG_dc default) ▸
    image_decodedChildG dc default ec textK_not_attr

theorem image_decodedList : ∀ (xs : List Val), DecodedList xs = true →
    (imageMembers xs).map Val.norm = xs.map Val.norm :=
  funext (imageMembersG_dc default) ▸ funext (DecodedListG_dc default) ▸
    image_decodedListG dc default ec textK_not_attr

theorem image_decodedEntries : ∀ (kvs : Entries), DecodedEntries kvs = true →
    (Val.normEntries (imageAttrs kvs ++ imageElems kvs ++ textEntries kvs)).Perm
      (Val.normEntries kvs) :=
  funext (imageAttrsG_dc default) ▸ funext (imageElemsG_dc default) ▸ funext textEntriesG_dc ▸
    funext (DecodedEntriesG_dc default) ▸ image_decodedEntriesG dc default ec textK_not_attr

theorem Decoded_iff {v : Val} : Decoded v = true ↔ v.isList = false ∧ DecodedChild v = true := by
  unfold Decoded
  rw [Bool.and_eq_true, Bool.not_eq_true']

theorem image_decoded (v : Val) (h : Decoded v = true) : image v ≈ᵥ v :=
  imageG_dc default v ▸ image_decodedG (d := dc) textK_not_attr (by rwa [DecodedG_dc])

theorem DecodedChild_norm : ∀ (v : Val), DecodedChild v = true → DecodedChild v.norm = true :=
  funext (DecodedChildG_dc default) ▸ DecodedChildG_norm dc default ec

theorem DecodedList_norm : ∀ (xs : List Val), DecodedList xs = true →
    DecodedList (Val.normList xs) = true :=
  funext (DecodedListG_dc default) ▸ DecodedListG_norm dc default ec

theorem DecodedEntries_norm : ∀ (kvs : Entries), DecodedEntries kvs = true →
    DecodedEntries (Val.normEntries kvs) = true :=
  funext (DecodedEntriesG_dc default) ▸ DecodedEntriesG_norm dc default ec

theorem Decoded_norm (v : Val) (h : Decoded v = true) : Decoded v.norm = true := by
  rw [← DecodedG_dc default] at h ⊢
  exact DecodedG_norm h

theorem isStr_scalar {v : Val} (h : isStr v = true) : isScalar v = true := by
  cases v <;> simp [isStr] at h <;> rfl

theorem textEntryOk_scalar {v : Val} (h : textEntryOk v = true) : isScalar v = true := by
  cases v <;> simp [textEntryOk] at h <;> rfl

mutual
theorem DecodedChild_EncDomain : ∀ (v : Val), DecodedChild v = true → EncDomain v = true
  | .null, _ => rfl
  | .bool _, _ => rfl
  | .num _, _ => rfl
  | .str _, _ => rfl
  | .list xs, h => by
      simp only [DecodedChild, Bool.and_eq_true] at h
      simp only [EncDomain, DecodedList_EncDomain xs h.2]
  | .map kvs, h => by
      simp only [DecodedChild, Bool.and_eq_true] at h
      simp only [EncDomain, h.1.1, DecodedEntries_EncDomain kvs h.2, Bool.and_self]
theorem DecodedList_EncDomain : ∀ (xs : List Val), DecodedList xs = true →
    EncDomainList xs = true
  | [], _ => rfl
  | x :: xs, h => by
      simp only [DecodedList, Bool.and_eq_true] at h
      simp only [EncDomainList, DecodedChild_EncDomain x h.1.2, DecodedList_EncDomain xs h.2,
        Bool.and_self]
theorem DecodedEntries_EncDomain : ∀ (kvs : Entries), DecodedEntries kvs = true →
    EncDomainEntries kvs = true
  | [], _ => rfl
  | (k, v) :: rest, h => by
      simp only [DecodedEntries, Bool.and_eq_true] at h
      simp only [EncDomainEntries, DecodedEntries_EncDomain rest h.2, Bool.and_true]
      have h1 := h.1
      -- by the kind of the entry: element (recursion), text key (`textEntryOk`, so scalar),
      -- attribute (a string, so scalar); `simpa` only picks the branch of the `if`s on both sides
      cases ha : isAttrK ec k
      · by_cases hk : k = ec.textK
        · simpa [hk] using textEntryOk_scalar (by simpa [hk, textK_not_attr] using h1)
        · simpa [ha, hk] using DecodedChild_EncDomain v (by simpa [ha, hk] using h1)
      · simpa [ha] using isStr_scalar (by simpa [ha] using h1)
end

theorem Decoded_EncDomain (v : Val) (h : Decoded v = true) : EncDomain v = true :=
  DecodedChild_EncDomain v (Decoded_iff.1 h).2

theorem value_decoded (S : Strconv) : ∀ (t : Node), Conv.inDomain dc S t = true →
    NamesOk t = true → isElem t = true → Decoded (Conv.value dc S t) = true :=
  funext (DecodedG_dc S) ▸ funext (NamesOkG_dc S) ▸
    value_decodedG dc S ec sym_dc (foldLaw_dc S) (leafLaw_dc S)

theorem childVals_decoded (S : Strconv) : ∀ (ks : List Node) (seq : Nat),
    Conv.inDomainKids dc S ks = true → NamesOkKids ks = true →
    ∀ c ∈ Conv.childVals dc S seq ks, Decoded c.2 = true ∧ isElemK c.1 = true := fun ks seq hin hn c hc => by
  have := childVals_decodedG dc S ec sym_dc (foldLaw_dc S) (leafLaw_dc S) ks seq hin
    (by rwa [NamesOkKidsG_dc]) c hc
  rw [DecodedG_dc] at this
  exact ⟨this.1, this.2.1⟩

theorem imageSibs_not_list (v : Val) (hl : v.isList = false) : imageSibs v = [image v] := by
  rw [← imageSibsG_dc default, ← imageG_dc default]
  exact imageSibsG_not_list hl

theorem fixed_point_value (S : Strconv) (sp name : Str) (attrs : List Attr) (kids : List Node)
    (hd : Conv.inDomain dc S (.elem sp name attrs kids) = true)
    (hn : NamesOk (.elem sp name attrs kids) = true) :
    ∃ n, encTree ec name (Conv.value dc S (.elem sp name attrs kids)).norm = .ok [n]
      ∧ (∃ a' k', n = .elem [] name a' k')
      ∧ Conv.inDomain dc S n = true
      ∧ Conv.doc dc S n = .map [(name, Conv.value dc S n)]
      ∧ Conv.value dc S n ≈ᵥ Conv.value dc S (.elem sp name attrs kids) := by
  simpa only [imageG_dc, elemKey_dc] using
    fixed_point_valueG sym_dc (foldLaw_dc S) (leafLaw_dc S) sp name attrs kids hd
      (by rwa [NamesOkG_dc])

theorem numPlainLaw_dc (S : Strconv) : NumPlainLaw dc S ec :=
  ⟨fun s t h => by rw [lf_dc] at h; cases h⟩

theorem DecodedChild_Plain : ∀ (v : Val), DecodedChild v = true → Plain ec v = true :=
  funext (DecodedChildG_dc default) ▸ DecodedChildG_Plain dc default ec (numPlainLaw_dc _)

theorem DecodedList_Plain : ∀ (xs : List Val), DecodedList xs = true → PlainList ec xs = true :=
  funext (DecodedListG_dc default) ▸ DecodedListG_Plain dc default ec (numPlainLaw_dc _)

theorem DecodedEntries_Plain : ∀ (kvs : Entries), DecodedEntries kvs = true →
    PlainEntries ec kvs = true :=
  funext (DecodedEntriesG_dc default) ▸ DecodedEntriesG_Plain dc default ec (numPlainLaw_dc _)

theorem Decoded_Plain (v : Val) (h : Decoded v = true) : Plain ec v = true :=
  DecodedChild_Plain v (Decoded_iff.1 h).2

/-- `SibsDomG dc S key ns` written out -/
def SibsDom (S : Strconv) (key : Str) (ns : List Node) : Prop :=
  ∀ n ∈ ns, ∃ attrs kids, n = .elem [] key attrs kids ∧ Conv.inDomain dc S n = true

theorem SibsDom.inDomain {S : Strconv} {key : Str} {ns : List Node} (h : SibsDom S key ns)
    {n : Node} (hn : n ∈ ns) : Conv.inDomain dc S n = true :=
  SibsDomG.inDomain (d := dc) h hn

theorem encTree_dom (S : Strconv) : ∀ (key : Str) (v : Val) (ns : List Node),
    encTree ec key v = .ok ns → SibsDom S key ns := fun key v ns =>
  encTree_domK sym_dc key v ns (keysFixed_dc S v)

theorem encMembers_dom (S : Strconv) (key : Str) : ∀ (xs : List Val) (ns : List Node),
    encMembers ec key xs = .ok ns → SibsDom S key ns := fun xs _ h =>
  encMembers_inv textK_not_attr h ▸ membersT_domK sym_dc key xs (keysFixedList_dc S xs)

theorem encElems_dom (S : Strconv) : ∀ (kvs : Entries) (ns : List Node),
    encElems ec kvs = .ok ns → Conv.inDomainKids dc S ns = true := fun kvs _ h =>
  encElems_inv textK_not_attr h ▸ elemsT_domK sym_dc kvs (keysFixedEntries_dc S kvs)

mutual
theorem EncDomain_norm : ∀ (v : Val), EncDomain v = true → EncDomain v.norm = true
  | .null, _ => rfl
  | .bool _, _ => rfl
  | .num _, _ => rfl
  | .str _, _ => rfl
  | .list xs, h => by
      simp only [EncDomain] at h
      simp only [Val.norm, EncDomain, EncDomainList_norm xs h]
  | .map kvs, h => by
      simp only [EncDomain, Bool.and_eq_true] at h
      simp only [Val.norm, EncDomain, Bool.and_eq_true]
      exact ⟨distinctKeys_norm h.1,
        entrywise_sortByKey EncDomainEntries_iff (EncDomainEntries_norm kvs h.2)⟩
theorem EncDomainList_norm : ∀ (xs : List Val), EncDomainList xs = true →
    EncDomainList (Val.normList xs) = true
  | [], _ => rfl
  | x :: xs, h => by
      simp only [EncDomainList, Bool.and_eq_true] at h
      simp only [Val.normList, EncDomainList, EncDomain_norm x h.1, EncDomainList_norm xs h.2,
        Bool.and_self]
theorem EncDomainEntries_norm : ∀ (kvs : Entries), EncDomainEntries kvs = true →
    EncDomainEntries (Val.normEntries kvs) = true
  | [], _ => rfl
  | (k, v) :: rest, h => by
      simp only [EncDomainEntries, Bool.and_eq_true] at h
      simp only [Val.normEntries, EncDomainEntries, Bool.and_eq_true, isScalar_norm]
      refine ⟨?_, EncDomainEntries_norm rest h.2⟩
      have h1 := h.1
      revert h1
      split
      · exact id
      · exact EncDomain_norm v
end

/-- for a value of the domain that is not a list the encoder builds ONE element, named `key` -/
theorem encTree_root (key : Str) {v : Val} (h : EncDomain v = true) (hl : v.isList = false) :
    ∃ attrs kids, encTree ec key v.norm = .ok [.elem [] key attrs kids] := by
  obtain ⟨attrs, kids, hT⟩ := encT_single ec key ((isList_norm v).trans hl)
  exact ⟨attrs, kids, hT ▸ encTree_ok key v.norm (EncDomain_norm v h)⟩

/-- `imageAttrs` and `imageElems` are `filterMap`s, with these bodies: so a permutation of the
    entries passes through them (`List.Perm.filterMap`, in `imageSibs_norm`) -/
def fAttr (e : Str × Val) : Option (Str × Val) :=
  if isAttrK ec e.1 then some (e.1, .str ((attrValue e.2).getD [])) else none

def fElem (e : Str × Val) : Option (Str × Val) :=
  if e.1 = ec.textK || isAttrK ec e.1 then none else some (e.1, collectV (imageSibs e.2))

theorem imageAttrs_filterMap (l : Entries) : imageAttrs l = l.filterMap fAttr := by
  fun_induction imageAttrs l <;> simp [fAttr, *]

theorem imageElems_filterMap : ∀ (l : Entries), imageElems l = l.filterMap fElem
  | [] => rfl
  | (k, v) :: rest => by
      simp only [imageElems, List.filterMap_cons, fElem, imageElems_filterMap rest]
      split <;> rfl

theorem imageAttrs_normEntries : ∀ (l : Entries), imageAttrs (Val.normEntries l) = imageAttrs l
  | [] => rfl
  | (k, v) :: rest => by
      simp only [Val.normEntries, imageAttrs, attrValue_norm, imageAttrs_normEntries rest]

theorem imageText_of_lookup {l l' : Entries}
    (h : lookup ec.textK l = (lookup ec.textK l').map Val.norm) : imageText l = imageText l' := by
  unfold imageText
  rw [h]
  cases lookup ec.textK l' with
  | none => rfl
  | some v => simp only [Option.map_some, leafText_norm]

theorem nodup_keys_base (kvs : Entries) (hd : (keys kvs).Nodup) :
    (keys (imageAttrs kvs ++ imageElems kvs)).Nodup := by
  rw [keys_append, keys_imageAttrs, keys_imageElems, List.nodup_append]
  refine ⟨hd.filter _, hd.filter _, fun a ha b hb e => ?_⟩
  subst e
  simp [isElemK, (List.mem_filter.1 ha).2] at hb

theorem finishImage_norm_congr (b b' : Entries) (t : Option Str)
    (hp : (Val.normEntries b).Perm (Val.normEntries b'))
    (hnd : (keys b).Nodup) (htk : ec.textK ∉ keys b) :
    (finishImage b t).norm = (finishImage b' t).norm := by
  have hemp : b.isEmpty = b'.isEmpty := by
    simpa only [normEntries_eq_map, List.isEmpty_map] using hp.isEmpty_eq
  cases t with
  | none =>
    simp only [finishImage, ← hemp]
    split
    · rfl
    · exact norm_map_congr hnd hp
  | some s =>
    simp only [finishImage, ← hemp]
    split
    · rfl
    · exact norm_map_congr (insert_of_not_mem htk ▸ nodup_keys_insert hnd)
        (by rw [normEntries_append, normEntries_append]; exact hp.append_right _)

mutual
theorem imageSibs_norm : ∀ (v : Val), v.wf = true →
    (imageSibs v.norm).map Val.norm = (imageSibs v).map Val.norm
  | .null, _ => rfl
  | .bool _, _ => rfl
  | .num _, _ => rfl
  | .str _, _ => rfl
  | .list xs, h => by
      simp only [Val.wf] at h
      simp only [Val.norm, imageSibs]
      have he : (Val.normList xs).isEmpty = xs.isEmpty := by cases xs <;> rfl
      rw [he]
      split
      · rfl
      · exact imageMembers_norm xs h
  | .map kvs, h => by
      -- sorting permutes the normalised entries (`hp`): the text entry is found by `lookup`, which a
      -- permutation of distinct keys does not change (`hT`); attribute and element entries go
      -- through the `filterMap`s, and the two images are maps with permuted normalised entries
      simp only [Val.wf, Bool.and_eq_true] at h
      have hp := sortByKey_perm (Val.normEntries kvs)
      have hnds := (distinctKeys_iff_nodup _).1 (distinctKeys_norm h.2)
      simp only [Val.norm, imageSibs, List.map_cons, List.map_nil, List.cons.injEq, and_true]
      have hT : imageText (sortByKey (Val.normEntries kvs)) = imageText kvs := by
        apply imageText_of_lookup
        rw [← lookup_eq_of_perm hp.symm hnds, lookup_normEntries]
      rw [hT]
      apply finishImage_norm_congr
      · rw [normEntries_append, normEntries_append]
        apply List.Perm.append
        · rw [imageAttrs_filterMap (sortByKey _), ← imageAttrs_normEntries kvs,
            imageAttrs_filterMap (Val.normEntries kvs)]
          exact perm_normEntries (hp.filterMap _)
        · rw [← imageElems_norm kvs h.1, imageElems_filterMap (sortByKey _),
            imageElems_filterMap (Val.normEntries kvs)]
          exact perm_normEntries (hp.filterMap _)
      · exact nodup_keys_base _ hnds
      · exact textK_not_mem_base _
theorem imageMembers_norm : ∀ (xs : List Val), Val.wfList xs = true →
    (imageMembers (Val.normList xs)).map Val.norm = (imageMembers xs).map Val.norm
  | [], _ => rfl
  | x :: xs, h => by
      simp only [Val.wfList, Bool.and_eq_true] at h
      simp only [Val.normList, imageMembers, List.map_append, imageSibs_norm x h.1,
        imageMembers_norm xs h.2]
theorem imageElems_norm : ∀ (kvs : Entries), Val.wfEntries kvs = true →
    Val.normEntries (imageElems (Val.normEntries kvs)) = Val.normEntries (imageElems kvs)
  | [], _ => rfl
  | (k, v) :: rest, h => by
      simp only [Val.wfEntries, Bool.and_eq_true] at h
      simp only [Val.normEntries, imageElems]
      split
      · exact imageElems_norm rest h.2
      · simp only [Val.normEntries, imageElems_norm rest h.2, List.cons.injEq, Prod.mk.injEq,
          true_and, and_true]
        exact collectV_norm_congr (imageSibs_norm v h.1)
end

theorem image_norm (v : Val) (hwf : v.wf = true) : image v.norm ≈ᵥ image v :=
  collectV_norm_congr (imageSibs_norm v hwf)

/-! ### `AnyXml` -/

/-- the tag and the value a member of a top-level list is written under: a single-entry map
    whose key can be an element name is unwrapped, anything else goes under `et` -/
def anyKV (cfg : EncCfg) (et : Str) (x : Val) : Str × Val :=
  match x with
  | .map [(tag, val)] => if tag = cfg.textK || isAttrK cfg tag then (et, x) else (tag, val)
  | x => (et, x)

/-- the case split `AnyXml` makes on a member of a top-level list is the choice `anyKV` makes -/
theorem anyKV_match {α : Type} (cfg : EncCfg) (et : Str) (f : Str → Val → α) (x : Val) :
    (match x with
      | .map [(tag, val)] => if tag = cfg.textK || isAttrK cfg tag then f et x else f tag val
      | x => f et x) = f (anyKV cfg et x).1 (anyKV cfg et x).2 := by
  fun_cases anyKV cfg et x <;> simp [*]

theorem anyGo_cons (cfg : EncCfg) (et : Str) (x : Val) (rest : List Val) :
    anyXml.go cfg et (x :: rest) =
      match marshal cfg (anyKV cfg et x).1 (anyKV cfg et x).2 with
      | .error e => .error e
      | .ok a => match anyXml.go cfg et rest with
        | .error e => .error e
        | .ok r => .ok (a ++ r) := by
  rw [← anyKV_match cfg et (marshal cfg)]
  rfl

theorem anyKV_plain (cfg : EncCfg) (et : Str) (x : Val) (hp : Plain cfg x = true) :
    Plain cfg (anyKV cfg et x).2 = true := by
  unfold anyKV
  split
  · split
    · exact hp
    · simp only [Plain, PlainEntries, Bool.and_eq_true] at hp
      exact hp.1.2
  · exact hp

theorem anyKV_wf (cfg : EncCfg) (et : Str) (x : Val) (hwf : x.wf = true) :
    (anyKV cfg et x).2.wf = true := by
  unfold anyKV
  split
  · split
    · exact hwf
    · simp only [Val.wf, Val.wfEntries, Bool.and_eq_true] at hwf
      exact hwf.1.1
  · exact hwf

theorem anyMember_eq (cfg : EncCfg) (et : Str) (x : Val) :
    anyMember cfg et x = encTree cfg (anyKV cfg et x).1 (anyKV cfg et x).2.norm :=
  anyKV_match cfg et (fun k v => encTree cfg k v.norm) x

theorem anyPairs_cons (et : Str) (x : Val) (rest : List Val) :
    anyPairs et (x :: rest)
      = (imageSibs (anyKV ec et x).2.norm).map ((anyKV ec et x).1, ·) ++ anyPairs et rest :=
  congrArg (· ++ anyPairs et rest) (anyKV_match ec et (fun k v => (imageSibs v.norm).map (k, ·)) x)

theorem anyGo_eq_render (cfg : EncCfg) (et : Str) : ∀ (xs : List Val), PlainList cfg xs = true →
    anyXml.go cfg et xs = (anyMembers cfg et xs).map (fun ns => ns.flatMap (render cfg))
  | [], _ => rfl
  | x :: rest, hp => by
      simp only [PlainList, Bool.and_eq_true] at hp
      rw [anyGo_cons, marshal_eq_render cfg _ _ (anyKV_plain cfg et x hp.1),
        anyGo_eq_render cfg et rest hp.2]
      simp only [anyMembers, anyMember_eq]
      cases encTree cfg (anyKV cfg et x).1 (anyKV cfg et x).2.norm <;>
        cases anyMembers cfg et rest <;> simp only [Except.map, List.flatMap_append]

theorem anyXml_eq_render (cfg : EncCfg) (v : Val) (rt et : Str) (hp : Plain cfg v = true) :
    anyXml cfg v rt et = (anyTree cfg v rt et).map (fun ns => ns.flatMap (render cfg)) := by
  cases v with
  | null =>
    simp only [anyXml, anyTree, Except.map, List.flatMap_singleton, render, renderAttrs, endOf,
      List.isEmpty_nil, if_true]
    cases cfg.goEmpty <;> simp
  | list xs =>
    simp only [Plain] at hp
    simp only [anyXml, anyTree, anyGo_eq_render cfg et xs hp]
    cases hE : anyMembers cfg et xs with
    | error e => rfl
    | ok kids =>
      -- no member: `<rt></rt>`, the rendering of an empty text child
      cases kids <;>
        simp [Except.map, render_nonempty, render_text, escIf_nil, renderAttrs]
  | map _ | bool _ | num _ | str _ => exact marshal_eq_render cfg rt _ hp

theorem anyMembers_childVals (S : Strconv) (et : Str) (xs : List Val) (ns : List Node) :
    Val.wfList xs = true → anyMembers ec et xs = .ok ns →
    Conv.childVals dc S 0 ns = anyPairs et xs := by
  -- the cases of `anyMembers`: 1 no member; 2 the first member fails; 3 the rest fails;
  -- 4 both succeed with `a`, `r` (the only one besides 1 that returns `.ok`)
  fun_induction anyMembers ec et xs generalizing ns with
  | case1 => rintro _ ⟨⟩; rfl
  | case4 x rest a ha r hr ih =>
    rintro hwf ⟨⟩
    simp only [Val.wfList, Bool.and_eq_true] at hwf
    rw [childVals_append, ih r hwf.2 hr, anyPairs_cons,
      childVals_encTree S _ _ a (wf_norm _ (anyKV_wf ec et x hwf.1)) (anyMember_eq .. ▸ ha)]
  | _ => nofun

theorem anyMembers_isElem (et : Str) (xs : List Val) (ns : List Node) :
    anyMembers ec et xs = .ok ns → ∀ n ∈ ns, isElem n = true := by
  fun_induction anyMembers ec et xs generalizing ns with
  | case1 => rintro ⟨⟩; nofun
  | case4 x _ a ha r hr ih =>
    rintro ⟨⟩
    exact List.forall_mem_append.2 ⟨encTree_isElem ec _ _ a (anyMember_eq .. ▸ ha), ih r hr⟩
  | _ => nofun

theorem siblingsValue_single (S : Strconv) (key : Str) (attrs : List Attr) (kids : List Node) :
    siblingsValue dc S [.elem [] key attrs kids]
      = .map [(key, Conv.value dc S (.elem [] key attrs kids))] := by
  unfold siblingsValue
  rw [childVals_single]
  exact congrArg Val.map (groupOnto_single key (List.cons_ne_nil _ []))

/-- the tree `AnyXml` builds decodes to `{rt: anyImage v et}` -/
theorem siblingsValue_anyTree (S : Strconv) (v : Val) (rt et : Str) (ns : List Node)
    (hwf : v.wf = true) (h : anyTree ec v rt et = .ok ns) :
    siblingsValue dc S ns = .map [(rt, anyImage v et)] := by
  cases v with
  | null =>
    simp only [anyTree, Except.ok.injEq] at h; subst h
    rw [siblingsValue_single, value_empty]; rfl
  | list xs =>
    simp only [Val.wf] at hwf
    simp only [anyTree] at h
    split at h
    · simp at h
    · rename_i kids hk
      simp only [Except.ok.injEq] at h; subst h
      rw [siblingsValue_single]
      have hcv := anyMembers_childVals S et xs kids hwf hk
      have hel := anyMembers_isElem et xs kids hk
      cases kids with
      | nil =>
        simp only [anyImage, ← hcv, Conv.childVals, groupOnto_nil, List.isEmpty_nil, if_true]
        rw [value_leaf]; rfl
      | cons k ks =>
        rw [List.isEmpty_cons, if_neg Bool.false_ne_true,
          value_elem_nil dc S _ _ _ _ (textRuns_elems dc _ _ hel), hcv]
        rfl
  | map _ | bool _ | num _ | str _ => exact siblingsValue_encTree S rt _ ns (wf_norm _ hwf) h

end Mxj.Enc
