/-
  Mxj.Lemmas.Conc — interleavings of read-only threads (Mxj.Model.Conc): a step of a thread leaves
  what the thread will have computed at its end (`runTh`) unchanged (`runTh_stepTh`), so does a
  step of the thread at any index of the list (`map_modifyAt_of_inv`), hence every schedule
  (`exec_results`, on which C17_interleaving_independent rests).
-/
import Mxj.Model.Conc
namespace Mxj.Conc

theorem runTh_stepTh {G L : Type} (g : G) (t : Th G L) : runTh g (stepTh g t) = runTh g t := by
  unfold stepTh runTh
  cases h : t.todo with
  | nil => simp [h]
  | cons s rest => simp

theorem map_modifyAt_of_inv {α β : Type} (f : α → α) (r : α → β) (h : ∀ a, r (f a) = r a)
    (i : Nat) (xs : List α) : (modifyAt f i xs).map r = xs.map r := by
  fun_induction modifyAt f i xs <;> simp [*]

/-- the length is the shape, and the shape is invariant under any `f` -/
theorem length_modifyAt {α : Type} (f : α → α) (i : Nat) (xs : List α) :
    (modifyAt f i xs).length = xs.length := by
  simpa using congrArg List.length (map_modifyAt_of_inv f (fun _ => ()) (fun _ => rfl) i xs)

theorem exec_results {G L : Type} (g : G) (schedule : List Nat) :
    ∀ ts : List (Th G L), (exec g ts schedule).map (runTh g) = ts.map (runTh g) := by
  induction schedule with
  | nil => intro ts; rfl
  | cons i rest ih =>
    intro ts
    show (exec g (pick g ts i) rest).map (runTh g) = _
    rw [ih, pick, map_modifyAt_of_inv _ _ (runTh_stepTh g)]

/-- the results keep their number: the lengths of the two sides of `exec_results` -/
theorem exec_length {G L : Type} (g : G) (schedule : List Nat) :
    ∀ ts : List (Th G L), (exec g ts schedule).length = ts.length := fun ts => by
  simpa using congrArg List.length (exec_results g schedule ts)

theorem runTh_done {G L : Type} (g : G) (t : Th G L) (h : t.todo.isEmpty = true) : runTh g t = t.loc := by
  unfold runTh
  cases ht : t.todo with
  | nil => rfl
  | cons s r => simp [ht] at h

end Mxj.Conc
