/-
  Mxj.Lemmas.LRel — `LRel L`: two values have the same shape (lists of the same length, maps with
  the same keys in the same order) and corresponding leaves are related by `L`; preservation by
  `insert`, `lookup`, `promote`, `addChild`.  The cast relations of the Map decoder (Mxj.Lemmas.Cast) and of the
  sequence decoder (Mxj.Lemmas.CastSeq) are instances.  The names are `CastSeq.*`: they keep the
  namespace of the module they first stood in.
-/
import Mxj.Lemmas.Decode
namespace Mxj
namespace CastSeq

mutual
/-- same shape, same keys in the same order, leaves related by `L` -/
def LRel (L : Val → Val → Prop) : Val → Val → Prop
  | .list xs, w => ∃ ys, w = .list ys ∧ LRelList L xs ys
  | .map kvs, w => ∃ kvs', w = .map kvs' ∧ LRelEntries L kvs kvs'
  | .null, w => L .null w
  | .bool b, w => L (.bool b) w
  | .num x, w => L (.num x) w
  | .str s, w => L (.str s) w
def LRelList (L : Val → Val → Prop) : List Val → List Val → Prop
  | [], ys => ys = []
  | x :: xs, ys => ∃ y ys', ys = y :: ys' ∧ LRel L x y ∧ LRelList L xs ys'
def LRelEntries (L : Val → Val → Prop) : Entries → Entries → Prop
  | [], b => b = []
  | (k, v) :: rest, b => ∃ w rest', b = (k, w) :: rest' ∧ LRel L v w ∧ LRelEntries L rest rest'
end

section Rel
variable {L : Val → Val → Prop}

theorem LRel_scalar {v w : Val} (hv : Dec.scalar v = true) : LRel L v w ↔ L v w := by
  cases v with
  | null | list _ | map _ => cases hv
  | bool _ | num _ | str _ => exact Iff.rfl

theorem LRel_list {xs ys : List Val} : LRel L (.list xs) (.list ys) ↔ LRelList L xs ys :=
  ⟨fun ⟨_, he, h⟩ => by cases he; exact h, fun h => ⟨ys, rfl, h⟩⟩

theorem LRel_map {a b : Entries} : LRel L (.map a) (.map b) ↔ LRelEntries L a b :=
  ⟨fun ⟨_, he, h⟩ => by cases he; exact h, fun h => ⟨b, rfl, h⟩⟩

theorem LRelList_nil : LRelList L [] [] := rfl

theorem LRelList_cons {x y : Val} {xs ys : List Val} :
    LRelList L (x :: xs) (y :: ys) ↔ LRel L x y ∧ LRelList L xs ys := by
  constructor
  · rintro ⟨_, _, he, h⟩; cases he; exact h
  · exact fun h => ⟨y, ys, rfl, h⟩

theorem LRelEntries_nil : LRelEntries L [] [] := rfl

theorem LRelEntries_cons {k k' : Str} {v w : Val} {a b : Entries} :
    LRelEntries L ((k, v) :: a) ((k', w) :: b) ↔ k = k' ∧ LRel L v w ∧ LRelEntries L a b := by
  constructor
  · rintro ⟨_, _, he, h⟩; cases he; exact ⟨rfl, h⟩
  · rintro ⟨rfl, h⟩; exact ⟨w, b, rfl, h⟩

theorem LRel_map_cons {k : Str} {v w : Val} {a b : Entries} (hv : LRel L v w)
    (h : LRel L (.map a) (.map b)) : LRel L (.map ((k, v) :: a)) (.map ((k, w) :: b)) :=
  LRel_map.2 (LRelEntries_cons.2 ⟨rfl, hv, LRel_map.1 h⟩)

theorem LRel_map_nil : LRel L (.map []) (.map []) := LRel_map.2 LRelEntries_nil

theorem LRelList_append : ∀ {xs ys xs' ys' : List Val}, LRelList L xs ys →
    LRelList L xs' ys' → LRelList L (xs ++ xs') (ys ++ ys')
  | [], ys, xs', ys', h, h' => by obtain rfl := h; exact h'
  | x :: xs, ys, xs', ys', h, h' => by
      obtain ⟨y, ys1, rfl, h1, h2⟩ := h
      exact LRelList_cons.2 ⟨h1, LRelList_append h2 h'⟩

theorem LRelEntries_keys : ∀ {a b : Entries}, LRelEntries L a b → keys a = keys b
  | [], b, h => by obtain rfl := h; rfl
  | (k, v) :: rest, b, h => by
      obtain ⟨w, b', rfl, _, h2⟩ := h
      exact congrArg (k :: ·) (LRelEntries_keys h2)

theorem LRelList_length : ∀ {a b : List Val}, LRelList L a b → a.length = b.length
  | [], b, h => by obtain rfl := h; rfl
  | x :: xs, b, h => by
      obtain ⟨y, ys, rfl, _, h2⟩ := h
      exact congrArg (· + 1) (LRelList_length h2)

variable (L) in
/-- relation on `lookup` results -/
def LRelOpt : Option Val → Option Val → Prop
  | none, none => True
  | some v, some w => LRel L v w
  | _, _ => False

theorem LRelOpt_none : LRelOpt L none none := True.intro

mutual
/-- if `L` only relates a leaf to itself, `LRel L` is equality -/
theorem LRel_eq (hL : ∀ v w, L v w → w = v) : ∀ (v w : Val), LRel L v w → w = v
  | .null, w, h | .bool _, w, h | .num _, w, h | .str _, w, h => hL _ _ h
  | .list xs, w, h => by
      obtain ⟨ys, rfl, h⟩ := h
      rw [LRelList_eq hL xs ys h]
  | .map a, w, h => by
      obtain ⟨b, rfl, h⟩ := h
      rw [LRelEntries_eq hL a b h]
theorem LRelList_eq (hL : ∀ v w, L v w → w = v) : ∀ (xs ys : List Val), LRelList L xs ys → ys = xs
  | [], ys, h => h
  | x :: xs, ys, h => by
      obtain ⟨y, ys', rfl, h1, h2⟩ := h
      rw [LRel_eq hL x y h1, LRelList_eq hL xs ys' h2]
theorem LRelEntries_eq (hL : ∀ v w, L v w → w = v) : ∀ (a b : Entries), LRelEntries L a b → b = a
  | [], b, h => h
  | (k, v) :: rest, b, h => by
      obtain ⟨w, b', rfl, h1, h2⟩ := h
      rw [LRel_eq hL v w h1, LRelEntries_eq hL rest b' h2]
end

variable (L) in
/-- `L` relates leaves to leaves only (the right-hand value is no list and no map) -/
def ScalarRight : Prop := ∀ v w, L v w → w.isList = false ∧ w.isMap = false

theorem LRelEntries_isEmpty {a b : Entries} (h : LRelEntries L a b) : b.isEmpty = a.isEmpty := by
  cases a with
  | nil => obtain rfl := h; rfl
  | cons hd rest =>
    obtain ⟨w, b', rfl, _, _⟩ := h
    rfl

theorem LRelEntries_lookup (k : Str) : ∀ {a b : Entries}, LRelEntries L a b →
    LRelOpt L (lookup k a) (lookup k b)
  | [], b, h => by obtain rfl := h; exact True.intro
  | (k', v) :: rest, b, h => by
      obtain ⟨w, b', rfl, h1, h2⟩ := h
      unfold lookup
      split
      · exact h1
      · exact LRelEntries_lookup k h2

theorem LRelEntries_insert (k : Str) {v w : Val} (hv : LRel L v w) :
    ∀ {a b : Entries}, LRelEntries L a b → LRelEntries L (insert k v a) (insert k w b)
  | [], b, h => by
      obtain rfl := h
      exact LRelEntries_cons.2 ⟨rfl, hv, LRelEntries_nil⟩
  | (k', v') :: rest, b, h => by
      obtain ⟨w', b', rfl, h1, h2⟩ := h
      unfold insert
      split
      · exact LRelEntries_cons.2 ⟨rfl, hv, h2⟩
      · exact LRelEntries_cons.2 ⟨rfl, h1, LRelEntries_insert k hv h2⟩

mutual
/-- if `L` relates every leaf to itself, `LRel L` is reflexive -/
theorem LRel_refl (hL : ∀ v, v.isList = false → v.isMap = false → L v v) : ∀ (v : Val), LRel L v v
  | .null | .bool _ | .num _ | .str _ => hL _ rfl rfl
  | .list xs => LRel_list.2 (LRelList_refl hL xs)
  | .map a => LRel_map.2 (LRelEntries_refl hL a)
theorem LRelList_refl (hL : ∀ v, v.isList = false → v.isMap = false → L v v) :
    ∀ (xs : List Val), LRelList L xs xs
  | [] => LRelList_nil
  | x :: xs => LRelList_cons.2 ⟨LRel_refl hL x, LRelList_refl hL xs⟩
theorem LRelEntries_refl (hL : ∀ v, v.isList = false → v.isMap = false → L v v) :
    ∀ (a : Entries), LRelEntries L a a
  | [] => LRelEntries_nil
  | (_, v) :: rest => LRelEntries_cons.2 ⟨rfl, LRel_refl hL v, LRelEntries_refl hL rest⟩
end

variable (hS : ScalarRight L)
include hS

theorem LRel_shape {v w : Val} (h : LRel L v w) : w.isList = v.isList ∧ w.isMap = v.isMap := by
  cases v with
  | list xs => obtain ⟨ys, rfl, _⟩ := h; exact ⟨rfl, rfl⟩
  | map a => obtain ⟨b, rfl, _⟩ := h; exact ⟨rfl, rfl⟩
  | null | bool _ | num _ | str _ => exact hS _ _ h

/-- the value `addChild` stores: appended to the list that is there, paired with the single value
    that is there, or stored as it is -/
theorem LRel_promote {o o' : Option Val} {v w : Val} (ho : LRelOpt L o o') (hv : LRel L v w) :
    LRel L (Dec.promote o v) (Dec.promote o' w) := by
  match o, o', ho with
  | none, none, _ => exact hv
  | some old, some wold, ho =>
    have two : LRel L (.list [old, v]) (.list [wold, w]) :=
      LRel_list.2 (LRelList_cons.2 ⟨ho, LRelList_cons.2 ⟨hv, LRelList_nil⟩⟩)
    have hl := (LRel_shape hS ho).1
    cases old with
    | list xs =>
      obtain ⟨ys, rfl, hxs⟩ := ho
      exact LRel_list.2 (LRelList_append hxs (LRelList_cons.2 ⟨hv, LRelList_nil⟩))
    | null | bool _ | num _ | str _ | map _ =>
      cases wold with
      | list _ => cases hl
      | null | bool _ | num _ | str _ | map _ => exact two

theorem LRelEntries_addChild {a b : Entries} (k : Str) {v w : Val}
    (hE : LRelEntries L a b) (hv : LRel L v w) :
    LRelEntries L (addChild a k v) (addChild b k w) := by
  rw [Dec.addChild_eq, Dec.addChild_eq]
  exact LRelEntries_insert k (LRel_promote hS (LRelEntries_lookup k hE) hv) hE

end Rel

end CastSeq
end Mxj
