/-
  Mxj.Lemmas.EncodeSym1 — C02 for every symmetric pair `(d, e)` of decoder / encoder options:
  the vocabulary (`Sym`, `FoldLaw`, `LeafLaw`, `DecodedG`, `KeysFixedG`, `imageG`, `NamesOkG`),
  the conventions in the vocabulary of the image (`value_finishG`), and "decoding the encoder's
  tree computes the image".
  Suffixes: `…G` marks the form for a general pair `(d, e)` of a definition or lemma that
  Model/EncTree.lean or Lemmas/Encode.lean states at the default pair (`DecodedG` / `Decoded`,
  `imageG` / `image`, `childVals_appendG` / `childVals_append`), `…_dc` (Lemmas/Encode.lean) the
  identification of the two; `…K` (Lemmas/EncodeSym3) a fact that needs `KeysFixedG` only.
-/
import Mxj.Lemmas.EncTotal
import Mxj.Lemmas.Decode
namespace Mxj.EncSym
open Mxj Mxj.Enc

/-- a symmetric decoder / encoder option pair, as far as the TREE level is concerned (the
    encoder's `escape` / `goEmpty` only matter for bytes): same attribute prefix; same text
    key, which is not itself an attribute key; no tag sequence numbers, no decoder-side
    escaping, no `checkTagToSkip` set.  (The prefix may be empty: then `NamesOkG` only admits
    attribute-free trees.) -/
structure Sym (d : DecCfg) (e : EncCfg) : Prop where
  pfx : e.attrPrefix = d.attrPrefix
  txt : e.textK = d.textK
  txt_not_attr : isAttrK e e.textK = false
  seq : d.seqNum = false
  esc : d.escDec = false
  skip : d.cast.skipSet = false

/-- the leaf conversion of the decoder (`cast`), key-independent without a skip set -/
def lf (d : DecCfg) (S : Strconv) (s : Str) : Val := cast S d.cast s []

/-- `strings.Trim` with the cut set of the configuration -/
def trimG (d : DecCfg) (s : Str) : Str := trimChars (trimSet d) s

/-- the folding applied to an attribute's local name -/
def attrFold (d : DecCfg) (S : Strconv) (name : Str) : Str :=
  let l := if d.snake then snakeCase name else name
  if d.lowerCase then S.lower l else l

theorem attrKey_eq (d : DecCfg) (S : Strconv) (n : Str) :
    attrKey d S n = d.attrPrefix ++ attrFold d S n := rfl

/-- key folding is idempotent (what `FoldLaw` asks of `strings.ToLower`, see `LowerLaw`) -/
structure FoldLaw (d : DecCfg) (S : Strconv) : Prop where
  elem_idem : ∀ s, elemKey d S (elemKey d S s) = elemKey d S s
  attr_idem : ∀ s, attrFold d S (attrFold d S s) = attrFold d S s

/-- the text the encoder writes for a cast leaf is cast back to the same leaf, and is clean
    (trimmed, non-empty) when it came from a trimmed non-empty text -/
structure LeafLaw (d : DecCfg) (S : Strconv) : Prop where
  scalar : ∀ s, isScalar (lf d S s) = true
  reparse : ∀ s, lf d S (leafText (lf d S s)) = lf d S s
  clean : ∀ s, trimG d s = s → s ≠ [] →
    trimG d (leafText (lf d S s)) = leafText (lf d S s) ∧ leafText (lf d S s) ≠ []

variable {d : DecCfg} {S : Strconv} {e : EncCfg}

theorem cast_key (h : d.cast.skipSet = false) (s k : Str) : cast S d.cast s k = lf d S s := by
  simp only [lf, cast, h, Bool.false_and, Bool.false_eq_true, if_false]

theorem textOf_eq (h : d.escDec = false) (s : Str) : Conv.textOf d s = trimG d s := by
  simp only [Conv.textOf, escDecIf, trimG, h, Bool.false_eq_true, if_false]

theorem seqDecorate_off (h : d.seqNum = false) (seq : Nat) (v : Val) :
    seqDecorate d seq v = (v, seq) := by
  simp only [seqDecorate, h, Bool.not_false, if_true]

theorem isAttrK_drop (e : EncCfg) (k : Str) (h : isAttrK e k = true) :
    e.attrPrefix ++ k.drop e.attrPrefix.length = k := by
  unfold isAttrK at h
  simp only [Bool.and_eq_true] at h
  exact List.prefix_iff_eq_append.1 (List.isPrefixOf_iff_prefix.1 h.2)

theorem isAttrK_append (e : EncCfg) (hne : e.attrPrefix ≠ []) (x : Str) :
    isAttrK e (e.attrPrefix ++ x) = !x.isEmpty := by
  have h2 : e.attrPrefix.isPrefixOf (e.attrPrefix ++ x) = true :=
    List.isPrefixOf_iff_prefix.2 (List.prefix_append _ _)
  cases x <;> simp [isAttrK, h2, hne]

/-- an attribute entry: a scalar that is the cast of its own text -/
def attrOk (d : DecCfg) (S : Strconv) (v : Val) : Bool :=
  isScalar v && decide (lf d S (leafText v) = v)

/-- a text entry / simple element value: additionally its text is trimmed and non-empty -/
def textOk (d : DecCfg) (S : Strconv) (v : Val) : Bool :=
  attrOk d S v && (trimG d (leafText v) == leafText v) && !(leafText v).isEmpty

/-- a leaf in child position: `""` (empty element) or — unless simple values decode as maps —
    a text value -/
def leafChildOk (d : DecCfg) (S : Strconv) (v : Val) : Bool :=
  decide (v = .str []) || (!d.asMap && textOk d S v)

mutual
/-- the shape of what the decoder stores under a key, for the options `d` (and the encoder's
    `e` to classify keys): see `Mxj.DecodedChild` for the default options.  In addition every
    key is a fixed point of the key folding. -/
def DecodedChildG (d : DecCfg) (S : Strconv) (e : EncCfg) : Val → Bool
  | .str s => leafChildOk d S (.str s)
  | .num t => leafChildOk d S (.num t)
  | .bool b => leafChildOk d S (.bool b)
  | .null => false
  | .map kvs =>
      distinctKeys kvs
      && (kvs.any (fun x => x.1 != e.textK) || (d.asMap && !kvs.isEmpty))
      && DecodedEntriesG d S e kvs
  | .list xs => decide (2 ≤ xs.length) && DecodedListG d S e xs
def DecodedListG (d : DecCfg) (S : Strconv) (e : EncCfg) : List Val → Bool
  | [] => true
  | x :: xs => !x.isList && DecodedChildG d S e x && DecodedListG d S e xs
def DecodedEntriesG (d : DecCfg) (S : Strconv) (e : EncCfg) : Entries → Bool
  | [] => true
  | (k, v) :: rest =>
      (if isAttrK e k then
         attrOk d S v && decide (attrKey d S (k.drop e.attrPrefix.length) = k)
       else if k = e.textK then textOk d S v
       else decide (elemKey d S k = k) && DecodedChildG d S e v)
      && DecodedEntriesG d S e rest
end

/-- the shape of an element's value: as above, but not a list -/
def DecodedG (d : DecCfg) (S : Strconv) (e : EncCfg) (v : Val) : Bool :=
  !v.isList && DecodedChildG d S e v

mutual
/-- names of a tree that survive decode → encode: every attribute key is recognised as an
    attribute key by the encoder (its folded local name is non-empty), and no child element's
    key is (it does not properly extend the attribute prefix) -/
def NamesOkG (d : DecCfg) (S : Strconv) (e : EncCfg) : Node → Bool
  | .elem _ _ attrs kids =>
      attrs.all (fun a => isAttrK e (attrKey d S a.name)) && NamesOkKidsG d S e kids
  | _ => true
def NamesOkKidsG (d : DecCfg) (S : Strconv) (e : EncCfg) : List Node → Bool
  | [] => true
  | .elem sp name attrs kids :: rest =>
      !isAttrK e (elemKey d S name) && NamesOkG d S e (.elem sp name attrs kids)
      && NamesOkKidsG d S e rest
  | _ :: rest => NamesOkKidsG d S e rest
end

theorem attrOk_scalar {v : Val} (h : attrOk d S v = true) : isScalar v = true := by
  simp only [attrOk, Bool.and_eq_true] at h
  exact h.1

theorem attrOk_reparse {v : Val} (h : attrOk d S v = true) : lf d S (leafText v) = v := by
  simp only [attrOk, Bool.and_eq_true, decide_eq_true_eq] at h
  exact h.2

theorem textOk_attrOk {v : Val} (h : textOk d S v = true) : attrOk d S v = true := by
  simp only [textOk, Bool.and_eq_true] at h
  exact h.1.1

theorem textOk_scalar {v : Val} (h : textOk d S v = true) : isScalar v = true :=
  attrOk_scalar (textOk_attrOk h)

theorem DecodedChildG_scalar {v : Val} (hv : isScalar v = true) :
    DecodedChildG d S e v = leafChildOk d S v :=
  match v, hv with
  | .str _, _ | .num _, _ | .bool _, _ => rfl

theorem DecodedEntriesG_cons {k : Str} {v : Val} {rest : Entries}
    (h : DecodedEntriesG d S e ((k, v) :: rest) = true) :
    DecodedEntriesG d S e rest = true ∧
      ((isAttrK e k = true ∧ attrOk d S v = true
          ∧ attrKey d S (k.drop e.attrPrefix.length) = k)
        ∨ (isAttrK e k = false ∧ k = e.textK ∧ textOk d S v = true)
        ∨ (isAttrK e k = false ∧ k ≠ e.textK ∧ elemKey d S k = k
            ∧ DecodedChildG d S e v = true)) := by
  simp only [DecodedEntriesG, Bool.and_eq_true] at h
  refine ⟨h.2, ?_⟩
  have h1 := h.1
  cases ha : isAttrK e k
  · by_cases hk : k = e.textK
    · subst hk
      simp only [ha, Bool.false_eq_true, if_false, if_true] at h1
      exact .inr (.inl ⟨rfl, rfl, h1⟩)
    · simp only [ha, hk, Bool.false_eq_true, if_false, Bool.and_eq_true, decide_eq_true_eq] at h1
      exact .inr (.inr ⟨rfl, hk, h1⟩)
  · simp only [ha, if_true, Bool.and_eq_true, decide_eq_true_eq] at h1
    exact .inl ⟨rfl, h1⟩

def entryDecodedG (d : DecCfg) (S : Strconv) (e : EncCfg) (x : Str × Val) : Bool :=
  if isAttrK e x.1 then
    attrOk d S x.2 && decide (attrKey d S (x.1.drop e.attrPrefix.length) = x.1)
  else if x.1 = e.textK then textOk d S x.2
  else decide (elemKey d S x.1 = x.1) && DecodedChildG d S e x.2

theorem DecodedEntriesG_iff : ∀ (l : Entries),
    DecodedEntriesG d S e l = true ↔ ∀ x ∈ l, entryDecodedG d S e x = true
  | [] => by simp [DecodedEntriesG]
  | (k, v) :: rest => by
      simp only [DecodedEntriesG, Bool.and_eq_true, DecodedEntriesG_iff rest, List.mem_cons,
        forall_eq_or_imp, entryDecodedG]

theorem DecodedChildG_map {kvs : Entries} (h : DecodedChildG d S e (.map kvs) = true) :
    (keys kvs).Nodup ∧ DecodedEntriesG d S e kvs = true := by
  simp only [DecodedChildG, Bool.and_eq_true] at h
  exact ⟨(distinctKeys_iff_nodup kvs).1 h.1.1, h.2⟩

theorem DecodedChildG_list {xs : List Val} (h : DecodedChildG d S e (.list xs) = true) :
    2 ≤ xs.length ∧ DecodedListG d S e xs = true := by
  simpa only [DecodedChildG, Bool.and_eq_true, decide_eq_true_eq] using h

theorem DecodedListG_cons {x : Val} {xs : List Val} (h : DecodedListG d S e (x :: xs) = true) :
    (x.isList = false ∧ DecodedChildG d S e x = true) ∧ DecodedListG d S e xs = true := by
  simpa only [DecodedListG, Bool.and_eq_true, Bool.not_eq_true'] using h

theorem DecodedG_iff {v : Val} :
    DecodedG d S e v = true ↔ v.isList = false ∧ DecodedChildG d S e v = true := by
  simp only [DecodedG, Bool.and_eq_true, Bool.not_eq_true']

mutual
/-- every attribute key and every element key in the value is a fixed point of the decoder's key
    folding (all that decoding the encoder's tree uses of the decoded shape, besides distinct
    keys); with the default options every value is of this kind -/
def KeysFixedG (d : DecCfg) (S : Strconv) (e : EncCfg) : Val → Bool
  | .map kvs => KeysFixedEntriesG d S e kvs
  | .list xs => KeysFixedListG d S e xs
  | _ => true
def KeysFixedListG (d : DecCfg) (S : Strconv) (e : EncCfg) : List Val → Bool
  | [] => true
  | x :: xs => KeysFixedG d S e x && KeysFixedListG d S e xs
def KeysFixedEntriesG (d : DecCfg) (S : Strconv) (e : EncCfg) : Entries → Bool
  | [] => true
  | (k, v) :: rest =>
      (if isAttrK e k then decide (attrKey d S (k.drop e.attrPrefix.length) = k)
       else decide (k = e.textK) || (decide (elemKey d S k = k) && KeysFixedG d S e v))
      && KeysFixedEntriesG d S e rest
end

theorem KeysFixedEntriesG_cons {k : Str} {v : Val} {rest : Entries}
    (h : KeysFixedEntriesG d S e ((k, v) :: rest) = true) :
    KeysFixedEntriesG d S e rest = true
      ∧ (isAttrK e k = true → attrKey d S (k.drop e.attrPrefix.length) = k)
      ∧ ((k = e.textK || isAttrK e k) = false →
          elemKey d S k = k ∧ KeysFixedG d S e v = true) := by
  simp only [KeysFixedEntriesG, Bool.and_eq_true] at h
  refine ⟨h.2, fun ha => ?_, fun hk => ?_⟩
  · simpa only [ha, if_true, decide_eq_true_eq] using h.1
  · rw [Bool.or_eq_false_iff] at hk
    simpa only [hk.1, hk.2, Bool.false_eq_true, if_false, Bool.false_or, Bool.and_eq_true,
      decide_eq_true_eq] using h.1

mutual
theorem DecodedChildG_keysFixed : ∀ (v : Val), DecodedChildG d S e v = true →
    KeysFixedG d S e v = true
  | .null, _ | .bool _, _ | .num _, _ | .str _, _ => rfl
  | .list xs, h => DecodedListG_keysFixed xs (DecodedChildG_list h).2
  | .map kvs, h => DecodedEntriesG_keysFixed kvs (DecodedChildG_map h).2
theorem DecodedListG_keysFixed : ∀ (xs : List Val), DecodedListG d S e xs = true →
    KeysFixedListG d S e xs = true
  | [], _ => rfl
  | x :: xs, h => by
      have h := DecodedListG_cons h
      simp only [KeysFixedListG, DecodedChildG_keysFixed x h.1.2, DecodedListG_keysFixed xs h.2,
        Bool.and_self]
theorem DecodedEntriesG_keysFixed : ∀ (kvs : Entries), DecodedEntriesG d S e kvs = true →
    KeysFixedEntriesG d S e kvs = true
  | [], _ => rfl
  | (k, v) :: rest, h => by
      obtain ⟨hr, ⟨ha, _, hk⟩ | ⟨ha, rfl, _⟩ | ⟨ha, hk, hf, hv⟩⟩ := DecodedEntriesG_cons h
      all_goals simp only [KeysFixedEntriesG, DecodedEntriesG_keysFixed rest hr, Bool.and_true]
      · simp only [ha, if_true, hk, decide_true]
      · simp only [ha, Bool.false_eq_true, if_false, decide_true, Bool.true_or]
      · simp only [ha, Bool.false_eq_true, if_false, hf, decide_true,
          DecodedChildG_keysFixed v hv, Bool.and_self, Bool.or_true]
end

/-- attribute entries come back cast (untrimmed) under the same key -/
def imageAttrsG (d : DecCfg) (S : Strconv) (e : EncCfg) : Entries → Entries
  | [] => []
  | (k, v) :: rest =>
      if isAttrK e k then (k, lf d S ((attrValue v).getD [])) :: imageAttrsG d S e rest
      else imageAttrsG d S e rest

/-- what a text comes back as: nothing when trimming leaves nothing, else the cast -/
def textImg (d : DecCfg) (S : Strconv) (s : Str) : Option Val :=
  if (trimG d s).isEmpty then none else some (lf d S (trimG d s))

def imageTextG (d : DecCfg) (S : Strconv) (e : EncCfg) (kvs : Entries) : Option Val :=
  match lookup e.textK kvs with
  | some tv => textImg d S (leafText tv)
  | none => none

/-- an element with nothing in it is `""`; with only text it is the text (a `{text key: text}`
    map under simple-values-as-map); otherwise a map -/
def finishImageG (d : DecCfg) (e : EncCfg) (base : Entries) (txt : Option Val) : Val :=
  match txt with
  | none => if base.isEmpty then .str [] else .map base
  | some t => if base.isEmpty && !d.asMap then t else .map (base ++ [(e.textK, t)])

mutual
def imageSibsG (d : DecCfg) (S : Strconv) (e : EncCfg) : Val → List Val
  | .list xs => if xs.isEmpty then [.str []] else imageMembersG d S e xs
  | .map kvs =>
      [finishImageG d e (imageAttrsG d S e kvs ++ imageElemsG d S e kvs) (imageTextG d S e kvs)]
  | .null => [.str []]
  | .str s => [finishImageG d e [] (textImg d S s)]
  | .num t => [finishImageG d e [] (textImg d S (numText t))]
  | .bool b => [finishImageG d e [] (textImg d S (leafText (.bool b)))]
def imageMembersG (d : DecCfg) (S : Strconv) (e : EncCfg) : List Val → List Val
  | [] => []
  | x :: xs => imageSibsG d S e x ++ imageMembersG d S e xs
def imageElemsG (d : DecCfg) (S : Strconv) (e : EncCfg) : Entries → Entries
  | [] => []
  | (k, v) :: rest =>
      if k = e.textK || isAttrK e k then imageElemsG d S e rest
      else (k, collectV (imageSibsG d S e v)) :: imageElemsG d S e rest
end

/-- what a value stored under some key comes back as -/
def imageG (d : DecCfg) (S : Strconv) (e : EncCfg) (v : Val) : Val :=
  collectV (imageSibsG d S e v)

theorem imageSibsG_scalar {v : Val} (hv : isScalar v = true) :
    imageSibsG d S e v = [finishImageG d e [] (textImg d S (leafText v))] :=
  match v, hv with
  | .str _, _ | .num _, _ | .bool _, _ => rfl

theorem imageSibsG_not_list {v : Val} (hl : v.isList = false) :
    imageSibsG d S e v = [imageG d S e v] := by
  cases v <;> first | rfl | cases hl

/-- a key whose entry becomes child elements: neither the text key nor an attribute key -/
def isElemKG (e : EncCfg) (k : Str) : Bool := !(k = e.textK || isAttrK e k)

theorem isElemKG_iff {e : EncCfg} {k : Str} :
    isElemKG e k = true ↔ k ≠ e.textK ∧ isAttrK e k = false := by
  simp [isElemKG]

/-- the `(key, value)` sequence the children of a map element decode to -/
def elemPairsG (d : DecCfg) (S : Strconv) (e : EncCfg) : Entries → List (Str × Val)
  | [] => []
  | (k, v) :: rest =>
      if k = e.textK || isAttrK e k then elemPairsG d S e rest
      else (imageSibsG d S e v).map (k, ·) ++ elemPairsG d S e rest

mutual
theorem imageSibsG_ne_nil (d : DecCfg) (S : Strconv) (e : EncCfg) :
    ∀ (v : Val), imageSibsG d S e v ≠ []
  | .null | .bool _ | .num _ | .str _ | .map _ => List.cons_ne_nil _ _
  | .list [] => List.cons_ne_nil _ _
  | .list (x :: xs) => imageMembersG_ne_nil d S e (x :: xs) (List.cons_ne_nil _ _)
theorem imageMembersG_ne_nil (d : DecCfg) (S : Strconv) (e : EncCfg) :
    ∀ (xs : List Val), xs ≠ [] → imageMembersG d S e xs ≠ []
  | [], h => absurd rfl h
  | x :: xs, _ => by
      simp only [imageMembersG, ne_eq, List.append_eq_nil_iff, imageSibsG_ne_nil d S e x,
        false_and, not_false_eq_true]
end

theorem keys_imageAttrsG : ∀ (kvs : Entries),
    keys (imageAttrsG d S e kvs) = (keys kvs).filter (isAttrK e)
  | [] => rfl
  | (k, v) :: rest => by
      simp only [imageAttrsG, keys_cons, List.filter_cons]
      split <;> simp only [keys_cons, keys_imageAttrsG rest]

theorem keys_imageElemsG : ∀ (kvs : Entries),
    keys (imageElemsG d S e kvs) = (keys kvs).filter (isElemKG e)
  | [] => rfl
  | (k, v) :: rest => by
      simp only [imageElemsG, keys_cons, List.filter_cons, isElemKG]
      split <;> rename_i h <;>
        simp only [h, Bool.not_true, Bool.not_false, Bool.false_eq_true, if_false, if_true,
          keys_cons, keys_imageElemsG rest]

theorem keys_elemPairsG_sub (kvs : Entries) (q : Str) :
    q ∈ keys (elemPairsG d S e kvs) → q ∈ keys kvs := by
  fun_induction elemPairsG d S e kvs with
  | case1 => exact id
  | case2 k v rest _ ih => exact fun h => .tail _ (ih h)
  | case3 k v rest _ ih =>
    rw [keys_append, List.mem_append]
    rintro (h | h)
    · obtain ⟨x, hx, rfl⟩ := mem_keys.1 h
      obtain ⟨_, _, rfl⟩ := List.mem_map.1 hx
      exact .head _
    · exact .tail _ (ih h)

theorem textK_not_mem_baseG (hta : isAttrK e e.textK = false) (vv : Entries) :
    e.textK ∉ keys (imageAttrsG d S e vv ++ imageElemsG d S e vv) := by
  simp [keys_append, keys_imageAttrsG, keys_imageElemsG, hta, isElemKG_iff]

theorem groupOnto_elemPairsG : ∀ (kvs : Entries) (base : Entries), (keys kvs).Nodup →
    (∀ q ∈ keys kvs, isElemKG e q = true → q ∉ keys base) →
    Conv.groupOnto base (elemPairsG d S e kvs) = base ++ imageElemsG d S e kvs
  | [], base, _, _ => by simp [elemPairsG, imageElemsG, groupOnto_nil]
  | (k, v) :: rest, base, hd, hb => by
      simp only [keys_cons, List.nodup_cons] at hd
      have hb' : ∀ q ∈ keys rest, isElemKG e q = true → q ∉ keys base :=
        fun q hq => hb q (.tail _ hq)
      simp only [elemPairsG, imageElemsG]
      split
      · exact groupOnto_elemPairsG rest base hd.2 hb'
      · rename_i hk
        have hk' : isElemKG e k = true := by simpa [isElemKG_iff] using hk
        rw [groupOnto_block base k _ _ (imageSibsG_ne_nil d S e v) (hb k (.head _) hk')
          (fun h => hd.1 (keys_elemPairsG_sub rest k h)),
          groupOnto_elemPairsG rest _ hd.2, List.append_assoc]
        · rfl
        · intro q hq he
          rw [keys_append, List.mem_append, not_or]
          refine ⟨hb' q hq he, ?_⟩
          simp only [keys, List.map_cons, List.map_nil, List.mem_singleton]
          rintro rfl
          exact hd.1 hq

theorem loadAttrs_eqG (hs : Sym d e) (attrs : List Attr) :
    loadAttrs d S attrs
      = attrs.foldl (fun na a => insert (attrKey d S a.name) (lf d S a.value) na) [] := by
  unfold loadAttrs
  congr 1
  funext na a
  simp only [escDecIf, hs.esc, Bool.false_eq_true, if_false, cast_key hs.skip]

theorem foldl_insert_fresh (f : Attr → Str × Val) : ∀ (attrs : List Attr) (acc : Entries),
    (keys acc ++ keys (attrs.map f)).Nodup →
    attrs.foldl (fun na a => insert (f a).1 (f a).2 na) acc = acc ++ attrs.map f
  | [], acc, _ => (List.append_nil acc).symm
  | a :: as, acc, h => by
      have hk : (f a).1 ∉ keys acc := fun hm => (List.nodup_append.1 h).2.2 _ hm _ (.head _) rfl
      rw [List.foldl_cons, insert_of_not_mem hk, foldl_insert_fresh f as, List.append_assoc]
      · rfl
      · simpa [keys_append, keys] using h

theorem mem_loadAttrsG (hs : Sym d e) (attrs : List Attr) :
    ∀ x ∈ loadAttrs d S attrs, ∃ a ∈ attrs, x = (attrKey d S a.name, lf d S a.value) := by
  rw [loadAttrs_eqG hs]
  exact List.foldlRecOn attrs _
    (motive := fun na => ∀ x ∈ na, ∃ a ∈ attrs, x = (attrKey d S a.name, lf d S a.value))
    (fun _ h => nomatch h)
    fun na ih a ha => forall_mem_insert ⟨a, ha, rfl⟩ ih

theorem attrsT_imageG : ∀ (kvs : Entries), KeysFixedEntriesG d S e kvs = true →
    (attrsT e kvs).map (fun a => (attrKey d S a.name, lf d S a.value)) = imageAttrsG d S e kvs
  | [], _ => rfl
  | (k, v) :: rest, hD => by
      obtain ⟨hr, hA, _⟩ := KeysFixedEntriesG_cons hD
      simp only [attrsT, imageAttrsG]
      split
      · rename_i ha
        simp only [List.map_cons, attrT, hA ha, attrsT_imageG rest hr]
      · exact attrsT_imageG rest hr

theorem loadAttrs_attrsT (hs : Sym d e) {kvs : Entries}
    (hd : (keys kvs).Nodup) (hD : KeysFixedEntriesG d S e kvs = true) :
    loadAttrs d S (attrsT e kvs) = imageAttrsG d S e kvs := by
  have hi := attrsT_imageG kvs hD
  rw [loadAttrs_eqG hs, foldl_insert_fresh (fun a => (attrKey d S a.name, lf d S a.value)) _ [], hi]
  · rfl
  · rw [hi, keys_imageAttrsG]
    exact hd.filter _

theorem childVals_elemG (hseq : d.seqNum = false) (sp name : Str) (attrs : List Attr)
    (kids ks : List Node) (seq : Nat) :
    Conv.childVals d S seq (.elem sp name attrs kids :: ks)
      = (elemKey d S name, Conv.value d S (.elem sp name attrs kids))
          :: Conv.childVals d S seq ks := by
  simp only [Conv.childVals, seqDecorate_off hseq]

theorem childVals_appendG (hseq : d.seqNum = false) :
    ∀ (a b : List Node) (seq : Nat),
    Conv.childVals d S seq (a ++ b) = Conv.childVals d S seq a ++ Conv.childVals d S seq b
  | [], _, _ => rfl
  | n :: a, b, seq => by
      cases n <;>
        simp only [List.cons_append, Conv.childVals, seqDecorate_off hseq,
          childVals_appendG hseq a b]

theorem value_elemsG (key : Str) (attrs : List Attr) {kids : List Node}
    (hk : ∀ n ∈ kids, isElem n = true) :
    Conv.value d S (.elem [] key attrs kids)
      = finishImageG d e (Conv.groupOnto (loadAttrs d S attrs) (Conv.childVals d S 0 kids))
          none := by
  rw [value_elem_nil d S _ _ _ _ (textRuns_elems d kids _ hk)]; rfl

/-- every text run is trimmed and non-empty; an early one has nothing recorded before it, a late
    one occurs only beside an attribute (or as-map) or a child element -/
theorem textRuns_spec (hs : Sym d e) (ks : List Node) (seen : Bool) :
    ∀ t ∈ Conv.textRuns d seen ks, (trimG d t.value = t.value ∧ t.value ≠ [])
      ∧ (t.early = true → seen = false)
      ∧ (t.early = false → seen = true ∨ Conv.childVals d S 0 ks ≠ []) := by
  fun_induction Conv.textRuns d seen ks with
  | case1 => nofun
  | case2 seen s rest tt hte ih => exact ih      -- blank text
  | case3 seen s rest tt hte ih =>               -- a run, and the runs after it
    intro t h
    rcases List.mem_cons.1 h with rfl | h
    · refine ⟨⟨?_, fun he => hte (by simp only at he; rw [he]; rfl)⟩, ?_⟩
      · simp only [tt, textOf_eq hs.esc]
        exact trimChars_idem _ s
      · cases seen <;> simp
    · exact ih t h
  | case4 _ _ _ _ _ rest ih =>                   -- an element: what follows is late
    intro t h
    have := ih t h
    rw [childVals_elemG hs.seq]
    exact ⟨this.1, fun he => Bool.noConfusion (this.2.1 he), fun _ => .inr (List.cons_ne_nil _ _)⟩
  | case5 seen n rest h1 h2 ih =>                -- comment, directive, processing instruction
    cases n with
    | text s => exact (h1 s rfl).elim
    | elem => exact (h2 _ _ _ _ rfl).elim
    | _ => exact ih

/-- the conventions in the vocabulary of the image: an element's value is `finishImageG` of its
    grouped entries and the cast of its first text run -/
theorem value_finishG (hs : Sym d e) (sp name : Str) (attrs : List Attr) (kids : List Node)
    (hnot : e.textK ∉ keys (Conv.groupOnto (loadAttrs d S attrs) (Conv.childVals d S 0 kids))) :
    Conv.value d S (.elem sp name attrs kids)
      = finishImageG d e (Conv.groupOnto (loadAttrs d S attrs) (Conv.childVals d S 0 kids))
          ((Conv.textRuns d (!(loadAttrs d S attrs).isEmpty || d.asMap) kids).head?.map
            (lf d S ·.value)) := by
  cases hruns : Conv.textRuns d (!(loadAttrs d S attrs).isEmpty || d.asMap) kids with
  | nil => rw [value_elem_nil d S _ _ _ _ hruns]; rfl
  | cons t r =>
    obtain ⟨_, hearly, hlate⟩ := textRuns_spec (S := S) hs kids _ t (by rw [hruns]; exact .head _)
    rw [value_elem_cons d S _ _ _ _ t r hruns, cast_key hs.skip, cast_key hs.skip, ← hs.txt,
      insert_of_not_mem hnot]
    simp only [List.head?_cons, Option.map_some, finishImageG]
    -- text is early iff there are no attributes and simple values are not maps
    cases he : t.early
    · have hb : (Conv.groupOnto (loadAttrs d S attrs) (Conv.childVals d S 0 kids)).isEmpty = false
          ∨ d.asMap = true := by
        rcases hlate he with h | h
        · simp only [Bool.or_eq_true, Bool.not_eq_true'] at h
          exact h.imp (fun h => groupOnto_not_isEmpty _ _ (.inl h)) id
        · exact .inl (groupOnto_not_isEmpty _ _ (.inr h))
      rcases hb with hb | hb <;> simp [hb]
    · have := hearly he
      simp only [Bool.or_eq_false_iff] at this
      simp [this.2]

theorem value_text_elemsG (hs : Sym d e) (key : Str) (attrs : List Attr) (t : Str)
    {kids : List Node} (hk : ∀ n ∈ kids, isElem n = true)
    (hnot : e.textK ∉ keys (Conv.groupOnto (loadAttrs d S attrs) (Conv.childVals d S 0 kids))) :
    Conv.value d S (.elem [] key attrs (.text t :: kids))
      = finishImageG d e (Conv.groupOnto (loadAttrs d S attrs) (Conv.childVals d S 0 kids))
          (textImg d S t) := by
  rw [value_finishG hs _ _ _ _ (by simpa only [Conv.childVals] using hnot)]
  simp only [Conv.childVals, Conv.textRuns, textOf_eq hs.esc, textRuns_elems d kids _ hk, textImg]
  split <;> rfl

theorem value_scalarG (hs : Sym d e) (key : Str) {v : Val} {kids : List Node}
    (hk : (kids = [] ∧ leafText v = []) ∨ kids = [.text (leafText v)]) :
    Conv.value d S (.elem [] key [] kids) = finishImageG d e [] (textImg d S (leafText v)) := by
  rcases hk with ⟨rfl, ht⟩ | rfl
  · rw [ht, value_elemsG (e := e) key [] (by simp)]; rfl
  · exact value_text_elemsG hs key [] _ (by simp) (by simp [Conv.childVals, Conv.groupOnto, loadAttrs, keys])

theorem childVals_singleG (hseq : d.seqNum = false) (key : Str) (attrs : List Attr)
    (kids : List Node) :
    Conv.childVals d S 0 [.elem [] key attrs kids]
      = [(elemKey d S key, Conv.value d S (.elem [] key attrs kids))] := by
  rw [childVals_elemG hseq]; rfl

theorem value_map_nodeG (hs : Sym d e) (key : Str) {vv : Entries} {attrs : List Attr}
    {kids : List Node} (hd : (keys vv).Nodup)
    (hLA : loadAttrs d S attrs = imageAttrsG d S e vv) (hk : ∀ n ∈ kids, isElem n = true)
    (hcv : Conv.childVals d S 0 kids = elemPairsG d S e vv) :
    Conv.value d S (.elem [] key attrs (textT e vv ++ kids))
      = finishImageG d e (imageAttrsG d S e vv ++ imageElemsG d S e vv) (imageTextG d S e vv) := by
  have hbase : Conv.groupOnto (loadAttrs d S attrs) (Conv.childVals d S 0 kids)
      = imageAttrsG d S e vv ++ imageElemsG d S e vv := by
    rw [hLA, hcv]
    apply groupOnto_elemPairsG vv _ hd
    intro q _ he hm
    rw [keys_imageAttrsG, List.mem_filter, (isElemKG_iff.1 he).2] at hm
    cases hm.2
  unfold textT imageTextG
  cases lookup e.textK vv with
  | some tv =>
    rw [List.singleton_append,
      value_text_elemsG hs key attrs _ hk (by rw [hbase]; exact textK_not_mem_baseG hs.txt_not_attr vv),
      hbase]
  | none => rw [List.nil_append, value_elemsG (e := e) key attrs hk, hbase]

mutual
theorem DecodedChildG_wf (d : DecCfg) (S : Strconv) (e : EncCfg) :
    ∀ (v : Val), DecodedChildG d S e v = true → v.wf = true
  | .null, _ | .bool _, _ | .num _, _ | .str _, _ => rfl
  | .list xs, h => DecodedListG_wf d S e xs (DecodedChildG_list h).2
  | .map kvs, h => by
      have h := DecodedChildG_map h
      simp only [Val.wf, DecodedEntriesG_wf d S e kvs h.2, (distinctKeys_iff_nodup kvs).2 h.1,
        Bool.and_self]
theorem DecodedListG_wf (d : DecCfg) (S : Strconv) (e : EncCfg) :
    ∀ (xs : List Val), DecodedListG d S e xs = true → Val.wfList xs = true
  | [], _ => rfl
  | x :: xs, h => by
      have h := DecodedListG_cons h
      simp only [Val.wfList, DecodedChildG_wf d S e x h.1.2, DecodedListG_wf d S e xs h.2,
        Bool.and_self]
theorem DecodedEntriesG_wf (d : DecCfg) (S : Strconv) (e : EncCfg) :
    ∀ (kvs : Entries), DecodedEntriesG d S e kvs = true → Val.wfEntries kvs = true
  | [], _ => rfl
  | (k, v) :: rest, h => by
      obtain ⟨hr, ⟨_, hv, _⟩ | ⟨_, _, hv⟩ | ⟨_, _, _, hv⟩⟩ := DecodedEntriesG_cons h
      all_goals simp only [Val.wfEntries, DecodedEntriesG_wf d S e rest hr, Bool.and_true]
      · exact isScalar_wf (attrOk_scalar hv)
      · exact isScalar_wf (textOk_scalar hv)
      · exact DecodedChildG_wf d S e v hv
end

theorem childVals_encT_scalar (hs : Sym d e) {key : Str} {v : Val}
    (hkey : elemKey d S key = key) (hv : isScalar v = true) :
    Conv.childVals d S 0 (encT e key v) = (imageSibsG d S e v).map (key, ·) := by
  obtain ⟨kids, hk, hc⟩ := encT_scalar e key hv
  rw [hk, childVals_singleG hs.seq, value_scalarG hs key hc, hkey, imageSibsG_scalar hv]; rfl

mutual
/-- the decoding conventions on the encoder's sibling trees: their values are, in order, the
    sibling images of `v` — for every well-formed value whose keys the folding leaves alone,
    whether or not the encoder accepts it -/
theorem childVals_encT (hs : Sym d e) :
    ∀ (key : Str) (v : Val), elemKey d S key = key → v.wf = true → KeysFixedG d S e v = true →
    Conv.childVals d S 0 (encT e key v) = (imageSibsG d S e v).map (key, ·)
  -- `null` and `[]` are written like `""`
  | key, .null, hkey, _, _ | key, .list [], hkey, _, _ =>
      childVals_encT_scalar hs hkey (v := .str []) rfl
  | key, .list (x :: xs), hkey, hwf, hK => childVals_membersT hs key (x :: xs) hkey hwf hK
  | key, .map vv, hkey, hwf, hK => by
      have hd := Val.nodup_keys_of_wf hwf
      rw [encT, childVals_singleG hs.seq, value_map_nodeG hs key hd (loadAttrs_attrsT hs hd hK)
        (elemsT_isElem e vv) (childVals_elemsT hs vv ((Val.wf_map vv).1 hwf).1 hK), hkey]
      rfl
  | key, .str _, hkey, _, _ | key, .num _, hkey, _, _ | key, .bool _, hkey, _, _ =>
      childVals_encT_scalar hs hkey rfl
theorem childVals_membersT (hs : Sym d e) (key : Str) :
    ∀ (xs : List Val), elemKey d S key = key → Val.wfList xs = true →
    KeysFixedListG d S e xs = true →
    Conv.childVals d S 0 (membersT e key xs) = (imageMembersG d S e xs).map (key, ·)
  | [], _, _, _ => rfl
  | x :: xs, hkey, hwf, hK => by
      simp only [Val.wfList, KeysFixedListG, Bool.and_eq_true] at hwf hK
      rw [membersT, childVals_appendG hs.seq, childVals_encT hs key x hkey hwf.1 hK.1,
        childVals_membersT hs key xs hkey hwf.2 hK.2, imageMembersG, List.map_append]
theorem childVals_elemsT (hs : Sym d e) :
    ∀ (kvs : Entries), Val.wfEntries kvs = true → KeysFixedEntriesG d S e kvs = true →
    Conv.childVals d S 0 (elemsT e kvs) = elemPairsG d S e kvs
  | [], _, _ => rfl
  | (k, v) :: rest, hwf, hK => by
      simp only [Val.wfEntries, Bool.and_eq_true] at hwf
      obtain ⟨hr, _, hE⟩ := KeysFixedEntriesG_cons hK
      simp only [elemsT, elemPairsG]
      split
      · exact childVals_elemsT hs rest hwf.2 hr
      · rename_i hk
        obtain ⟨hf, hv⟩ := hE (Bool.eq_false_iff.2 hk)
        rw [childVals_appendG hs.seq, childVals_encT hs k v hf hwf.1 hv,
          childVals_elemsT hs rest hwf.2 hr]
end

theorem childVals_encMembersG (d : DecCfg) (S : Strconv) (e : EncCfg) (hs : Sym d e) (key : Str) :
    ∀ (xs : List Val) (ns : List Node), elemKey d S key = key →
    DecodedListG d S e xs = true → encMembers e key xs = .ok ns →
    Conv.childVals d S 0 ns = (imageMembersG d S e xs).map (key, ·) := fun xs _ hkey hD h =>
  encMembers_inv hs.txt_not_attr h ▸ childVals_membersT hs key xs hkey (DecodedListG_wf d S e xs hD)
    (DecodedListG_keysFixed xs hD)

theorem childVals_encElemsG (d : DecCfg) (S : Strconv) (e : EncCfg) (hs : Sym d e) :
    ∀ (kvs : Entries) (ns : List Node),
    DecodedEntriesG d S e kvs = true → encElems e kvs = .ok ns →
    Conv.childVals d S 0 ns = elemPairsG d S e kvs := fun kvs _ hD h =>
  encElems_inv hs.txt_not_attr h ▸ childVals_elemsT hs kvs (DecodedEntriesG_wf d S e kvs hD)
    (DecodedEntriesG_keysFixed kvs hD)

/-! ### the encoder accepts what the decoder produces -/

theorem attrsOk_decoded (kvs : Entries) (h : DecodedEntriesG d S e kvs = true) :
    attrsOk e kvs = true :=
  List.all_eq_true.2 fun x hx => by
    have hx := (DecodedEntriesG_iff kvs).1 h x hx
    cases ha : isAttrK e x.1
    · rfl
    · simp only [entryDecodedG, ha, if_true, Bool.and_eq_true] at hx
      exact attrOk_scalar hx.1

theorem textEntry_okG (hta : isAttrK e e.textK = false) (kvs : Entries) (tv : Val)
    (hD : DecodedEntriesG d S e kvs = true) (hl : lookup e.textK kvs = some tv) :
    textOk d S tv = true := by
  simpa only [entryDecodedG, hta, Bool.false_eq_true, if_false, if_true]
    using (DecodedEntriesG_iff kvs).1 hD _ (mem_of_lookup hl)

mutual
theorem DecodedChildG_ok (hta : isAttrK e e.textK = false) :
    ∀ (v : Val), DecodedChildG d S e v = true → EncOk e v = true
  | .null, _ | .bool _, _ | .num _, _ | .str _, _ => rfl
  | .list xs, h => DecodedListG_ok hta xs (DecodedChildG_list h).2
  | .map kvs, h => by
      have h := DecodedChildG_map h
      simp only [EncOk, attrsOk_decoded kvs h.2, DecodedEntriesG_ok hta kvs h.2, Bool.and_true,
        Bool.true_and]
      exact textValOk_of kvs fun tv hl => textOk_scalar (textEntry_okG hta kvs tv h.2 hl)
theorem DecodedListG_ok (hta : isAttrK e e.textK = false) :
    ∀ (xs : List Val), DecodedListG d S e xs = true → EncOkList e xs = true
  | [], _ => rfl
  | x :: xs, h => by
      have h := DecodedListG_cons h
      simp only [EncOkList, DecodedChildG_ok hta x h.1.2, DecodedListG_ok hta xs h.2, Bool.and_self]
theorem DecodedEntriesG_ok (hta : isAttrK e e.textK = false) :
    ∀ (kvs : Entries), DecodedEntriesG d S e kvs = true → EncOkEntries e kvs = true
  | [], _ => rfl
  | (k, v) :: rest, h => by
      obtain ⟨hr, ⟨ha, _⟩ | ⟨_, hk, _⟩ | ⟨_, _, _, hv⟩⟩ := DecodedEntriesG_cons h
      all_goals simp only [EncOkEntries, DecodedEntriesG_ok hta rest hr, Bool.and_true]
      · simp [ha]
      · simp [hk]
      · simp [DecodedChildG_ok hta v hv]
end

theorem encMembers_okG (d : DecCfg) (S : Strconv) (e : EncCfg) (hta : isAttrK e e.textK = false)
    (key : Str) : ∀ (xs : List Val), DecodedListG d S e xs = true →
    ∃ ns, encMembers e key xs = .ok ns := fun xs h =>
  ⟨_, (encMembers_eq hta key xs).trans (okIf_true (DecodedListG_ok hta xs h) _)⟩

theorem encElems_okG (d : DecCfg) (S : Strconv) (e : EncCfg) (hta : isAttrK e e.textK = false) :
    ∀ (kvs : Entries), DecodedEntriesG d S e kvs = true → ∃ ns, encElems e kvs = .ok ns :=
  fun kvs h => ⟨_, (encElems_eq hta kvs).trans (okIf_true (DecodedEntriesG_ok hta kvs h) _)⟩

end Mxj.EncSym
