/-
  Mxj.Lemmas.JsonTail — PREFIX STABILITY of the JSON text grammar of Mxj.Model.Json:
  what the parsers recognise at the head of `s` they recognise, unchanged, at the head of
  `s ++ t`, with `t` appended to the rest — for every fuel from the one that sufficed on.
  The only token a tail can extend is a number literal that ends exactly where `s` ends.
-/
import Mxj.Lemmas.Json
namespace Mxj.Json
open Mxj

/-- fuel that covers a successor is a successor: every induction on the fuel below opens with it -/
theorem exists_succ_of_succ_le {f m : Nat} (h : f + 1 ≤ m) : ∃ m', m = m' + 1 ∧ f ≤ m' :=
  match m, h with
  | m' + 1, h => ⟨m', rfl, Nat.le_of_succ_le_succ h⟩

theorem skipWs_append (s t : Str) (h : skipWs s ≠ []) : skipWs (s ++ t) = skipWs s ++ t := by
  rw [skipWs, List.dropWhile_append, if_neg (by rwa [List.isEmpty_iff])]
  rfl

theorem skipWs_append_cons {s : Str} {c : Char} {r : Str} (h : skipWs s = c :: r) (t : Str) :
    skipWs (s ++ t) = c :: (r ++ t) := by
  rw [skipWs_append s t (by rw [h]; simp), h]; rfl

theorem hex4_append {s : Str} {n : Nat} {r : Str} (h : hex4 s = some (n, r)) (t : Str) :
    hex4 (s ++ t) = some (n, r ++ t) := by
  revert h
  fun_cases hex4 s <;> intro h
  case case1 hw hx hy hz => cases h; simp [hex4, hw, hx, hy, hz]
  all_goals cases h

theorem strBody_zero (s acc : Str) : strBody 0 s acc = none := by
  unfold strBody; rfl
theorem strBody_nil (n : Nat) (acc : Str) : strBody n [] acc = none := by
  cases n <;> rfl
theorem strBody_bs (n : Nat) (acc : Str) : strBody n ['\\'] acc = none := by
  cases n <;> rfl

theorem strBody_append : ∀ {n : Nat} {s acc k r : Str}, strBody n s acc = some (k, r) →
    ∀ (m : Nat), n ≤ m → ∀ t : Str, strBody m (s ++ t) acc = some (k, r ++ t) := by
  intro n s acc
  fun_induction strBody n s acc <;> intro k r h m hm t
  -- cases of `strBody` that refuse (closed by the next line): 1 no fuel, 2 no text, 12 / 15 `\u`
  -- without four hex digits, 19 unknown escape, 20 backslash at the end, 21 control character; that
  -- accept: 3 closing quote, 4–11 two-character escapes, 13 / 14 high surrogate before a second `\u`
  -- (a low surrogate / not one), 16 before anything else, 17 lone low surrogate, 18 other `\u`, 22 plain
  all_goals first | (cases h; done) | skip
  all_goals (obtain ⟨m', rfl, hm'⟩ := exists_succ_of_succ_le hm)
  case case3 => cases h; rfl
  case case4 ih | case5 ih | case6 ih | case7 ih | case8 ih | case9 ih | case10 ih | case11 ih =>
    simpa [strBody] using ih h m' hm' t
  case case13 ha _ _ _ hx2 hb _ _ _ _ _ _ _ _ hx ih | case14 ha _ _ _ hx2 hb _ _ _ _ _ _ _ _ hx ih =>
    rw [List.cons_append, List.cons_append, strBody, hex4_append hx t]
    simpa [ha, hb, hex4_append hx2 t] using ih h m' hm' t
  -- `rest'` does not start with `\u`: the tail can complete a `\u` only if `rest'` is `[]` or
  -- `['\\']`, and on both the call on `s` alone has already failed
  case case16 f rest acc n rest' hx hb hnot _ _ _ _ _ _ _ _ ih =>
    have e1 := hex4_append hx t
    have hne : ∀ r2, rest' ++ t = '\\' :: 'u' :: r2 → False := by
      intro r2 he
      cases rest' with
      | nil => rw [strBody_nil] at h; cases h
      | cons a r1 =>
        cases r1 with
        | nil =>
          simp only [List.cons_append, List.nil_append, List.cons.injEq] at he
          rw [he.1, strBody_bs] at h; cases h
        | cons b r1' =>
          simp only [List.cons_append, List.cons.injEq] at he
          exact hnot r1' (by rw [he.1, he.2.1])
    simpa [strBody, e1, hb, hne] using ih h m' hm' t
  case case17 hx ha hb _ _ _ _ _ _ _ _ ih | case18 hx ha hb _ _ _ _ _ _ _ _ ih =>
    rw [List.cons_append, List.cons_append, strBody, hex4_append hx t]
    simpa [ha, hb] using ih h m' hm' t
  case case22 f c rest acc h1 h2 h3 h4 ih =>
    have hb : c ≠ '\\' := by
      intro hc
      cases rest with
      | nil => exact h3 hc rfl
      | cons a b => exact h2 a b hc rfl
    rw [List.cons_append, strBody_plain h1 hb, if_neg h4]
    exact ih h m' hm' t

theorem value_nil (f : Nat) : value f [] = none := by
  cases f <;> rfl

theorem members_nil (f : Nat) (acc : Entries) : members f [] acc = none := by
  cases f <;> rfl

theorem elements_nil (f : Nat) (acc : List Val) : elements f [] acc = none := by
  cases f with
  | zero => rfl
  | succ f => rw [elements, value_nil]

/-- `tailOk` for a number; no other value can be extended by a tail -/
def numTail (v : Val) (r t : Str) : Bool :=
  match v with
  | .num _ => tailOk r t
  | _ => true

/-- a value followed by another token does not end where the text ends -/
theorem numTail_of_skipWs (v : Val) {r : Str} (t : Str) {c : Char} {y : Str}
    (h : skipWs r = c :: y) : numTail v r t = true := by
  cases r with
  | nil => cases h
  | cons c r => cases v <;> simp [numTail, tailOk]

theorem numTail_of_numEnd (v : Val) (r t : Str) (h : numEnd t = true) : numTail v r t = true := by
  cases v <;> simp [numTail, tailOk, h]

mutual
/-- the three stability theorems call each other as `value`, `elements`, `members` do, one unit of
    fuel down; in `value` the branch taken is found by splitting the run on `s`, and replayed -/
theorem value_append : ∀ (f : Nat) (s : Str) (v : Val) (r : Str), value f s = some (v, r) →
    ∀ {m : Nat}, f ≤ m → ∀ t : Str, numTail v r t = true → value m (s ++ t) = some (v, r ++ t)
  | 0 => nofun
  | f + 1 => by
    intro s v r h m hm t ht
    obtain ⟨m', rfl, hm'⟩ := exists_succ_of_succ_le hm
    rw [← value_skipWs] at h ⊢
    cases hw : skipWs s with
    | nil => rw [hw, value_nil] at h; cases h
    | cons c x =>
      have hws := skipWs_head s c x hw
      rw [hw] at h
      rw [skipWs_append_cons hw t]
      rw [value, skipWs_cons_of hws] at h
      split at h
      · next x heq =>
        cases heq
        split at h
        · next r' heq =>
          cases h
          rw [value_brace, skipWs_append_cons heq t]; rfl
        · rw [members_skipWs] at h
          exact value_brace_members (members_append f _ _ _ _ h hm' t)
      · next x heq =>
        cases heq
        split at h
        · next r' heq =>
          cases h
          rw [value_bracket, skipWs_append_cons heq t]; rfl
        · rw [elements_skipWs] at h
          exact value_bracket_elements (elements_append f _ _ _ _ h hm' t)
      · next x heq =>
        cases heq
        obtain ⟨⟨k, r1⟩, hs, he⟩ := Option.map_eq_some_iff.1 h
        cases he
        rw [value_quote, strBody_append hs _ (by simp) t]
        rfl
      -- `true`, `false`, `null`: the text begins with the literal, `value` computes
      · next r0 heq =>
        cases heq
        cases h
        rfl
      · next r0 heq =>
        cases heq
        cases h
        rfl
      · next r0 heq =>
        cases heq
        cases h
        rfl
      · obtain ⟨⟨lit, r1⟩, hn, he⟩ := Option.map_eq_some_iff.1 h
        cases he
        rw [← List.cons_append]
        exact value_of_numberLit (numberLit_tail hn t ht) m'
/-- the run of `elements` is inverted by the function's own case analysis; in the two accepting
    branches (a comma: the loop goes on; the closing bracket: the result) the same finds are
    replayed on the extended text -/
theorem elements_append : ∀ (f : Nat) (s : Str) (acc : List Val) (v : Val) (r : Str),
    elements f s acc = some (v, r) → ∀ {m : Nat}, f ≤ m → ∀ t : Str,
    elements m (s ++ t) acc = some (v, r ++ t)
  | 0 => nofun
  | f + 1 => by
    intro s acc v r h m hm t
    obtain ⟨m', rfl, hm'⟩ := exists_succ_of_succ_le hm
    generalize hn : f + 1 = n at h
    revert h
    fun_cases elements n s acc <;> intro h
    case case3 v1 _ _ hy hv | case4 v1 _ _ hy hv =>
      cases hn
      rw [elements_step acc (value_append f _ _ _ hv hm' t (numTail_of_skipWs v1 t hy)),
        skipWs_append_cons hy t]
      -- case3, the comma: the recursive call; case4, the bracket: `h` is the result itself
      first | exact elements_append f _ _ _ _ h hm' t | (cases h; rfl)
    all_goals cases h
theorem members_append : ∀ (f : Nat) (s : Str) (acc : Entries) (v : Val) (r : Str),
    members f s acc = some (v, r) → ∀ {m : Nat}, f ≤ m → ∀ t : Str,
    members m (s ++ t) acc = some (v, r ++ t)
  | 0 => nofun
  | f + 1 => by
    intro s acc v r h m hm t
    obtain ⟨m', rfl, hm'⟩ := exists_succ_of_succ_le hm
    generalize hn : f + 1 = n at h
    revert h
    fun_cases members n s acc <;> intro h
    case case4 _ r0 _ _ hs _ hc v1 _ hv _ hy hq | case5 _ r0 _ _ hs _ hc v1 _ hv _ hy hq =>
      cases hn
      rw [members]
      simp only [skipWs_append_cons hq t, strBody_append hs ((r0 ++ t).length + 1) (by simp) t,
        skipWs_append_cons hc t, value_append f _ _ _ hv hm' t (numTail_of_skipWs v1 t hy),
        skipWs_append_cons hy t]
      -- case4, the comma: the recursive call; case5, the brace: `h` is the result itself
      first | exact members_append f _ _ _ _ h hm' t | (cases h; rfl)
    all_goals cases h
end

/-- fuel monotonicity is the case `t = []` -/
theorem value_mono (f : Nat) (s : Str) (v : Val) (r : Str) (h : value f s = some (v, r))
    (m : Nat) (hm : f ≤ m) : value m s = some (v, r) := by
  simpa using value_append f s v r h hm [] (numTail_of_numEnd v r [] rfl)

/-- the value is a number literal — the one kind of value a tail can extend -/
def isNumVal : Val → Bool
  | .num _ => true
  | _ => false

/-- the first value of a text is the first value of every extension that cannot extend it -/
theorem firstValue_append_of {s : Str} {v : Val} (h : firstValue s = some v) (t : Str)
    (ht : ∀ r, numTail v r t = true) : firstValue (s ++ t) = some v := by
  obtain ⟨r, hr⟩ := firstValue_iff.1 h
  exact firstValue_iff.2 ⟨_, value_append _ s v r hr (by simp) t (ht r)⟩

theorem firstValue_append (s t : Str) (v : Val) (h : firstValue s = some v)
    (hv : ∀ lit, v ≠ .num lit) : firstValue (s ++ t) = some v :=
  firstValue_append_of h t fun r => by cases v <;> first | rfl | exact absurd rfl (hv _)

end Mxj.Json
