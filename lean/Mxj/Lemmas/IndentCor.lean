/-
  What carries C16 / C03 / C05 over to the indented encoders: the root `Map.XmlIndent` picks and
  the shape of the encoder's trees (`Mxj.Enc`), escaping as a transformation of the tree
  (`escNode`, `unescNode`), and the indented sequence encoder under reordering of map entries
  (`Mxj.SeqIL`).
-/
import Mxj.Lemmas.EncodeIndent
import Mxj.Lemmas.SeqIndent
namespace Mxj
namespace Enc

theorem mapXmlIndentRoot_single (k : Str) (v : Val) :
    mapXmlIndentRoot [(k, v)] none
      = if v.isList then (defaultRootTag, .map [(k, v)]) else (k, v) := by
  cases v <;> rfl

theorem mapXmlIndentRoot_two (e1 e2 : Str × Val) (rest : Entries) :
    mapXmlIndentRoot (e1 :: e2 :: rest) none = (defaultRootTag, .map (e1 :: e2 :: rest)) := by
  obtain ⟨k, v⟩ := e1
  cases v <;> rfl

theorem mapXmlIndentRoot_equiv (m m' : Entries) (rt : Option Str) (h : Val.map m ≈ᵥ Val.map m') :
    (mapXmlIndentRoot m rt).1 = (mapXmlIndentRoot m' rt).1
      ∧ (mapXmlIndentRoot m rt).2.norm = (mapXmlIndentRoot m' rt).2.norm := by
  cases rt with
  | some r => exact ⟨rfl, h⟩
  | none =>
    rcases equiv_map_cases h with ⟨rfl, rfl⟩ | ⟨k, v, v', rfl, rfl, hv⟩ | ⟨_, _, _, _, _, _, rfl, rfl⟩
    · exact ⟨rfl, rfl⟩
    · have hl : v.isList = v'.isList := by rw [← isList_norm v, hv, isList_norm]
      rw [mapXmlIndentRoot_single, mapXmlIndentRoot_single, ← hl]
      cases v.isList with
      | true => exact ⟨rfl, h⟩
      | false => exact ⟨rfl, hv⟩
    · rw [mapXmlIndentRoot_two, mapXmlIndentRoot_two]; exact ⟨rfl, h⟩

theorem mapXmlIndentRoot_domain (m : Entries) (rt : Option Str)
    (h : EncDomain (.map m) = true) : EncDomain (mapXmlIndentRoot m rt).2 = true := by
  refine mapXmlIndentRoot_of (P := fun v => EncDomain v = true) m rt h ?_
  rintro k v rfl _
  simp only [EncDomain, EncDomainEntries, Bool.and_eq_true] at h
  have h1 := h.2.1
  split at h1
  · cases v <;> first | rfl | simp [isScalar, attrValue] at h1
  · exact h1

theorem encTree_adjOk (key : Str) (v : Val) (ns : List Node) (h : encTree ec key v = .ok ns) :
    AdjOk ns :=
  encTree_inv textK_not_attr h ▸ encT_adjOk ec key v

theorem encMembers_adjOk (key : Str) : ∀ (xs : List Val) (ns : List Node),
    encMembers ec key xs = .ok ns → AdjOk ns := fun xs _ h =>
  encMembers_inv textK_not_attr h ▸ membersT_adjOk ec key xs

theorem encElems_adjOk : ∀ (kvs : Entries) (ns : List Node),
    encElems ec kvs = .ok ns → AdjOk ns := fun kvs _ h =>
  encElems_inv textK_not_attr h ▸ elemsT_adjOk ec kvs

theorem encTree_noAdjText (key : Str) (v : Val) (n : Node) (h : encTree ec key v = .ok [n]) :
    noAdjText n = true :=
  (encTree_adjOk key v [n] h n (List.mem_singleton.2 rfl)).2

theorem siblingsValue_doc (S : Strconv) (key : Str) (as : List Attr) (ks : List Node) :
    siblingsValue dc S [.elem [] key as ks] = Conv.doc dc S (.elem [] key as ks) :=
  siblingsValue_single S key as ks

theorem doc_encTree (S : Strconv) (key : Str) (v : Val) (attrs : List Attr) (kids : List Node)
    (hwf : v.wf = true) (h : encTree ec key v = .ok [.elem [] key attrs kids]) :
    Conv.doc dc S (.elem [] key attrs kids) = imageUnder key v :=
  (siblingsValue_doc S key attrs kids).symm.trans (siblingsValue_encTree S key v _ hwf h)

def mapAttrValues (f : Str → Str) : List Attr → List Attr
  | [] => []
  | a :: as => ⟨a.space, a.name, f a.value⟩ :: mapAttrValues f as

mutual
def mapValues (f : Str → Str) : Node → Node
  | .elem sp n as ks => .elem sp n (mapAttrValues f as) (mapValuesKids f ks)
  | .text s => .text (f s)
  | n => n
def mapValuesKids (f : Str → Str) : List Node → List Node
  | [] => []
  | k :: ks => mapValues f k :: mapValuesKids f ks
end

/-- the tree as it stands on the wire: every text and attribute value escaped -/
def escNode (n : Node) : Node := mapValues escapeChars n

/-- the tokenizer's entity expansion `unesc`, attribute value by attribute value … -/
def unescAttrs : List Attr → Option (List Attr)
  | [] => some []
  | a :: as =>
    match unesc a.value, unescAttrs as with
    | some v, some r => some (⟨a.space, a.name, v⟩ :: r)
    | _, _ => none

mutual
/-- … and text node by text node (`none`: some value is not well-formed character data) -/
def unescNode : Node → Option Node
  | .elem sp n as ks =>
    match unescAttrs as, unescKids ks with
    | some as', some ks' => some (.elem sp n as' ks')
    | _, _ => none
  | .text s => (unesc s).map .text
  | n => some n
def unescKids : List Node → Option (List Node)
  | [] => some []
  | k :: ks =>
    match unescNode k, unescKids ks with
    | some k', some r => some (k' :: r)
    | _, _ => none
end

def attrValues : List Attr → List Str
  | [] => []
  | a :: as => a.value :: attrValues as

mutual
/-- every attribute value and every text of the tree, in document order -/
def nodeValues : Node → List Str
  | .elem _ _ as ks => attrValues as ++ nodeValuesKids ks
  | .text s => [s]
  | _ => []
def nodeValuesKids : List Node → List Str
  | [] => []
  | k :: ks => nodeValues k ++ nodeValuesKids ks
end

theorem mapValuesKids_isEmpty (f : Str → Str) (ks : List Node) :
    (mapValuesKids f ks).isEmpty = ks.isEmpty := by
  cases ks <;> rfl

theorem endOf_escape (cfg : EncCfg) (b : Bool) (name : Str) (n : Nat) :
    endOf { cfg with escape := b } name n = endOf cfg name n := rfl

theorem renderAttrs_mapAttrValues (cfg : EncCfg) (h : cfg.escape = true) : ∀ (as : List Attr),
    renderAttrs cfg as = renderAttrs { cfg with escape := false } (mapAttrValues escapeChars as)
  | [] => rfl
  | a :: as => by
      simp only [renderAttrs, mapAttrValues, escIf, h, if_true, Bool.false_eq_true, if_false,
        renderAttrs_mapAttrValues cfg h as]

mutual
theorem render_escNode (cfg : EncCfg) (h : cfg.escape = true) : ∀ (n : Node),
    render cfg n = render { cfg with escape := false } (mapValues escapeChars n)
  | .elem sp name as ks => by
      simp only [render, mapValues, mapValuesKids_isEmpty, endOf_escape,
        ← renderAttrs_mapAttrValues cfg h as, ← renderKids_escNode cfg h ks]
  | .text s => by simp only [render, mapValues, escIf, h, if_true, Bool.false_eq_true, if_false]
  | .comment _ | .procinst _ _ | .directive _ => rfl
theorem renderKids_escNode (cfg : EncCfg) (h : cfg.escape = true) : ∀ (ks : List Node),
    renderKids cfg ks = renderKids { cfg with escape := false } (mapValuesKids escapeChars ks)
  | [] => rfl
  | k :: ks => by
      simp only [renderKids, mapValuesKids, ← render_escNode cfg h k, ← renderKids_escNode cfg h ks]
end

theorem unescAttrs_esc : ∀ (as : List Attr), unescAttrs (mapAttrValues escapeChars as) = some as
  | [] => rfl
  | a :: as => by
      simp only [mapAttrValues, unescAttrs, unesc_escapeChars, unescAttrs_esc as]

mutual
theorem unescNode_esc : ∀ (n : Node), unescNode (mapValues escapeChars n) = some n
  | .elem sp name as ks => by
      simp only [mapValues, unescNode, unescAttrs_esc as, unescKids_esc ks]
  | .text s => by simp only [mapValues, unescNode, unesc_escapeChars, Option.map_some]
  | .comment _ | .procinst _ _ | .directive _ => rfl
theorem unescKids_esc : ∀ (ks : List Node), unescKids (mapValuesKids escapeChars ks) = some ks
  | [] => rfl
  | k :: ks => by simp only [mapValuesKids, unescKids, unescNode_esc k, unescKids_esc ks]
end

theorem attrValues_map (f : Str → Str) : ∀ (as : List Attr),
    attrValues (mapAttrValues f as) = (attrValues as).map f
  | [] => rfl
  | a :: as => by simp only [mapAttrValues, attrValues, List.map_cons, attrValues_map f as]

mutual
theorem nodeValues_map (f : Str → Str) : ∀ (n : Node),
    nodeValues (mapValues f n) = (nodeValues n).map f
  | .elem sp name as ks => by
      simp only [mapValues, nodeValues, attrValues_map, nodeValuesKids_map f ks, List.map_append]
  | .text _ | .comment _ | .procinst _ _ | .directive _ => rfl
theorem nodeValuesKids_map (f : Str → Str) : ∀ (ks : List Node),
    nodeValuesKids (mapValuesKids f ks) = (nodeValuesKids ks).map f
  | [] => rfl
  | k :: ks => by
      simp only [mapValuesKids, nodeValuesKids, nodeValues_map f k, nodeValuesKids_map f ks,
        List.map_append]
end

end Enc

/-! ### the indented sequence encoder and the order of map entries -/

namespace SeqIL
open Mxj.SeqL Mxj.Dec Mxj.SeqG

/-- all levels, both modes (`di`), every `pretty` state: the pieces `mapToXmlSeqIndent` writes do
    not depend on the order of the entries of ANY map of the value (hypothesis as for the
    compact encoder's tree, `seqEncTree_vperm`) -/
theorem seqEncP_vperm (c : SeqCfg) (esc ge di : Bool) (f : Nat) (p : Pretty) (key : Str)
    (w v : Val) (h : VPerm w v) (hg : GoodAt c key v) :
    seqEncP c esc ge di f p key w = seqEncP c esc ge di f p key v := by
  rw [seqEncP_eq, seqEncP_eq]
  exact enc_vperm (pieceAlg c esc ge di) (seqAttrsText_congr c esc) (vperm_txtOf esc) h hg

/-! `Val.depth` does not see the order of entries (`vperm_depth`), so `XmlIndent` supplies the same
    fuel for both orders -/

theorem depthEntries_perm {l l' : Entries} (h : l.Perm l') :
    Val.depthEntries l = Val.depthEntries l' := by
  induction h with
  | nil => rfl
  | cons x _ ih => obtain ⟨k, v⟩ := x; simp only [Val.depthEntries, ih]
  | swap x y l =>
    obtain ⟨k, v⟩ := x; obtain ⟨k', v'⟩ := y
    simp only [Val.depthEntries]
    exact Nat.max_left_comm ..
  | trans _ _ ih1 ih2 => exact ih1.trans ih2

mutual
theorem vperm_depth : ∀ (w v : Val), VPerm w v → Val.depth w = Val.depth v
  | .null, v, h | .bool _, v, h | .num _, v, h | .str _, v, h => by simp only [VPerm] at h; rw [h]
  | .list xs, v, h => by
      simp only [VPerm] at h
      obtain ⟨ys, rfl, hl⟩ := h
      simp only [Val.depth, lperm_depth xs ys hl]
  | .map a, v, h => by
      simp only [VPerm] at h
      obtain ⟨m, b, rfl, hp, he⟩ := h
      simp only [Val.depth, eperm_depth a m he, depthEntries_perm hp]
theorem lperm_depth : ∀ (xs ys : List Val), LPerm xs ys → Val.depthList xs = Val.depthList ys
  | [], ys, h => by simp only [LPerm] at h; subst h; rfl
  | x :: xs, ys, h => by
      simp only [LPerm] at h
      obtain ⟨y, ys', rfl, hv, hr⟩ := h
      simp only [Val.depthList, vperm_depth x y hv, lperm_depth xs ys' hr]
theorem eperm_depth : ∀ (a m : Entries), EPerm a m → Val.depthEntries a = Val.depthEntries m
  | [], m, h => by simp only [EPerm] at h; subst h; rfl
  | (k, x) :: xs, m, h => by
      simp only [EPerm] at h
      obtain ⟨y, ys, rfl, hv, hr⟩ := h
      simp only [Val.depthEntries, vperm_depth x y hv, eperm_depth xs ys hr]
end

/-! the root of `XmlIndent` -/

theorem seqRootI_eq (m : Entries) : seqRootI m = mapXmlIndentRoot m none := by
  unfold seqRootI mapXmlIndentRoot; rfl

theorem seqRootI_vperm {m' m : Entries} (h : VPerm (.map m') (.map m)) :
    (seqRootI m').1 = (seqRootI m).1 ∧ VPerm (seqRootI m').2 (seqRootI m).2 := by
  have h0 := h
  simp only [VPerm] at h
  obtain ⟨mid, b, hb, hp, he⟩ := h
  cases hb
  match m', he with
  | [], he =>
    simp only [EPerm] at he; subst he
    have : m = [] := List.nil_perm.1 hp
    subst this
    exact ⟨rfl, h0⟩
  | [(k, x)], he =>
    simp only [EPerm] at he
    obtain ⟨y, ys, rfl, hv, hr⟩ := he
    subst hr
    have : m = [(k, y)] := (List.singleton_perm.1 hp).symm
    subst this
    rw [seqRootI_eq, seqRootI_eq, Enc.mapXmlIndentRoot_single, Enc.mapXmlIndentRoot_single, hv.isList]
    cases y.isList with
    | true => exact ⟨rfl, h0⟩
    | false => exact ⟨rfl, hv⟩
  | e1 :: e2 :: rest, he =>
    have hl := (eperm_length he).trans hp.length_eq
    match m, hl with
    | f1 :: f2 :: rest', _ =>
      rw [seqRootI_eq, seqRootI_eq, Enc.mapXmlIndentRoot_two, Enc.mapXmlIndentRoot_two]
      exact ⟨rfl, h0⟩

/-- `msv.XmlIndent(prefix, indent)`: the pieces do not depend on the order of the entries of any
    map of the MapSeq, at any level -/
theorem mapSeqXmlIndentP_vperm (c : SeqCfg) (esc ge : Bool) (pfx ind : Str) {m' m : Entries}
    (h : VPerm (.map m') (.map m)) (hg : GoodAt c (seqRootI m).1 (seqRootI m).2) :
    mapSeqXmlIndentP c esc ge pfx ind m' = mapSeqXmlIndentP c esc ge pfx ind m := by
  obtain ⟨h1, h2⟩ := seqRootI_vperm h
  unfold mapSeqXmlIndentP
  rw [vperm_depth _ _ h, h1]
  exact seqEncP_vperm c esc ge true _ _ _ _ _ h2 hg

/-! `≈ᵥ` against `VPerm`: a value is its normal form with the entries in another order -/

theorem eperm_normEntries_iff : ∀ (l : Entries),
    EPerm (Val.normEntries l) l ↔ ∀ x ∈ l, VPerm x.2.norm x.2
  | [] => by simp [Val.normEntries, EPerm]
  | (k, v) :: r => by
      simp only [Val.normEntries, EPerm, List.forall_mem_cons, ← eperm_normEntries_iff r]
      exact ⟨fun ⟨_, _, he, h⟩ => by cases he; exact h, fun h => ⟨v, r, rfl, h⟩⟩

mutual
theorem vperm_norm : ∀ (v : Val), VPerm v.norm v
  | .null | .bool _ | .num _ | .str _ => VPerm.refl _
  | .list xs => by simp only [Val.norm, VPerm]; exact ⟨xs, rfl, lperm_norm xs⟩
  | .map kvs => by
      simp only [Val.norm, VPerm]
      -- sorting sees the keys only (`normEntries_sortByKey`), and the sorted entries are the entries
      refine ⟨sortByKey kvs, kvs, rfl, sortByKey_perm kvs, ?_⟩
      rw [← Enc.normEntries_sortByKey, eperm_normEntries_iff]
      exact fun x hx => (eperm_normEntries_iff kvs).1 (eperm_norm kvs) x ((sortByKey_perm kvs).mem_iff.1 hx)
theorem lperm_norm : ∀ (xs : List Val), LPerm (Val.normList xs) xs
  | [] => by simp [Val.normList, LPerm]
  | x :: xs => by
      simp only [Val.normList, LPerm]
      exact ⟨x, xs, rfl, vperm_norm x, lperm_norm xs⟩
theorem eperm_norm : ∀ (kvs : Entries), EPerm (Val.normEntries kvs) kvs
  | [] => by simp [Val.normEntries, EPerm]
  | (k, x) :: xs => by
      simp only [Val.normEntries, EPerm]
      exact ⟨x, xs, rfl, vperm_norm x, eperm_norm xs⟩
end

end SeqIL
end Mxj
