/-
  Mxj.Lemmas.Opt — lemmas about the option state machine `Mxj.Model.Opt`:
  `rekey` on a fresh prefix character, the call classifications used by the C18 statements
  (`explicit`, `punctPrefixes`, `Toggle`, `goName` / `setterNames`, `modelWrites`), invariants over
  histories (`run_inv`, `run_inv_of`), the invariant `Inv` of the reachable states, and the second
  invariant `KeysOK` (the key constants are the default words behind one non-lower-case character),
  kept by the histories of `punctPrefixes`, from which the restoring calls lead back to the defaults
  (`restore_of_keysOK`).
-/
import Mxj.Model.Opt
import Mxj.Lemmas.Str
namespace Mxj.Opt
open Mxj

/-! ### `rekey` -/

/-- `strings.ReplaceAll(c + w, c, p)`: the leading character is replaced, `w` is rewritten -/
theorem rekey_cons (p c : Char) (w : Str) : rekey [p] (c :: w) = p :: replaceAll [c] [p] w :=
  replaceAll_single_head c [p] w

/-- … `= p + w` when `c` does not occur in `w` -/
theorem rekey_fresh (c p : Char) (w : Str) (h : c ∉ w) : rekey [p] (c :: w) = p :: w := by
  rw [rekey_cons, replaceAll_single_fresh c [p] w h]

theorem rekey_idem (p : Char) (k : Str) : rekey [p] (rekey [p] k) = rekey [p] k := by
  cases k with
  | nil => rfl
  | cons c w => rw [rekey_cons, rekey_cons, replaceAll_single_self]

/-! ### classifications of calls -/

/-- the call has only one meaning whatever the current state: toggling setters with an explicit
    value, the string / number / flag setters, the two empty-element setters; the two
    non-toggling argument-less forms (`DisableTrimWhiteSpace()`, `SetFieldSeparator()`) are
    included as well; `SetGlobalKeyMapPrefix` with a one-character argument -/
def explicit : Call → Bool
  | .setGlobalKeyMapPrefix s => s.length == 1
  | .includeTagSeqNum b | .coerceKeysToLower b | .coerceKeysToSnakeCase b | .castValuesToInt b
  | .handleXMPPStreamTag b | .decodeSimpleValuesAsMap b | .castNanInf b | .castValuesToFloat b
  | .castValuesToBool b | .xmlCheckIsValid b | .xmlEscapeChars b | .xmlEscapeCharsDecoder b
  | .leafUseDotNotation b => b.isSome
  | .disableTrimWhiteSpace _ | .prependAttrWithHyphen _ | .setAttrPrefix _
  | .setCheckTagToSkipFunc _ | .xmlGoEmptyElemSyntax | .xmlDefaultEmptyElemSyntax
  | .setFieldSeparator _ | .setArraySize _ => true

/-- a key-prefix argument that is one character, not a lower-case ASCII letter -/
def punctPrefix : Call → Bool
  | .setGlobalKeyMapPrefix s => match s with
      | [p] => !p.isLower
      | _ => false
  | _ => true

def punctPrefixes (calls : List Call) : Bool := calls.all punctPrefix

/-- the setters whose argument-less form is a pure toggle of one Boolean field -/
inductive Toggle where
  | includeTagSeqNum | coerceKeysToLower | coerceKeysToSnakeCase | castValuesToInt
  | handleXMPPStreamTag | decodeSimpleValuesAsMap | castNanInf | castValuesToFloat
  | castValuesToBool | xmlCheckIsValid | leafUseDotNotation
  deriving Repr, DecidableEq

def Toggle.call : Toggle → Option Bool → Call
  | .includeTagSeqNum => .includeTagSeqNum
  | .coerceKeysToLower => .coerceKeysToLower
  | .coerceKeysToSnakeCase => .coerceKeysToSnakeCase
  | .castValuesToInt => .castValuesToInt
  | .handleXMPPStreamTag => .handleXMPPStreamTag
  | .decodeSimpleValuesAsMap => .decodeSimpleValuesAsMap
  | .castNanInf => .castNanInf
  | .castValuesToFloat => .castValuesToFloat
  | .castValuesToBool => .castValuesToBool
  | .xmlCheckIsValid => .xmlCheckIsValid
  | .leafUseDotNotation => .leafUseDotNotation

def Toggle.field : Toggle → St → Bool
  | .includeTagSeqNum => St.includeTagSeqNum
  | .coerceKeysToLower => St.lowerCase
  | .coerceKeysToSnakeCase => St.snakeCaseKeys
  | .castValuesToInt => St.castToInt
  | .handleXMPPStreamTag => St.handleXMPPStreamTag
  | .decodeSimpleValuesAsMap => St.decodeSimpleValuesAsMap
  | .castNanInf => St.castNanInf
  | .castValuesToFloat => St.castToFloat
  | .castValuesToBool => St.castToBool
  | .xmlCheckIsValid => St.xmlCheckIsValid
  | .leafUseDotNotation => St.useDotNotation

/-- the Go function a call form belongs to -/
def goName : Call → String
  | .setGlobalKeyMapPrefix _ => "SetGlobalKeyMapPrefix"
  | .includeTagSeqNum _ => "IncludeTagSeqNum"
  | .coerceKeysToLower _ => "CoerceKeysToLower"
  | .disableTrimWhiteSpace _ => "DisableTrimWhiteSpace"
  | .prependAttrWithHyphen _ => "PrependAttrWithHyphen"
  | .setAttrPrefix _ => "SetAttrPrefix"
  | .coerceKeysToSnakeCase _ => "CoerceKeysToSnakeCase"
  | .castValuesToInt _ => "CastValuesToInt"
  | .handleXMPPStreamTag _ => "HandleXMPPStreamTag"
  | .decodeSimpleValuesAsMap _ => "DecodeSimpleValuesAsMap"
  | .castNanInf _ => "CastNanInf"
  | .castValuesToFloat _ => "CastValuesToFloat"
  | .castValuesToBool _ => "CastValuesToBool"
  | .setCheckTagToSkipFunc _ => "SetCheckTagToSkipFunc"
  | .xmlGoEmptyElemSyntax => "XmlGoEmptyElemSyntax"
  | .xmlDefaultEmptyElemSyntax => "XmlDefaultEmptyElemSyntax"
  | .xmlCheckIsValid _ => "XmlCheckIsValid"
  | .xmlEscapeChars _ => "XMLEscapeChars"
  | .xmlEscapeCharsDecoder _ => "XMLEscapeCharsDecoder"
  | .setFieldSeparator _ => "SetFieldSeparator"
  | .leafUseDotNotation _ => "LeafUseDotNotation"
  | .setArraySize _ => "SetArraySize"

/-- the setters named in the model (one per `Call` constructor) -/
def setterNames : List String :=
  ["SetGlobalKeyMapPrefix", "IncludeTagSeqNum", "CoerceKeysToLower", "DisableTrimWhiteSpace",
   "PrependAttrWithHyphen", "SetAttrPrefix", "CoerceKeysToSnakeCase", "CastValuesToInt",
   "HandleXMPPStreamTag", "DecodeSimpleValuesAsMap", "CastNanInf", "CastValuesToFloat",
   "CastValuesToBool", "SetCheckTagToSkipFunc", "XmlGoEmptyElemSyntax",
   "XmlDefaultEmptyElemSyntax", "XmlCheckIsValid", "XMLEscapeChars", "XMLEscapeCharsDecoder",
   "SetFieldSeparator", "LeafUseDotNotation", "SetArraySize"]

/-- `setterNames` lists the names in the order of the constructors -/
theorem goName_mem_setterNames (c : Call) : goName c ∈ setterNames :=
  List.mem_of_getElem? (i := c.ctorIdx) (by cases c <;> rfl)

/-- the package variables a call form assigns in the model (sorted, as the extractor lists them) -/
def modelWrites : Call → List String
  | .setGlobalKeyMapPrefix _ =>
      ["attrK", "commentK", "directiveK", "instK", "procinstK", "seqK", "targetK", "textK"]
  | .includeTagSeqNum _ => ["includeTagSeqNum"]
  | .coerceKeysToLower _ => ["lowerCase"]
  | .disableTrimWhiteSpace _ => ["disableTrimWhiteSpace", "trimRunes"]
  | .prependAttrWithHyphen _ => ["attrPrefix", "lenAttrPrefix"]
  | .setAttrPrefix _ => ["attrPrefix", "lenAttrPrefix"]
  | .coerceKeysToSnakeCase _ => ["snakeCaseKeys"]
  | .castValuesToInt _ => ["castToInt"]
  | .handleXMPPStreamTag _ => ["handleXMPPStreamTag"]
  | .decodeSimpleValuesAsMap _ => ["decodeSimpleValuesAsMap"]
  | .castNanInf _ => ["castNanInf"]
  | .castValuesToFloat _ => ["castToFloat"]
  | .castValuesToBool _ => ["castToBool"]
  | .setCheckTagToSkipFunc _ => ["checkTagToSkip"]
  | .xmlGoEmptyElemSyntax => ["useGoXmlEmptyElemSyntax"]
  | .xmlDefaultEmptyElemSyntax => ["useGoXmlEmptyElemSyntax"]
  | .xmlCheckIsValid _ => ["xmlCheckIsValid"]
  | .xmlEscapeChars _ => ["xmlEscapeChars"]
  | .xmlEscapeCharsDecoder _ => ["xmlEscapeChars", "xmlEscapeCharsDecoder"]
  | .setFieldSeparator _ => ["fieldSep"]
  | .leafUseDotNotation _ => ["useDotNotation"]
  | .setArraySize _ => ["defaultArraySize"]

/-! ### histories -/

theorem run_nil (st : St) : run st [] = st := rfl
theorem run_cons (st : St) (c : Call) (cs : List Call) : run st (c :: cs) = run (step st c) cs := rfl
theorem run_append (st : St) (a b : List Call) : run st (a ++ b) = run (run st a) b := by
  simp [run, List.foldl_append]

/-- what every step by a call satisfying `Q` keeps holds after every history of such calls -/
theorem run_inv_of (Q : Call → Bool) (P : St → Prop)
    (hstep : ∀ st c, Q c = true → P st → P (step st c)) :
    ∀ (calls : List Call) (st : St), calls.all Q = true → P st → P (run st calls) := by
  intro calls
  induction calls with
  | nil => intro st _ h; exact h
  | cons c cs ih =>
    intro st hq h
    simp only [List.all_cons, Bool.and_eq_true] at hq
    exact ih _ hq.2 (hstep st c hq.1 h)

/-- … in particular an invariant of every step -/
theorem run_inv (P : St → Prop) (hstep : ∀ st c, P st → P (step st c)) (calls : List Call)
    (st : St) : P st → P (run st calls) :=
  run_inv_of (fun _ => true) P (fun st c _ => hstep st c) calls st (List.all_eq_true.2 fun _ _ => rfl)

/-! ### the invariant of the reachable states -/

/-- what holds of every state reachable from the fresh one: the two escaping switches are not
    both on, and the two derived variables are functions of their masters -/
def Inv (st : St) : Prop :=
  ¬ (st.xmlEscapeChars = true ∧ st.xmlEscapeCharsDecoder = true) ∧
  st.trimRunes = (if st.disableTrimWhiteSpace then trimKeep else trimAll) ∧
  st.lenAttrPrefix = (String.ofList st.attrPrefix).utf8ByteSize

/-- Each part is established by every call that writes one of the variables it reads, whatever
    the state before, and no other call writes them. -/
theorem inv_run (calls : List Call) : Inv (run dflt calls) := by
  refine run_inv Inv ?_ calls dflt (by unfold Inv; decide)
  intro st c h
  cases c with
  | xmlEscapeChars b =>
    refine ⟨?_, h.2⟩; cases hd : st.xmlEscapeCharsDecoder <;> simp [step, hd]
  | xmlEscapeCharsDecoder b =>
    refine ⟨?_, h.2⟩
    cases hd : tog st.xmlEscapeCharsDecoder b <;> cases he : st.xmlEscapeChars <;>
      simp [step, hd, he]
  | disableTrimWhiteSpace b => rcases b with _ | _ | _ <;> exact ⟨h.1, rfl, h.2.2⟩
  | prependAttrWithHyphen v => cases v <;> exact ⟨h.1, h.2.1, rfl⟩
  | setAttrPrefix s => exact ⟨h.1, h.2.1, rfl⟩
  | setFieldSeparator s => rcases s with _ | _ | _ <;> exact h
  | _ => exact h

/-! ### the key constants -/

def keyFields (st : St) : List Str :=
  [st.textK, st.seqK, st.commentK, st.attrK, st.directiveK, st.procinstK, st.targetK, st.instK]

def keyWords : List Str :=
  ["text".toList, "seq".toList, "comment".toList, "attr".toList, "directive".toList,
   "procinst".toList, "target".toList, "inst".toList]

/-- the eight key constants are `c :: word` for one common character `c` -/
def KeysAre (c : Char) (st : St) : Prop := keyFields st = keyWords.map (c :: ·)

/-- … where `c` is not a lower-case ASCII letter (so it does not occur in any of the words) -/
def KeysOK (st : St) : Prop := ∃ c : Char, c.isLower = false ∧ KeysAre c st

theorem keysOK_dflt : KeysOK dflt := ⟨'#', by decide +kernel, by unfold KeysAre; decide +kernel⟩

theorem keysAre_rekey (c p : Char) (hc : c.isLower = false) (st : St) (h : KeysAre c st) :
    KeysAre p (step st (.setGlobalKeyMapPrefix [p])) := by
  -- the words are lower-case letters throughout, so `c` occurs in none of them
  have hw : ∀ w ∈ keyWords, ∀ x ∈ w, x.isLower = true := by decide +kernel
  show (keyFields st).map (rekey [p]) = keyWords.map (p :: ·)
  rw [h, List.map_map]
  exact List.map_congr_left fun w hm => rekey_fresh c p w fun hcw => by simp [hw w hm c hcw] at hc

/-- every call keeps the keys of that form: `SetGlobalKeyMapPrefix` re-prefixes them, no other
    call writes them -/
theorem keysOK_step (st : St) (c : Call) (hq : punctPrefix c = true) (h : KeysOK st) :
    KeysOK (step st c) := by
  obtain ⟨k, hk, hka⟩ := h
  cases c with
  | setGlobalKeyMapPrefix s =>
    match s, hq with
    | [p], hq => exact ⟨p, by simpa [punctPrefix] using hq, keysAre_rekey k p hk st hka⟩
  | prependAttrWithHyphen v => cases v <;> exact ⟨k, hk, hka⟩
  | setFieldSeparator s => rcases s with _ | _ | _ <;> exact ⟨k, hk, hka⟩
  | _ => exact ⟨k, hk, hka⟩

theorem keysOK_run (calls : List Call) (h : punctPrefixes calls = true) : KeysOK (run dflt calls) :=
  run_inv_of punctPrefix KeysOK keysOK_step calls dflt h keysOK_dflt

/-- restoring from any state whose keys are well-formed -/
theorem restore_of_keysOK (st : St) (h : KeysOK st) : run st restoreCalls = dflt := by
  obtain ⟨k, hk, hka⟩ := h
  have h' := keysAre_rekey k '#' hk st hka
  simp only [KeysAre, keyFields, keyWords, step, List.map, List.cons.injEq, and_true] at h'
  obtain ⟨h1, h2, h3, h4, h5, h6, h7, h8⟩ := h'
  have hb : (String.ofList ['-']).utf8ByteSize = 1 := by decide
  simp [run, restoreCalls, step, tog, dflt, h1, h2, h3, h4, h5, h6, h7, h8, hb, trimAll]

end Mxj.Opt
