/-
  Mxj.Lemmas.Tokenizer — the tokenizer model (`Model/Tokenizer.lean`) inverts `render`.
  The lexing lemmas speak about byte strings of a given SHAPE, not about a renderer: `NameLex`
  (a written name), `AttrsLex` (a written attribute list), one `step` per piece of markup in
  front of an arbitrary rest; a renderer (`render` here, the surface renderer and `renderSeq` in
  Lemmas/Surface.lean, SeqTokQ.lean) only has to show that it writes these shapes.
-/
import Mxj.Model.Tokenizer
import Mxj.Lemmas.EscDec2
namespace Mxj.Tokz
open Mxj Mxj.Enc Mxj.EscDec

theorem dropSp_ws_cons (w : Str) (c : Char) (s : Str) (hw : w.all isSp = true)
    (hc : isSp c = false) : dropSp (w ++ c :: s) = c :: s :=
  (span_stop isSp w (c :: s) (List.all_eq_true.1 hw) (by simp [stops, hc])).2

theorem isNmCh_of_xml {c : Char} (h : isXmlNameChar c = true) : isNmCh c = true := by
  simp only [isXmlNameChar, Bool.or_eq_true, decide_eq_true_eq] at h
  simp only [isNmCh, Bool.or_eq_true, decide_eq_true_eq]
  rcases h with (((h | h) | h) | h) | h <;> simp [h]

theorem isNmStart_of_xml {c : Char} (h : isXmlNameStart c = true) : isNmStart c = true := by
  simp only [isXmlNameStart, Bool.or_eq_true, decide_eq_true_eq] at h
  simp only [isNmStart, Bool.or_eq_true, decide_eq_true_eq]
  rcases h with h | h <;> simp [h]

theorem xmlNameChar_of_start {c : Char} (h : isXmlNameStart c = true) : isXmlNameChar c = true := by
  simp only [isXmlNameStart, Bool.or_eq_true, decide_eq_true_eq] at h
  simp only [isXmlNameChar, Bool.or_eq_true, decide_eq_true_eq]
  rcases h with h | h <;> simp [h]

theorem xmlNameChar_ne_colon {c : Char} (h : isXmlNameChar c = true) : c ≠ ':' := by
  intro e; subst e; revert h; decide

theorem name_head {name : Str} (hn : xmlNameOk name = true) :
    ∃ c nm, name = c :: nm ∧ isXmlNameStart c = true := by
  cases name with
  | nil => simp [xmlNameOk] at hn
  | cons c nm =>
    simp only [xmlNameOk, Bool.and_eq_true] at hn
    exact ⟨c, nm, rfl, hn.1⟩

theorem xmlNameOk_all {s : Str} (h : xmlNameOk s = true) : ∀ x ∈ s, isXmlNameChar x = true := by
  cases s with
  | nil => simp [xmlNameOk] at h
  | cons c nm =>
    simp only [xmlNameOk, Bool.and_eq_true, List.all_eq_true] at h
    intro x hx
    rcases List.mem_cons.1 hx with rfl | hx
    · exact xmlNameChar_of_start h.1
    · exact h.2 x hx

theorem nameStart_facts {c : Char} (h : isXmlNameStart c = true) :
    isSp c = false ∧ c ≠ '>' ∧ c ≠ '/' ∧ c ≠ '?' ∧ c ≠ '!' := by
  refine ⟨?_, ?_, ?_, ?_, ?_⟩
  · cases hs : isSp c with
    | false => rfl
    | true =>
      simp only [isSp, Bool.or_eq_true, decide_eq_true_eq] at hs
      rcases hs with ((rfl | rfl) | rfl) | rfl <;> revert h <;> decide
  all_goals (intro e; subst e; revert h; decide)

/-- what may follow a written name: the run of name characters ends here, and `lexRawName` can
    tell (`asciiNext`) -/
def nameStop (tl : Str) : Bool := stops isNmCh tl && asciiNext tl

theorem nameStop_ws (w : Str) (c : Char) (x : Str) (hw : w.all isSp = true)
    (hc : nameStop (c :: x) = true) : nameStop (w ++ c :: x) = true := by
  cases w with
  | nil => exact hc
  | cons d w' =>
    simp only [List.all_cons, isSp, Bool.and_eq_true, Bool.or_eq_true, decide_eq_true_eq] at hw
    rcases hw.1 with ((rfl | rfl) | rfl) | rfl <;> rfl

/-- `q` is how a name with space `sp` and local part `l` is written: a run of name characters
    that begins with a name-start character and splits at its colon (if any) into the pair -/
structure NameLex (q sp l : Str) : Prop where
  head : ∃ c r, q = c :: r ∧ isXmlNameStart c = true
  chars : ∀ x ∈ q, isNmCh x = true
  split : nsname q = some (sp, l)

theorem NameLex.raw {q sp l : Str} (hq : NameLex q sp l) {tl : Str} (ht : nameStop tl = true) :
    lexRawName (q ++ tl) = some (q, tl) := by
  have ht := Bool.and_eq_true_iff.1 ht
  obtain ⟨htk, hdr⟩ := span_stop isNmCh q tl hq.chars ht.1
  obtain ⟨c, r, rfl, hc⟩ := hq.head
  simp only [lexRawName, htk, hdr, isNmStart_of_xml hc, ht.2, Bool.and_self, if_true]

theorem NameLex.lex {q sp l : Str} (hq : NameLex q sp l) {tl : Str} (ht : nameStop tl = true) :
    lexName (q ++ tl) = some (sp, l, tl) := by
  simp only [lexName, hq.raw ht, hq.split]

theorem nsname_plain (s : Str) (h : ∀ c ∈ s, c ≠ ':') : nsname s = some ([], s) := by
  have h0 : s.count ':' = 0 := List.count_eq_zero.2 (fun hm => h _ hm rfl)
  have h1 : s.dropWhile (· != ':') = [] := by
    simpa using (span_stop (· != ':') s [] (fun x hx => by simp [h x hx]) rfl).2
  simp [nsname, h0, h1]

theorem nameLex_plain (name : Str) (hn : xmlNameOk name = true) : NameLex name [] name :=
  ⟨name_head hn, fun x hx => isNmCh_of_xml (xmlNameOk_all hn x hx),
    nsname_plain name (fun x hx => xmlNameChar_ne_colon (xmlNameOk_all hn x hx))⟩

theorem mem_of_hasCDEnd : ∀ {s : Str}, hasCDEnd s = true → '>' ∈ s
  | c :: r, h => by
    simp only [hasCDEnd, Bool.or_eq_true] at h
    rcases h with h | h
    · obtain ⟨t, ht⟩ := List.isPrefixOf_iff_prefix.1 h
      rw [← ht]; simp
    · exact List.mem_cons_of_mem _ (mem_of_hasCDEnd h)

theorem normCRa_id : ∀ (s : Str), (∀ c ∈ s, c ≠ '\r') → normCRa false s = s
  | [], _ => rfl
  | c :: r, h => by
      have ih := normCRa_id r (fun x hx => h x (List.mem_cons_of_mem _ hx))
      have hc : c ≠ '\r' := h c (List.mem_cons_self ..)
      simp [normCRa, hc, ih]

theorem charsOk_of_xml {v : Str} (h : xmlCharsOk v = true) : charsOk v = true := by
  simp only [xmlCharsOk, List.all_eq_true, Bool.and_eq_true] at h
  simp only [charsOk, List.all_eq_true]
  exact fun c hc => (h c hc).1

theorem xmlCharsOk_no_cr {v : Str} (h : xmlCharsOk v = true) : ∀ c ∈ v, c ≠ '\r' := by
  simp only [xmlCharsOk, List.all_eq_true, Bool.and_eq_true, bne_iff_ne] at h
  exact fun c hc => (h c hc).2

theorem lexChars_plain {r v : Str} (hgt : ∀ c ∈ r, c ≠ '>') (hcr : ∀ c ∈ r, c ≠ '\r')
    (hu : unesc r = some v) (hv : xmlCharsOk v = true) : lexChars r = some v := by
  have h1 : hasCDEnd r = false := Bool.eq_false_iff.2 fun h => hgt _ (mem_of_hasCDEnd h) rfl
  have h2 : normCR r = r := normCRa_id r hcr
  simp [lexChars, h1, h2, hu, charsOk_of_xml hv]

/-- a raw attribute or text value the tokenizer hands back as `unesc` of it: no markup character,
    no raw carriage return, not the delimiter `q` (a quote, or `<` for a text run).  Part of the
    surface grammar of Lemmas/Surface.lean; it stands here because its two lemmas serve every
    renderer -/
def _root_.Mxj.Surf.rawOk (q : Char) (r : Str) : Bool :=
  r.all (fun c => c != '<' && c != '>' && c != '\r' && c != q)

theorem _root_.Mxj.Surf.rawOk_mem {q : Char} {r : Str} (h : Surf.rawOk q r = true) {c : Char}
    (hc : c ∈ r) : c ≠ '<' ∧ c ≠ '>' ∧ c ≠ '\r' ∧ c ≠ q := by
  have := (List.all_eq_true.mp h) c hc
  simp only [Bool.and_eq_true, bne_iff_ne, ne_eq] at this
  exact ⟨this.1.1.1, this.1.1.2, this.1.2, this.2⟩

theorem _root_.Mxj.Surf.lexChars_rawOk {q : Char} {r v : Str} (hr : Surf.rawOk q r = true)
    (hu : unesc r = some v) (hv : xmlCharsOk v = true) : lexChars r = some v :=
  lexChars_plain (fun _ hc => (Surf.rawOk_mem hr hc).2.1)
    (fun _ hc => (Surf.rawOk_mem hr hc).2.2.1) hu hv

/-- `Surf.rawOk` for a value between double quotes, as the encoders write attribute values (and,
    stricter than needed, text) -/
def valOk (r : Str) : Bool := r.all (fun c => c != '<' && c != '>' && c != '"' && c != '\r')

theorem valOk_eq_rawOk (r : Str) : valOk r = Surf.rawOk '"' r :=
  congrArg r.all (funext fun _ => Bool.and_right_comm ..)

theorem lexAttr_written {q sp l : Str} (hq : NameLex q sp l) {w2 w3 : Str}
    (hw2 : w2.all isSp = true) (hw3 : w3.all isSp = true) {qc : Char}
    (hqc : qc = '"' ∨ qc = '\'') {raw val : Str} (hr : ∀ x ∈ raw, x ≠ qc)
    (hl : lexChars raw = some val) (tl : Str) :
    lexAttr (q ++ (w2 ++ ('=' :: (w3 ++ (qc :: (raw ++ (qc :: tl)))))))
      = some (⟨sp, l, val⟩, tl) := by
  have hname := hq.lex (nameStop_ws w2 '=' (w3 ++ (qc :: (raw ++ (qc :: tl)))) hw2 rfl)
  have hd2 := dropSp_ws_cons w2 '=' (w3 ++ (qc :: (raw ++ (qc :: tl)))) hw2 (by decide)
  have hd3 := dropSp_ws_cons w3 qc (raw ++ (qc :: tl)) hw3 (by rcases hqc with rfl | rfl <;> rfl)
  obtain ⟨h1, h2⟩ := span_stop (· != qc) raw (qc :: tl) (fun x hx => by simp [hr x hx])
    (by simp [stops])
  have hq' : (decide (qc = '"') || decide (qc = '\'')) = true := by
    rcases hqc with rfl | rfl <;> rfl
  simp only [lexAttr, hname, hd2, hd3, if_true, hq', h1, h2, hl]

def tagEnd (e : Bool) : Str := if e then ['/', '>'] else ['>']

theorem lexAttrs_cons {f : Nat} (w : Str) (hw : w.all isSp = true) {c : Char} {s : Str}
    (hc : isXmlNameStart c = true) {a : Attr} {r1 : Str} (ha : lexAttr (c :: s) = some (a, r1))
    {as : List Attr} {e : Bool} {rest : Str} (ih : lexAttrs f r1 = some (as, e, rest)) :
    lexAttrs (f + 1) (w ++ c :: s) = some (a :: as, e, rest) := by
  obtain ⟨hsp, hgt, hsl, _, _⟩ := nameStart_facts hc
  simp only [lexAttrs, dropSp_ws_cons w c s hw hsp, hgt, hsl, if_false, ha, ih]

/-- `b` is a written form of the attribute list `as`: each attribute as `␣w1 name w2 = w3 q raw q`
    (white space `w·`, either quote `q`, `raw` free of `q` and read back by `lexChars`) -/
inductive AttrsLex : Str → List Attr → Prop
  | nil : AttrsLex [] []
  | cons {q sp l w1 w2 w3 raw val b : Str} {qc : Char} {as : List Attr} :
      NameLex q sp l → w1.all isSp = true → w2.all isSp = true → w3.all isSp = true →
      (qc = '"' ∨ qc = '\'') → (∀ x ∈ raw, x ≠ qc) →
      lexChars raw = some val → AttrsLex b as →
      AttrsLex (' ' :: (w1 ++ (q ++ (w2 ++ ('=' :: (w3 ++ (qc :: (raw ++ (qc :: b)))))))))
        (⟨sp, l, val⟩ :: as)

theorem AttrsLex.nameStop {b : Str} {as : List Attr} (h : AttrsLex b as) {wt : Str}
    (hwt : wt.all isSp = true) (e : Bool) (rest : Str) :
    nameStop (b ++ (wt ++ (tagEnd e ++ rest))) = true := by
  cases h with
  | nil => cases e <;> exact nameStop_ws wt _ _ hwt rfl
  | cons => rfl

theorem AttrsLex.lex {b : Str} {as : List Attr} (h : AttrsLex b as) {wt : Str}
    (hwt : wt.all isSp = true) (e : Bool) (rest : Str) :
    ∀ f, b.length ≤ f → lexAttrs (f + 1) (b ++ (wt ++ (tagEnd e ++ rest))) = some (as, e, rest) := by
  induction h with
  | nil =>
    intro f _
    cases e
    · simp [tagEnd, lexAttrs, dropSp_ws_cons wt '>' rest hwt rfl]
    · simp [tagEnd, lexAttrs, dropSp_ws_cons wt '/' _ hwt rfl]
  | @cons _ _ _ w1 _ _ _ _ b _ _ hq hw1 hw2 hw3 hqc hr hl _ ih =>
    intro f hf
    obtain ⟨f', rfl⟩ : ∃ f', f = f' + 1 := ⟨f - 1, by simp at hf; omega⟩
    have hla := lexAttr_written hq hw2 hw3 hqc hr hl (b ++ (wt ++ (tagEnd e ++ rest)))
    obtain ⟨c, nm, rfl, hc⟩ := hq.head
    have := lexAttrs_cons (' ' :: w1) hw1 hc hla (ih f' (by simp at hf; omega))
    simpa [List.append_assoc] using this

theorem step_start {q sp l : Str} (hq : NameLex q sp l) {b : Str} {as : List Attr}
    (ha : AttrsLex b as) {wt : Str} (hwt : wt.all isSp = true) (e : Bool) (rest : Str) :
    step ('<' :: (q ++ (b ++ (wt ++ (tagEnd e ++ rest)))))
      = some (if e then [Tok.start sp l as, Tok.stop sp l] else [Tok.start sp l as], rest) := by
  have hl := hq.lex (ha.nameStop hwt e rest)
  have hat := ha.lex hwt e rest (b ++ (wt ++ (tagEnd e ++ rest))).length (by simp)
  obtain ⟨c, nm, rfl, hc⟩ := hq.head
  obtain ⟨_, _, hsl, hqm, hbang⟩ := nameStart_facts hc
  simp only [List.cons_append] at hl ⊢
  simp only [step, if_true, hsl, hqm, hbang, if_false, startTag, hl, hat]

theorem step_stop {q sp l : Str} (hq : NameLex q sp l) {ws : Str}
    (hw : ws.all isSp = true) (rest : Str) :
    step ('<' :: '/' :: (q ++ (ws ++ '>' :: rest))) = some ([Tok.stop sp l], rest) := by
  have hl := hq.lex (nameStop_ws ws '>' rest hw rfl)
  simp [step, endTag, hl, dropSp_ws_cons ws '>' rest hw (by decide)]

/-- empty or begins with `<`: where a run of character data may end — the pivot of `step_text`,
    `junctionOk` and every tree induction -/
def startsLt (rest : Str) : Bool := stops (· != '<') rest

theorem step_text (r v rest : Str) (hne : r ≠ []) (hr : ∀ x ∈ r, x ≠ '<')
    (hl : lexChars r = some v) (hrest : startsLt rest = true) :
    step (r ++ rest) = some ([Tok.text v], rest) := by
  obtain ⟨h1, h2⟩ := span_stop (· != '<') r rest (fun x hx => by simp [hr x hx]) hrest
  cases r with
  | nil => exact absurd rfl hne
  | cons c r' =>
    have hc : c ≠ '<' := hr c (List.mem_cons_self ..)
    simp only [List.cons_append] at h1 h2 ⊢
    simp only [step, hc, if_false, textRun, h1, h2, hl]

/-- a text step consumes input (the length condition of `tokF_step` / `tokenize_step`) -/
theorem length_lt_append {r : Str} (hne : r ≠ []) (rest : Str) :
    rest.length < (r ++ rest).length := by
  cases r with
  | nil => exact absurd rfl hne
  | cons c r' => simp; omega

theorem breakOn_cons {pat : Str} {c : Char} {r a b : Str} (hp : pat.isPrefixOf (c :: r) = false)
    (ih : breakOn pat r = some (a, b)) : breakOn pat (c :: r) = some (c :: a, b) := by
  simp only [breakOn, hp, ih]; simp

/-- a comment text the tokenizer reads back: no `--` inside and no `-` at the end (the closing
    `-->` would then begin one character early: `--->` is a syntax error) -/
def commentOk : Str → Bool
  | [] => true
  | c :: r =>
    (if c = '-' then (match r with | [] => false | d :: _ => d != '-') else true) && commentOk r

theorem breakOn_comment : ∀ (s rest : Str), commentOk s = true →
    breakOn ['-', '-'] (s ++ '-' :: '-' :: rest) = some (s, rest)
  | [], rest, _ => by simp [breakOn]
  | c :: r, rest, h => by
      simp only [commentOk, Bool.and_eq_true] at h
      refine breakOn_cons ?_ (breakOn_comment r rest h.2)
      -- `--` does not begin at `c`: `c` is no dash, or the next character exists and is none
      by_cases hc : c = '-'
      · subst hc
        cases r with
        | nil => simp at h
        | cons d r' =>
          have hd : d ≠ '-' := by simpa using h.1
          simp [List.isPrefixOf, Ne.symm hd]
      · simp [List.isPrefixOf, Ne.symm hc]

theorem step_comment (s rest : Str) (h : commentOk s = true) :
    step ('<' :: '!' :: '-' :: '-' :: (s ++ '-' :: '-' :: '>' :: rest))
      = some ([Tok.comment s], rest) := by
  simp [step, bang, breakOn_comment s ('>' :: rest) h]

theorem tokF_step {f : Nat} {s rest : Str} {tk ts : List Tok}
    (hs : step s = some (tk, rest)) (hlen : rest.length < s.length)
    (ht : tokF f rest = some ts) : tokF (f + 1) s = some (tk ++ ts) := by
  cases s with
  | nil => simp at hlen
  | cons c r =>
    have : rest.length ≤ r.length := by simp at hlen; omega
    simp only [tokF, hs, ht, this, if_true]

/-- a result does not depend on the fuel: it survives more fuel, and any fuel above the input
    length reaches it, because every step consumes input -/
theorem tokF_fuel {g : Nat} {s : Str} {ts : List Tok} (h : tokF g s = some ts) :
    ∀ f, g ≤ f ∨ s.length < f → tokF f s = some ts := by
  fun_induction tokF g s generalizing ts with
  | case1 g => intro f _; cases f <;> simpa [tokF] using h
  | case5 g c r tk rest hs hle more hr ih =>
    cases h
    intro f hf
    obtain ⟨f', rfl⟩ : ∃ f', f = f' + 1 := ⟨f - 1, by simp at hf; omega⟩
    exact tokF_step hs (by simp; omega) (ih hr f' (by simp at hf; omega))
  | _ => cases h

theorem tokF_enough : ∀ (g : Nat) (s : Str) (ts : List Tok), tokF g s = some ts →
    ∀ f, s.length < f → tokF f s = some ts :=
  fun _ _ _ h f hf => tokF_fuel h f (.inr hf)

theorem tokenize_of_tokF {g : Nat} {s : Str} {ts : List Tok} (h : tokF g s = some ts) :
    tokenize s = some ts := tokF_enough g s ts h _ (Nat.lt_succ_self _)

theorem tokenize_step {s rest : Str} {tk ts : List Tok} (hs : step s = some (tk, rest))
    (hlen : rest.length < s.length) (ht : tokenize rest = some ts) :
    tokenize s = some (tk ++ ts) :=
  tokenize_of_tokF (tokF_step hs hlen ht)

theorem rawView_elem_inv {sp name : Str} {attrs : List Attr} {kids : List Node} {n' : Node}
    (h : rawView (.elem sp name attrs kids) = some n') :
    ∃ a' k', rawAttrs attrs = some a' ∧ rawViewKids kids = some k' ∧ n' = .elem sp name a' k' := by
  simp only [rawView] at h
  split at h
  · rename_i a k ha hk
    exact ⟨a, k, ha, hk, by simpa using h.symm⟩
  · cases h

theorem rawViewKids_cons_inv {k : Node} {ks ks' : List Node}
    (h : rawViewKids (k :: ks) = some ks') :
    ∃ k' ks2, rawView k = some k' ∧ rawViewKids ks = some ks2 ∧ ks' = k' :: ks2 := by
  simp only [rawViewKids] at h
  split at h
  · rename_i a r ha hr
    exact ⟨a, r, ha, hr, by simpa using h.symm⟩
  · cases h

theorem attrsLex_render (cfg : EncCfg) (hesc : cfg.escape = false) (attrs attrs' : List Attr) :
    rawAttrs attrs = some attrs' → (attrs.map (·.value)).all valOk = true →
    attrs'.all (fun a => a.space.isEmpty && xmlNameOk a.name && xmlCharsOk a.value) = true →
    AttrsLex (renderAttrs cfg attrs) attrs' := by
  fun_induction rawAttrs attrs generalizing attrs' with
  | case1 => intro hv _ _; cases hv; exact .nil
  | case2 a as v r' hr hu ih =>
    intro hv hs hw
    cases hv
    simp only [List.all_cons, Bool.and_eq_true, List.isEmpty_iff] at hw
    obtain ⟨⟨⟨hsp, hnm⟩, hxv⟩, hw'⟩ := hw
    simp only [List.map_cons, List.all_cons, Bool.and_eq_true, valOk_eq_rawOk a.value] at hs
    have := AttrsLex.cons (w1 := []) (w2 := []) (w3 := []) (nameLex_plain a.name hnm)
      rfl rfl rfl (.inl rfl) (fun x hx => (Surf.rawOk_mem hs.1 hx).2.2.2)
      (Surf.lexChars_rawOk hs.1 hu hxv) (ih r' hr hs.2 hw')
    simpa [renderAttrs, escIf, hesc, hsp] using this
  | _ => nofun

/-- `[] ++` stands where `step_start` / `step_stop` have white space, so that they apply as they
    stand -/
theorem render_elem (cfg : EncCfg) (sp name : Str) (attrs : List Attr) (kids : List Node)
    (rest : Str) :
    render cfg (.elem sp name attrs kids) ++ rest
      = '<' :: (name ++ (renderAttrs cfg attrs ++ ([] ++
          (if kids.isEmpty && !cfg.goEmpty then tagEnd true ++ rest
           else tagEnd false ++
             (renderKids cfg kids ++ ('<' :: '/' :: (name ++ ([] ++ '>' :: rest)))))))) := by
  cases kids <;> cases hg : cfg.goEmpty <;>
    simp [render, endOf, hg, tagEnd, renderKids, closeTag]

mutual
/-- an upper bound on the `step`s the tokenizer needs for the rendering of a tree -/
def stepsN : Node → Nat
  | .elem _ _ _ kids => 2 + stepsKids kids
  | _ => 1
def stepsKids : List Node → Nat
  | [] => 0
  | k :: ks => stepsN k + stepsKids ks
end

def isTextNode : Node → Bool
  | .text _ => true
  | _ => false

theorem noAdjKids_text {s : Str} {rest : List Node} (h : noAdjTextKids (.text s :: rest) = true) :
    ∀ k ∈ rest.head?, isTextNode k = false := by
  cases rest with
  | nil => simp
  | cons k r =>
    cases k with
    | text s' => simp [noAdjTextKids] at h
    | _ => simp [isTextNode]

theorem startsLt_render_of_view (cfg : EncCfg) {k k' : Node} (h : rawView k = some k')
    (hw : wellNamedNode k' = true) (ht : isTextNode k' = false) (tl : Str) :
    startsLt (render cfg k ++ tl) = true := by
  cases k with
  | elem sp name attrs kids => rfl
  | text s =>
    simp only [rawView, Option.map_eq_some_iff] at h
    obtain ⟨v, _, rfl⟩ := h
    simp [isTextNode] at ht
  | comment s => cases h; simp [wellNamedNode] at hw
  | procinst t i => cases h; simp [wellNamedNode] at hw
  | directive s => cases h; simp [wellNamedNode] at hw

/- The fuel is explicit here (an upper bound on the steps, `stepsN`); the one user,
   `tokenize_render`, forgets it.  For a new renderer copy the `tokenize_step` style of
   `Surf.tok_node` (Lemmas/Surface.lean) instead: no fuel arithmetic. -/
mutual
theorem tokF_node (cfg : EncCfg) (hesc : cfg.escape = false) :
    ∀ (n n' : Node) (rest : Str) (f : Nat) (ts : List Tok),
    rawView n = some n' → (nodeVals n).all valOk = true → wellNamedNode n' = true →
    noAdjText n' = true → (isTextNode n = true → startsLt rest = true) →
    tokF f rest = some ts →
    tokF (f + stepsN n) (render cfg n ++ rest) = some (flatten n' ++ ts)
  | .elem sp name attrs kids, n', rest, f, ts, hv, hs, hw, hadj, _, ht => by
      obtain ⟨a', k', hra, hrk, rfl⟩ := rawView_elem_inv hv
      simp only [wellNamedNode, Bool.and_eq_true, List.isEmpty_iff] at hw
      obtain ⟨⟨⟨rfl, hname⟩, hattrs⟩, hkids⟩ := hw
      simp only [nodeVals, List.all_append, Bool.and_eq_true] at hs
      have hq := nameLex_plain name hname
      have hal := attrsLex_render cfg hesc attrs a' hra hs.1 hattrs
      have hnil : ([] : Str).all isSp = true := rfl
      rw [render_elem]
      cases hsc : kids.isEmpty && !cfg.goEmpty with
      | true =>
        -- `<name …/>`: one step; the second unit of fuel is not needed
        simp only [Bool.and_eq_true, List.isEmpty_iff] at hsc
        obtain ⟨rfl, _⟩ := hsc
        cases hrk
        have h1 := tokF_step (step_start hq hal hnil true rest) (by simp [tagEnd]; omega) ht
        have h2 := tokF_fuel h1 (f + 2) (.inl (by omega))
        simpa [stepsN, stepsKids, flatten, flattenKids] using h2
      | false =>
        -- from the end tag backwards: each step is applied in front of what is already tokenized
        have h1 := tokF_step (step_stop hq hnil rest) (by simp; omega) ht
        have h2 := tokF_kids cfg hesc kids k' _ (f + 1) _ hrk hs.2 hkids hadj
          rfl h1
        have h3 := tokF_step (step_start hq hal hnil false _) (by simp; omega) h2
        have he : f + stepsN (.elem [] name attrs kids) = f + 1 + stepsKids kids + 1 := by
          simp [stepsN]; omega
        rw [he]
        simpa [flatten] using h3
  | .text r, n', rest, f, ts, hv, hs, hw, _, hafter, ht => by
      simp only [rawView, Option.map_eq_some_iff] at hv
      obtain ⟨v, hu, rfl⟩ := hv
      simp only [wellNamedNode, Bool.and_eq_true, Bool.not_eq_true', List.isEmpty_eq_false_iff] at hw
      simp only [nodeVals, List.all_cons, List.all_nil, Bool.and_true, valOk_eq_rawOk] at hs
      have hne : r ≠ [] := by
        intro e; subst e
        simp [unesc, unescF] at hu
        exact hw.1 hu
      have hstep := step_text r v rest hne (fun _ hx => (Surf.rawOk_mem hs hx).1)
        (Surf.lexChars_rawOk hs hu hw.2) (hafter rfl)
      have h1 := tokF_step hstep (length_lt_append hne rest) ht
      simpa [stepsN, render, escIf, hesc, flatten] using h1
  | .comment s, n', _, _, _, hv, _, hw, _, _, _ => by cases hv; simp [wellNamedNode] at hw
  | .procinst t i, n', _, _, _, hv, _, hw, _, _, _ => by cases hv; simp [wellNamedNode] at hw
  | .directive s, n', _, _, _, hv, _, hw, _, _, _ => by cases hv; simp [wellNamedNode] at hw
theorem tokF_kids (cfg : EncCfg) (hesc : cfg.escape = false) :
    ∀ (ks ks' : List Node) (rest : Str) (f : Nat) (ts : List Tok),
    rawViewKids ks = some ks' → (kidsVals ks).all valOk = true → wellNamedKids ks' = true →
    noAdjTextKids ks' = true → startsLt rest = true →
    tokF f rest = some ts →
    tokF (f + stepsKids ks) (renderKids cfg ks ++ rest) = some (flattenKids ks' ++ ts)
  | [], ks', rest, f, ts, hv, _, _, _, _, ht => by
      cases hv
      simpa [stepsKids, renderKids, flattenKids] using ht
  | k :: ks, ks', rest, f, ts, hv, hs, hw, hadj, hrest, ht => by
      obtain ⟨k', ks2, hk, hks, rfl⟩ := rawViewKids_cons_inv hv
      simp only [wellNamedKids, Bool.and_eq_true] at hw
      simp only [kidsVals, List.all_append, Bool.and_eq_true] at hs
      have ih := tokF_kids cfg hesc ks ks2 rest f ts hks hs.2 hw.2 (Dec.noAdjTextKids_cons hadj).2 hrest ht
      -- behind a text node: the end of the siblings, or an element
      have hafter : isTextNode k = true → startsLt (renderKids cfg ks ++ rest) = true := by
        intro hkt
        cases k with
        | text r =>
          simp only [rawView, Option.map_eq_some_iff] at hk
          obtain ⟨v, _, rfl⟩ := hk
          cases ks with
          | nil => simpa [renderKids] using hrest
          | cons k2 ks3 =>
            obtain ⟨k2', ks3', hk2, _, rfl⟩ := rawViewKids_cons_inv hks
            simp only [wellNamedKids, Bool.and_eq_true] at hw
            simp only [renderKids, List.append_assoc]
            exact startsLt_render_of_view cfg hk2 hw.2.1 (noAdjKids_text hadj k2' rfl) _
        | _ => simp [isTextNode] at hkt
      have h := tokF_node cfg hesc k k' (renderKids cfg ks ++ rest) (f + stepsKids ks)
        (flattenKids ks2 ++ ts) hk hs.1 hw.1 (Dec.noAdjTextKids_cons hadj).1 hafter ih
      have he : f + stepsKids (k :: ks) = f + stepsKids ks + stepsN k := by
        simp [stepsKids]; omega
      rw [he]
      simpa [renderKids, flattenKids, List.append_assoc] using h
end

/- A carriage return in the input of `numRef`, `matchRef`, `unescF` is still there in what they
   leave or produce: a reference consumes digits, `;` and the five entity names only. -/
theorem numRef_keeps_cr {digit : Char → Option Nat} {base : Nat} (hd : digit '\r' = none)
    {s : Str} {acc : Nat} {seen : Bool} {n : Nat} {rest : Str} :
    numRef digit base s acc seen = some (n, rest) → '\r' ∈ s → '\r' ∈ rest := by
  fun_induction numRef digit base s acc seen with
  | case2 r acc =>
    intro h hm
    cases h
    exact (List.mem_cons.1 hm).resolve_left (by decide)
  | case4 c r acc _ _ d hdc ih =>
    intro h hm
    refine ih h ((List.mem_cons.1 hm).resolve_left fun e => ?_)
    rw [← e, hd] at hdc
    cases hdc
  | _ => nofun

theorem matchRef_keeps_cr {s : Str} {d : Char} {rest : Str} : matchRef s = some (d, rest) →
    '\r' ∈ s → '\r' ∈ rest := by
  fun_cases matchRef s with
  | case1 _ r hf =>
    -- one of the five named entities
    intro h hm
    cases h
    obtain ⟨⟨p, ch⟩, hx, hfx⟩ := List.exists_of_findSome?_eq_some hf
    simp only at hfx
    split at hfx
    · rename_i hpre
      simp only [Option.some.injEq, Prod.mk.injEq] at hfx
      obtain ⟨t, rfl⟩ := List.isPrefixOf_iff_prefix.1 hpre
      rw [← hfx.2, List.drop_left]
      exact (List.mem_append.1 hm).resolve_left ((by decide : ∀ e ∈ namedEnts, '\r' ∉ e.1) _ hx)
    · cases hfx
  | case2 r0 n r hn =>
    -- `&#x…;`
    intro h hm
    simp only [Option.map_eq_some_iff, Prod.mk.injEq] at h
    obtain ⟨_, _, _, rfl⟩ := h
    exact numRef_keeps_cr rfl hn (by simpa using hm)
  | case4 r0 _ n r hn =>
    -- `&#…;`
    intro h hm
    simp only [Option.map_eq_some_iff, Prod.mk.injEq] at h
    obtain ⟨_, _, _, rfl⟩ := h
    exact numRef_keeps_cr rfl hn (by simpa using hm)
  | _ => nofun

theorem unescF_keeps_cr : ∀ (f : Nat) (s v : Str), unescF f s = some v → '\r' ∈ s → '\r' ∈ v := by
  intro f s
  fun_induction unescF f s with
  | case1 => intro v _ hm; cases hm
  | case3 f r d rest hr ih =>
    intro v h hm
    simp only [Option.map_eq_some_iff] at h
    obtain ⟨v', hv', rfl⟩ := h
    exact List.mem_cons_of_mem _ (ih v' hv' (matchRef_keeps_cr hr hm))
  | case6 f c r _ _ ih =>
    intro v h hm
    simp only [Option.map_eq_some_iff] at h
    obtain ⟨v', hv', rfl⟩ := h
    rcases List.mem_cons.1 hm with h | h
    · exact h ▸ List.mem_cons_self ..
    · exact List.mem_cons_of_mem _ (ih v' hv' h)
  | _ => nofun

theorem valOk_of_raw {r v : Str} (hs : rawSafeStr r = true) (hu : unesc r = some v)
    (hv : xmlCharsOk v = true) : valOk r = true := by
  have hcr : '\r' ∉ r := fun hm => xmlCharsOk_no_cr hv _ (unescF_keeps_cr _ _ _ hu hm) rfl
  simp only [rawSafeStr, List.all_eq_true, Bool.and_eq_true] at hs
  simp only [valOk, List.all_eq_true, Bool.and_eq_true]
  intro c hc
  refine ⟨hs c hc, ?_⟩
  simp only [bne_iff_ne, ne_eq]
  intro e; subst e; exact hcr hc

theorem rawOk_escape (s : Str) (h : xmlCharsOk s = true) :
    Surf.rawOk '"' (escapeChars s) = true :=
  valOk_eq_rawOk _ ▸ valOk_of_raw (rawSafeStr_escape s) (unesc_escapeChars s) h

theorem lexChars_escape (s : Str) (h : xmlCharsOk s = true) : lexChars (escapeChars s) = some s :=
  Surf.lexChars_rawOk (rawOk_escape s h) (unesc_escapeChars s) h

theorem escapeChars_ne (s : Str) (h : s ≠ []) : escapeChars s ≠ [] := by
  rwa [Ne, ← List.isEmpty_iff, escapeChars_isEmpty, List.isEmpty_iff]

theorem step_text_esc (s rest : Str) (hne : s ≠ []) (hx : xmlCharsOk s = true)
    (hrest : startsLt rest = true) :
    step (escapeChars s ++ rest) = some ([Tok.text s], rest) :=
  step_text (escapeChars s) s rest (escapeChars_ne s hne)
    (fun _ hc => (Surf.rawOk_mem (rawOk_escape s hx) hc).1) (lexChars_escape s hx) hrest

theorem valsOk_attrs (attrs a' : List Attr) : rawAttrs attrs = some a' →
    (attrs.map (·.value)).all rawSafeStr = true →
    a'.all (fun a => a.space.isEmpty && xmlNameOk a.name && xmlCharsOk a.value) = true →
    (attrs.map (·.value)).all valOk = true := by
  fun_induction rawAttrs attrs generalizing a' with
  | case1 => exact fun _ _ _ => rfl
  | case2 a as v r' hr hu ih =>
    intro hv hs hw
    cases hv
    simp only [List.all_cons, Bool.and_eq_true] at hw
    simp only [List.map_cons, List.all_cons, Bool.and_eq_true] at hs ⊢
    exact ⟨valOk_of_raw hs.1 hu hw.1.2, ih r' hr hs.2 hw.2⟩
  | _ => nofun

mutual
theorem valsOk_node : ∀ (n n' : Node), rawView n = some n' →
    (nodeVals n).all rawSafeStr = true → wellNamedNode n' = true →
    (nodeVals n).all valOk = true
  | .elem sp name attrs kids, n', hv, hs, hw => by
      obtain ⟨a', k', hra, hrk, rfl⟩ := rawView_elem_inv hv
      simp only [wellNamedNode, Bool.and_eq_true] at hw
      simp only [nodeVals, List.all_append, Bool.and_eq_true] at hs ⊢
      exact ⟨valsOk_attrs attrs a' hra hs.1 hw.1.2, valsOk_kids kids k' hrk hs.2 hw.2⟩
  | .text r, n', hv, hs, hw => by
      simp only [rawView, Option.map_eq_some_iff] at hv
      obtain ⟨v, hu, rfl⟩ := hv
      simp only [wellNamedNode, Bool.and_eq_true] at hw
      simp only [nodeVals, List.all_cons, List.all_nil, Bool.and_true] at hs ⊢
      exact valOk_of_raw hs hu hw.2
  | .comment _, _, _, _, _ => rfl
  | .procinst _ _, _, _, _, _ => rfl
  | .directive _, _, _, _, _ => rfl
theorem valsOk_kids : ∀ (ks ks' : List Node), rawViewKids ks = some ks' →
    (kidsVals ks).all rawSafeStr = true → wellNamedKids ks' = true →
    (kidsVals ks).all valOk = true
  | [], _, _, _, _ => rfl
  | k :: ks, ks', hv, hs, hw => by
      obtain ⟨k', ks2, hk, hks, rfl⟩ := rawViewKids_cons_inv hv
      simp only [wellNamedKids, Bool.and_eq_true] at hw
      simp only [kidsVals, List.all_append, Bool.and_eq_true] at hs ⊢
      exact ⟨valsOk_node k k' hk hs.1 hw.1, valsOk_kids ks ks2 hks hs.2 hw.2⟩
end

/-- the tokenizer law for raw text, `Option` form: under the hypotheses of `TokLawRaw` the
    model tokenizer succeeds on the rendering, with the tokens of the tree the values denote, and
    goes on with whatever follows (behind a text node: nothing, or a `<`) -/
theorem tokenize_render (cfg : EncCfg) (hesc : cfg.escape = false) (n n' : Node)
    (hv : rawView n = some n') (hs : rawSafe n = true) (hW : WellNamed n' = true)
    (rest : Str) (ts : List Tok) (hr : isTextNode n = true → startsLt rest = true)
    (ht : tokenize rest = some ts) : tokenize (render cfg n ++ rest) = some (flatten n' ++ ts) := by
  have hW := Bool.and_eq_true_iff.1 hW
  exact tokenize_of_tokF
    (tokF_node cfg hesc n n' rest _ ts hv (valsOk_node n n' hv hs hW.1) hW.1 hW.2 hr ht)

end Mxj.Tokz
