/-
  Mxj.Lemmas.Wrapper — the walkers of x2j-wrapper (`Mxj.Model.Wrapper`) against the core walker
  `walk` (C20); with the predicate `noDashKeys` (no attribute entries anywhere) and the wrapper's
  `wPathsForKey`, which C20 speaks about.
-/
import Mxj.Model.Wrapper
import Mxj.Lemmas.PathIdx
namespace Mxj.Wrapper
open Mxj

/-- the wrapper's leaf load is the member view of the key specification -/
theorem wLeaf_members : wLeaf = KeySpec.members := rfl

/-- `wLeaf` is `expand` (the same two equations, cf. `members_eq_expand`) -/
theorem wLeaf_eq (m : Val) : wLeaf m = loadLeaf none m :=
  (loadLeaf_none m).symm

theorem wWalk_nil (g : Bool) (m : Val) : wWalk g m [] = wLeaf m := by
  cases m <;> simp [wWalk]

theorem walkNoAttrs_nil (m : Val) : walkNoAttrs m [] = loadLeaf none m := by
  cases m <;> simp [walkNoAttrs]

/-- with the switch on the wrapper's walker has the equations of the core walker: induction along
    the latter, the former unfolded in each case -/
theorem wWalk_true (ks : List Str) (m : Val) : wWalk true m ks = walk none m ks := by
  fun_induction walk none m ks <;>
    simp only [wWalk, *, if_true, if_false, wLeaf_eq, Bool.not_true, Bool.and_false,
      Bool.false_eq_true]
  all_goals rfl

/-- with the switch off, those of `walkNoAttrs`: the attribute test inside the `flatMap` is the
    filter in front of it -/
theorem wWalk_false (ks : List Str) (m : Val) : wWalk false m ks = walkNoAttrs m ks := by
  fun_induction walkNoAttrs m ks <;>
    simp only [wWalk, *, if_true, if_false, wLeaf_eq, Bool.not_false, Bool.and_true,
      flatMap_filter_not]

mutual
/-- no map anywhere inside the value has a key starting with '-' -/
def noDashKeys : Val → Bool
  | .list xs => noDashList xs
  | .map kvs => noDashEntries kvs
  | _ => true
def noDashList : List Val → Bool
  | [] => true
  | x :: xs => noDashKeys x && noDashList xs
def noDashEntries : Entries → Bool
  | [] => true
  | (k, v) :: rest => !isDashKey k && noDashKeys v && noDashEntries rest
end

theorem noDashEntries_mem : ∀ (kvs : Entries) (e : Str × Val), noDashEntries kvs = true →
    e ∈ kvs → isDashKey e.1 = false ∧ noDashKeys e.2 = true := by
  intro kvs
  induction kvs with
  | nil => intro e _ h; cases h
  | cons a rest ih =>
    intro e h he
    obtain ⟨k, v⟩ := a
    simp only [noDashEntries, Bool.and_eq_true, Bool.not_eq_true'] at h
    rcases List.mem_cons.1 he with rfl | he'
    · exact ⟨h.1.1, h.1.2⟩
    · exact ih e h.2 he'

theorem noDashList_mem : ∀ (xs : List Val) (x : Val), noDashList xs = true →
    x ∈ xs → noDashKeys x = true := by
  intro xs
  induction xs with
  | nil => intro x _ h; cases h
  | cons a rest ih =>
    intro x h hx
    simp only [noDashList, Bool.and_eq_true] at h
    rcases List.mem_cons.1 hx with rfl | hx'
    · exact h.1
    · exact ih x h.2 hx'

theorem hered_noDash : Hered fun v => noDashKeys v = true :=
  ⟨fun hv x hx => noDashList_mem _ x hv hx, fun hv e he => (noDashEntries_mem _ e hv he).2⟩

/-- the attribute switch is consulted only at a wildcard step over a key starting with '-' -/
theorem wWalk_switch (g g' : Bool) : ∀ (ks : List Str) (m : Val),
    (∀ k ∈ ks, k ≠ ['*']) ∨ noDashKeys m = true → wWalk g m ks = wWalk g' m ks := by
  intro ks
  induction ks with
  | nil => intro m _; rw [wWalk_nil, wWalk_nil]
  | cons k ks ih =>
    intro m h
    by_cases hk : k = ['*']
    · have hm : noDashKeys m = true := h.resolve_left fun h' => h' k (by simp) hk
      subst hk
      have entries : ∀ kvs : Entries, noDashEntries kvs = true →
          (kvs.flatMap fun e => if isDashKey e.1 && !g then [] else wWalk g e.2 ks) =
            kvs.flatMap fun e => if isDashKey e.1 && !g' then [] else wWalk g' e.2 ks := by
        intro kvs hkvs
        apply flatMap_congr_mem
        intro e he
        have := noDashEntries_mem kvs e hkvs he
        simp [this.1, ih e.2 (Or.inr this.2)]
      cases m with
      | map kvs => simp only [wWalk, if_true]; exact entries kvs hm
      | list xs =>
        simp only [wWalk, if_true]
        apply flatMap_congr_mem
        intro x hx
        have hx' := noDashList_mem xs x hm hx
        cases x with
        | map kvs => exact entries kvs hx'
        | _ => exact ih _ (Or.inr hx')
      | _ => simp [wWalk]
    · have look : ∀ kvs : Entries, (noDashKeys m = true → noDashEntries kvs = true) →
          (match lookup k kvs with
            | some v => wWalk g v ks
            | none => []) =
          match lookup k kvs with
            | some v => wWalk g' v ks
            | none => [] := by
        intro kvs hkvs
        cases hl : lookup k kvs with
        | none => rfl
        | some v =>
          exact ih v (h.imp (fun h k' hk' => h k' (by simp [hk']))
            fun hm => hered_noDash.lookup (kvs := kvs) (hkvs hm) hl)
      cases m with
      | map kvs => simp only [wWalk, hk, if_false]; exact look kvs id
      | list xs =>
        simp only [wWalk, hk, if_false]
        apply flatMap_congr_mem
        intro x hx
        cases x with
        | map kvs => exact look kvs fun hm => noDashList_mem xs _ hm hx
        | _ => rfl
      | _ => simp [wWalk]

/-- x2j-wrapper `PathsForKey` as repaired: its `hasKeyPath` is textually the core algorithm, the
    basket is a set -/
def wPathsForKey (m : Val) (key : Str) : List Str := (hasKeyPath key [] m).eraseDups

end Mxj.Wrapper
