/-
  Mxj.Lemmas.SeqTok — what the tokenizer law for SEQUENCE trees (`renderSeq`, Model/SeqTree.lean:
  elements, text, comments, processing instructions; escaping on) needs besides
  Lemmas/Tokenizer.lean: the executable side conditions (`seqTokNode`, `SeqTokOk`), one `step` per
  processing instruction (escaped text runs and comments: `step_text_esc`, `step_comment` there),
  and `qualify_id`: a tree in the domain has no name space, so it is its own qualified form,
  which makes the law without prefixes a corollary of the law with prefixes.  The tree induction
  is in Lemmas/SeqTokQ.lean.  Directives (`<!…>`) are outside the tokenizer model and excluded by
  `seqTokNode`.  Used by Props/C04ExtTok.lean.
-/
import Mxj.Lemmas.Tokenizer
import Mxj.Lemmas.SeqIndent
namespace Mxj.Tokz
open Mxj Mxj.Enc Mxj.EscDec

def piTextOk : Str → Bool
  | [] => true
  | c :: r => !(['?', '>'].isPrefixOf (c :: r)) && piTextOk r

/-- the tokenizer skips the white space after the target, so a text that begins with some would
    lose it -/
def noLeadSp : Str → Bool
  | [] => true
  | c :: _ => !isSp c

mutual
/-- sequence trees the tokenizer law speaks about: empty name spaces and (ASCII, colon-free) XML
    names, round-trippable characters in attribute values and text, no empty text node, comments
    per `commentOk`, processing instructions with a name as target and a text per `noLeadSp` /
    `piTextOk`, NO directive -/
def seqTokNode : Node → Bool
  | .elem sp name attrs kids =>
      sp.isEmpty && xmlNameOk name
      && attrs.all (fun a => a.space.isEmpty && xmlNameOk a.name && xmlCharsOk a.value)
      && seqTokKids kids
  | .text s => !s.isEmpty && xmlCharsOk s
  | .comment s => commentOk s
  | .procinst t i => xmlNameOk t && noLeadSp i && piTextOk i
  | .directive _ => false
def seqTokKids : List Node → Bool
  | [] => true
  | k :: ks => seqTokNode k && seqTokKids ks
end

/-- … and no two adjacent text nodes (they would come back as one token) -/
def SeqTokOk (n : Node) : Bool := seqTokNode n && noAdjText n

theorem breakOn_pi : ∀ (s rest : Str), piTextOk s = true →
    breakOn ['?', '>'] (s ++ '?' :: '>' :: rest) = some (s, rest)
  | [], rest, _ => by simp [breakOn]
  | c :: r, rest, h => by
      simp only [piTextOk, Bool.and_eq_true, Bool.not_eq_true'] at h
      refine breakOn_cons ?_ (breakOn_pi r rest h.2)
      -- `?>` does not begin at `c`; behind the last character comes the closing `?`, not a `>`
      cases r with
      | nil => simp [List.isPrefixOf]
      | cons d r' => simpa [List.isPrefixOf] using h.1

theorem dropSp_pi (i rest : Str) (h : noLeadSp i = true) :
    dropSp (' ' :: (i ++ '?' :: '>' :: rest)) = i ++ '?' :: '>' :: rest :=
  -- `noLeadSp` is `stops isSp`
  (span_stop isSp [' '] (i ++ '?' :: '>' :: rest) (by decide)
    (by cases i with | nil => rfl | cons _ _ => exact h)).2

theorem step_pi (t i rest : Str) (ht : xmlNameOk t = true) (hl : noLeadSp i = true)
    (hi : piTextOk i = true) :
    step ('<' :: '?' :: (t ++ ' ' :: (i ++ '?' :: '>' :: rest)))
      = some ([Tok.procinst t i], rest) := by
  have h1 := (nameLex_plain t ht).raw (tl := ' ' :: (i ++ '?' :: '>' :: rest)) rfl
  simp [step, procInst, h1, dropSp_pi i rest hl, breakOn_pi i rest hi]

theorem qualAttrs_id : ∀ (attrs : List Attr),
    attrs.all (fun a => a.space.isEmpty && xmlNameOk a.name && xmlCharsOk a.value) = true →
    attrs.map (qualAttr seqDflt) = attrs
  | [], _ => rfl
  | a :: as, h => by
      simp only [List.all_cons, Bool.and_eq_true, List.isEmpty_iff] at h
      obtain ⟨⟨⟨hsp, _⟩, _⟩, hr⟩ := h
      cases a with
      | mk s n v =>
        simp only at hsp
        subst hsp
        simp only [List.map_cons, qualAttrs_id as hr]
        simp [qualAttr, qualName, seqDflt]

theorem qualifyKids_id : ∀ (ks : List Node), seqTokKids ks = true → qualifyKids seqDflt ks = ks := by
  intro ks
  induction ks using Node.forest_ind with
  | nil => exact fun _ => rfl
  | elem sp name attrs kids r ihk ihr =>
    intro h
    simp only [seqTokKids, seqTokNode, Bool.and_eq_true, List.isEmpty_iff] at h
    obtain ⟨⟨⟨⟨hsp, _⟩, hattrs⟩, hkids⟩, hr⟩ := h
    subst hsp
    simp only [qualifyKids, qualify, qualAttrs_id attrs hattrs, ihk hkids, ihr hr]
    simp [qualName, seqDflt]
  | text _ r ih | comment _ r ih | procinst _ _ r ih | directive _ r ih =>
    exact fun h => congrArg (_ :: ·) (ih (Bool.and_eq_true_iff.1 h).2)

theorem qualify_id (n : Node) (h : seqTokNode n = true) : qualify seqDflt n = n :=
  List.head_eq_of_cons_eq (qualifyKids_id [n] ((Bool.and_true _).trans h))

end Mxj.Tokz
