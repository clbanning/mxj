/-
  Mxj.Lemmas.EncodeBase — the part of the C02 / C03 proofs that holds for every option
  setting: the compact encoder writes the rendering of the tree `encTree` builds
  (`marshal_eq_render`; `Plain` is kept by `Val.norm`), that tree is made of elements and is not
  empty, and how `Conv.groupOnto` computes on the sibling sequences the encoder produces (what
  `Conv.value` makes of the grouped entries: `value_elem_nil`, `value_elem_cons` of `Lemmas/Group`).
  Beside them the general facts this line is the first to need: `collectV` under `Val.norm`,
  `lookup` / `Dec.valsOf` / `Conv.groupOnto` key by key, one-entry maps under `≈ᵥ`.
-/
import Mxj.Model.EncTree
import Mxj.Lemmas.Escape
import Mxj.Lemmas.Group
import Mxj.Lemmas.Norm
import Mxj.Lemmas.Trim
namespace Mxj.Enc
open Mxj

theorem renderKids_eq (cfg : EncCfg) : ∀ (ks : List Node), renderKids cfg ks = ks.flatMap (render cfg)
  | [] => rfl
  | k :: ks => by simp [renderKids, renderKids_eq cfg ks]

theorem escIf_isEmpty (cfg : EncCfg) (s : Str) : (escIf cfg s).isEmpty = s.isEmpty := by
  unfold escIf; split
  · exact escapeChars_isEmpty s
  · rfl

theorem escIf_of_plain (cfg : EncCfg) {s : Str} (h : ∀ c ∈ s, special c = false) :
    escIf cfg s = s := by
  unfold escIf; split
  · exact escapeChars_of_plain s h
  · rfl

theorem escIf_nil (cfg : EncCfg) : escIf cfg [] = [] := escIf_of_plain cfg (by decide)

theorem escIf_true (cfg : EncCfg) : escIf cfg ['t', 'r', 'u', 'e'] = ['t', 'r', 'u', 'e'] :=
  escIf_of_plain cfg (by decide)

theorem escIf_false (cfg : EncCfg) :
    escIf cfg ['f', 'a', 'l', 's', 'e'] = ['f', 'a', 'l', 's', 'e'] :=
  escIf_of_plain cfg (by decide)

theorem fmtV_bool (cfg : EncCfg) (b : Bool) :
    ∃ t, fmtV (.bool b) = some t ∧ t.isEmpty = false ∧ escIf cfg t = t := by
  cases b
  · exact ⟨_, rfl, rfl, escIf_false cfg⟩
  · exact ⟨_, rfl, rfl, escIf_true cfg⟩

theorem plainText_eq {cfg : EncCfg} {s : Str} (h : plainText cfg s = true) : escIf cfg s = s := by
  unfold plainText at h; exact beq_iff_eq.1 h

theorem attrText_eq (cfg : EncCfg) (k : Str) (v : Val) (hp : Plain cfg v = true) :
    attrText cfg k v = (encAttr cfg k v).map (fun a => renderAttrs cfg [a]) := by
  cases v with
  | null => rfl
  | list _ => rfl
  | map _ => rfl
  | str s => simp [attrText, encAttr, attrValue, Except.map, renderAttrs]
  | num t =>
    simp only [Plain, Bool.and_eq_true] at hp
    simp [attrText, encAttr, attrValue, Except.map, renderAttrs, plainText_eq hp.2]
  | bool b =>
    cases b <;> simp [attrText, encAttr, attrValue, Except.map, renderAttrs, escIf_true, escIf_false]

theorem attrsText_eq (cfg : EncCfg) : ∀ (kvs : Entries), PlainEntries cfg kvs = true →
    attrsText cfg kvs = (encAttrs cfg kvs).map (renderAttrs cfg)
  | [], _ => rfl
  | (k, v) :: rest, hp => by
      simp only [PlainEntries, Bool.and_eq_true] at hp
      have ih := attrsText_eq cfg rest hp.2
      simp only [attrsText, encAttrs]
      split
      · rw [attrText_eq cfg k v hp.1.2, ih]
        cases encAttr cfg k v <;> cases encAttrs cfg rest <;> simp [Except.map, renderAttrs]
      · exact ih

def plainEntry (cfg : EncCfg) (e : Str × Val) : Bool :=
  nullTextOk cfg e.1 e.2 && Plain cfg e.2

theorem PlainEntries_iff (cfg : EncCfg) : ∀ (l : Entries),
    PlainEntries cfg l = true ↔ ∀ e ∈ l, plainEntry cfg e = true
  | [] => by simp [PlainEntries]
  | (k, v) :: rest => by
      simp only [PlainEntries, Bool.and_eq_true, PlainEntries_iff cfg rest, List.mem_cons,
        forall_eq_or_imp, plainEntry]

theorem textValue_eq {cfg : EncCfg} {kvs : Entries} {tv : Val}
    (hp : PlainEntries cfg kvs = true) (h : lookup cfg.textK kvs = some tv) :
    textValue cfg tv = (fmtV tv).map (escIf cfg) := by
  have he := (PlainEntries_iff cfg kvs).1 hp _ (mem_of_lookup h)
  simp only [plainEntry, Bool.and_eq_true] at he
  cases tv with
  | str _ | list _ | map _ => rfl
  | bool b => cases b <;> simp [textValue, fmtV, escIf_true, escIf_false]
  | num t =>
    simp only [Plain, Bool.and_eq_true] at he
    simp [textValue, fmtV, plainText_eq he.2.2]
  | null =>
    have h1 := he.1
    simp only [nullTextOk, decide_true, Bool.true_and, Bool.not_eq_true'] at h1
    simp [textValue, fmtV, escIf, h1]

theorem encMembers_cons_ok {cfg : EncCfg} {key : Str} {x : Val} {xs : List Val} {ns : List Node}
    (h : encMembers cfg key (x :: xs) = .ok ns) :
    ∃ a r, encTree cfg key x = .ok a ∧ encMembers cfg key xs = .ok r ∧ ns = a ++ r := by
  simp only [encMembers] at h
  split at h
  · exact nomatch h
  · rename_i a ha
    split at h
    · exact nomatch h
    · exact ⟨a, _, ha, ‹_›, (Except.ok.inj h).symm⟩

theorem encElems_cons_ok {cfg : EncCfg} {k : Str} {v : Val} {rest : Entries} {ns : List Node}
    (h : encElems cfg ((k, v) :: rest) = .ok ns) :
    ((k = cfg.textK || isAttrK cfg k) = true ∧ encElems cfg rest = .ok ns)
    ∨ ((k = cfg.textK || isAttrK cfg k) = false
        ∧ ∃ a r, encTree cfg k v = .ok a ∧ encElems cfg rest = .ok r ∧ ns = a ++ r) := by
  simp only [encElems] at h
  split at h
  · exact .inl ⟨by assumption, h⟩
  · rename_i hk
    refine .inr ⟨by simpa using hk, ?_⟩
    split at h
    · exact nomatch h
    · rename_i a ha
      split at h
      · exact nomatch h
      · exact ⟨a, _, ha, ‹_›, (Except.ok.inj h).symm⟩

/- `encTree_single`, `encTree_ne_nil`, `encTree_isElem` below have counterparts on `encT`
   (Lemmas/EncTotal: `encT_single`, `encT_adjOk`); these need no `isAttrK cfg cfg.textK = false`
   and serve the indented encoder, which is treated for every `cfg`. -/
theorem encTree_single (cfg : EncCfg) (key : Str) (v : Val) (ns : List Node)
    (hl : v.isList = false) (h : encTree cfg key v = .ok ns) :
    ∃ attrs kids, ns = [.elem [] key attrs kids] := by
  revert hl h
  -- every branch of `encTree` that succeeds on a non-list returns one element named `key`
  fun_cases encTree cfg key v <;> first | (rintro _ ⟨⟩; exact ⟨_, _, rfl⟩) | nofun

mutual
theorem encTree_ne_nil (cfg : EncCfg) : ∀ (key : Str) (v : Val) (ns : List Node),
    encTree cfg key v = .ok ns → ns ≠ []
  | key, .list [], ns, h => by cases h; exact List.cons_ne_nil _ _
  | key, .list (x :: xs), ns, h => encMembers_ne_nil cfg key (x :: xs) ns (List.cons_ne_nil _ _) h
  | key, .null, ns, h | key, .str _, ns, h | key, .bool _, ns, h | key, .num _, ns, h
  | key, .map _, ns, h => by
      obtain ⟨_, _, rfl⟩ := encTree_single cfg key _ ns rfl h
      exact List.cons_ne_nil _ _
theorem encMembers_ne_nil (cfg : EncCfg) (key : Str) : ∀ (xs : List Val) (ns : List Node),
    xs ≠ [] → encMembers cfg key xs = .ok ns → ns ≠ []
  | [], _, hne, _ => absurd rfl hne
  | x :: xs, ns, _, h => by
      obtain ⟨a, r, ha, _, rfl⟩ := encMembers_cons_ok h
      simp [encTree_ne_nil cfg key x a ha]
end

theorem countAttrs_le (cfg : EncCfg) (vv : Entries) : countAttrs cfg vv ≤ vv.length :=
  List.length_filter_le _ _

theorem countAttrs_cons (cfg : EncCfg) (k : Str) (v : Val) (rest : Entries) :
    countAttrs cfg ((k, v) :: rest)
      = (if isAttrK cfg k then 1 else 0) + countAttrs cfg rest := by
  unfold countAttrs
  rw [List.filter_cons]
  split <;> simp <;> omega

def textCount (cfg : EncCfg) : Entries → Nat
  | [] => 0
  | (k, _) :: rest => (if k = cfg.textK then 1 else 0) + textCount cfg rest

theorem encElems_ne_nil_of_count (cfg : EncCfg) : ∀ (vv : Entries) (ns : List Node),
    countAttrs cfg vv + textCount cfg vv < vv.length → encElems cfg vv = .ok ns → ns ≠ []
  | [], _, h, _ => by simp at h
  | (k, v) :: rest, ns, hc, h => by
      rcases encElems_cons_ok h with ⟨hk, h⟩ | ⟨_, a, r, ha, _, rfl⟩
      · refine encElems_ne_nil_of_count cfg rest ns ?_ h
        rw [countAttrs_cons] at hc
        simp only [textCount, List.length_cons] at hc
        -- the skipped entry adds 1 to the length and at least 1 to the count (2 if the text key
        -- is also an attribute key, hence `<` and not `=` in the hypothesis)
        have h1 : 1 ≤ (if isAttrK cfg k then 1 else 0) + (if k = cfg.textK then 1 else 0) := by
          rcases Bool.or_eq_true_iff.1 hk with ht | ha
          · rw [if_pos (of_decide_eq_true ht)]; omega
          · rw [if_pos ha]; omega
        omega
      · simp [encTree_ne_nil cfg k v a ha]

theorem textCount_eq (cfg : EncCfg) : ∀ (l : Entries), textCount cfg l = (keys l).count cfg.textK
  | [] => rfl
  | (k, v) :: rest => by
      simp only [textCount, textCount_eq cfg rest, keys_cons, List.count_cons, beq_iff_eq]
      omega

theorem textCount_of_lookup_none (cfg : EncCfg) (kvs : Entries)
    (h : lookup cfg.textK kvs = none) : textCount cfg kvs = 0 := by
  rw [textCount_eq, List.count_eq_zero]
  exact (lookup_eq_none_iff _ _).1 h

theorem encElems_ne_nil (cfg : EncCfg) (vv : Entries) (ns : List Node)
    (hc : countAttrs cfg vv ≠ vv.length) (hl : lookup cfg.textK vv = none)
    (h : encElems cfg vv = .ok ns) : ns ≠ [] := by
  have h3 := textCount_of_lookup_none cfg vv hl
  have h4 := countAttrs_le cfg vv
  exact encElems_ne_nil_of_count cfg vv ns (by omega) h

theorem endOf_zero (cfg : EncCfg) (key : Str) :
    endOf cfg key 0 = if cfg.goEmpty then ">".toList ++ closeTag key else "/>".toList := by
  cases h : cfg.goEmpty <;> simp [endOf, h]

theorem endOf_pos (cfg : EncCfg) (key : Str) {n : Nat} (h : 0 < n) : endOf cfg key n = closeTag key := by
  simp [endOf, h, Nat.ne_of_gt h]

theorem render_empty (cfg : EncCfg) (sp name : Str) (attrs : List Attr) :
    render cfg (.elem sp name attrs [])
      = "<".toList ++ name ++ renderAttrs cfg attrs ++ endOf cfg name 0 := by
  simp only [render, List.isEmpty_nil, if_true]

theorem render_nonempty (cfg : EncCfg) (sp name : Str) (attrs : List Attr) {kids : List Node}
    (h : kids ≠ []) :
    render cfg (.elem sp name attrs kids)
      = "<".toList ++ name ++ renderAttrs cfg attrs ++ ">".toList ++ kids.flatMap (render cfg)
          ++ closeTag name := by
  cases kids with
  | nil => exact absurd rfl h
  | cons k ks =>
    simp only [render, renderKids_eq, List.isEmpty_cons, Bool.false_eq_true, if_false, List.append_assoc]

theorem render_text (cfg : EncCfg) (s : Str) : render cfg (.text s) = escIf cfg s := by
  simp only [render]

theorem render_leaf (cfg : EncCfg) (key t : Str) :
    render cfg (.elem [] key [] (if t.isEmpty then [] else [.text t]))
      = "<".toList ++ key ++ (if (escIf cfg t).isEmpty then [] else ">".toList ++ escIf cfg t)
          ++ endOf cfg key (escIf cfg t).length := by
  cases t with
  | nil => simp only [escIf_nil, List.isEmpty_nil, if_true, render_empty, renderAttrs, List.length_nil]
  | cons c r =>
    have h1 : (escIf cfg (c :: r)).isEmpty = false := escIf_isEmpty cfg _
    have h2 : 0 < (escIf cfg (c :: r)).length :=
      List.length_pos_iff.2 (List.isEmpty_eq_false_iff.1 h1)
    simp only [List.isEmpty_cons, h1, Bool.false_eq_true, if_false, endOf_pos cfg key h2,
      render_nonempty cfg [] key [] (List.cons_ne_nil _ _), renderAttrs, List.flatMap_cons,
      List.flatMap_nil, render_text, List.append_nil, List.append_assoc]

theorem render_leaf_plain (cfg : EncCfg) (key : Str) {t : Str} (hne : t.isEmpty = false)
    (hp : escIf cfg t = t) :
    render cfg (.elem [] key [] [.text t])
      = "<".toList ++ key ++ ">".toList ++ t ++ endOf cfg key t.length := by
  have := render_leaf cfg key t
  rw [hp] at this
  simpa only [hne, Bool.false_eq_true, if_false, List.append_assoc] using this

mutual
/-- C02, bytes: the compact encoder writes the rendering of the tree `encTree` builds, and fails
    exactly when `encTree` fails -/
theorem marshalN_eq_render (cfg : EncCfg) : ∀ (key : Str) (v : Val), Plain cfg v = true →
    marshalN cfg key v = (encTree cfg key v).map (fun ns => ns.flatMap (render cfg))
  | key, .null, _ => by
      simp only [marshalN, encTree, Except.map, List.flatMap_singleton, render_empty, renderAttrs,
        List.append_nil]
  | key, .str s, _ => by
      simp only [marshalN, encTree, Except.map, List.flatMap_singleton, render_leaf]
  | key, .bool b, _ => by
      obtain ⟨t, hf, hne, hp⟩ := fmtV_bool cfg b
      simp only [marshalN, encTree, hf, Except.map, List.flatMap_singleton,
        render_leaf_plain cfg key hne hp]
  | key, .num t, hp => by
      simp only [Plain, Bool.and_eq_true, Bool.not_eq_true'] at hp
      simp only [marshalN, encTree, fmtV, Except.map, List.flatMap_singleton,
        render_leaf_plain cfg key hp.1 (plainText_eq hp.2)]
  | key, .list xs, hp => by
      simp only [Plain] at hp
      simp only [marshalN, encTree]
      split
      · simp only [Except.map, List.flatMap_singleton, render_empty, renderAttrs, List.append_nil]
      · exact marshalMembers_eq_render cfg key xs hp
  | key, .map vv, hp => by
      simp only [Plain] at hp
      simp only [marshalN, encTree, attrsText_eq cfg vv hp]
      cases hA : encAttrs cfg vv with
      | error e => rfl
      | ok attrs =>
        simp only [Except.map]
        by_cases hn : countAttrs cfg vv = vv.length
        · rw [if_pos hn, if_pos hn]
          simp only [List.flatMap_singleton, render_empty, endOf_zero]
        · rw [if_neg hn, if_neg hn]
          cases hl : lookup cfg.textK vv with
          | some tv =>
            simp only [textValue_eq hp hl]
            cases hf : fmtV tv with
            | none => rfl
            | some txt =>
              simp only [Option.map_some]
              by_cases hn1 : countAttrs cfg vv + 1 = vv.length
              · rw [if_pos hn1, if_pos hn1]
                simp only [render_nonempty cfg [] key attrs (List.cons_ne_nil _ _), List.flatMap_cons,
                  List.flatMap_nil, render_text, endOf_pos cfg key Nat.one_pos, List.append_nil,
                  List.append_assoc]
              · rw [if_neg hn1, if_neg hn1]
                simp only [marshalElems_eq_render cfg vv hp]
                cases hE : encElems cfg vv with
                | error e => rfl
                | ok kids =>
                  simp only [Except.map,
                    render_nonempty cfg [] key attrs (List.cons_ne_nil _ _), List.flatMap_cons,
                    List.flatMap_nil, List.append_nil, render_text, endOf_pos cfg key Nat.one_pos, List.append_assoc]
          | none =>
            simp only [marshalElems_eq_render cfg vv hp]
            cases hE : encElems cfg vv with
            | error e => rfl
            | ok kids =>
              simp only [Except.map, List.flatMap_singleton,
                render_nonempty cfg [] key attrs (encElems_ne_nil cfg vv kids hn hl hE),
                endOf_pos cfg key Nat.one_pos]
theorem marshalMembers_eq_render (cfg : EncCfg) (key : Str) : ∀ (xs : List Val),
    PlainList cfg xs = true →
    marshalMembers cfg key xs = (encMembers cfg key xs).map (fun ns => ns.flatMap (render cfg))
  | [], _ => rfl
  | x :: xs, hp => by
      simp only [PlainList, Bool.and_eq_true] at hp
      simp only [marshalMembers, encMembers, marshalN_eq_render cfg key x hp.1,
        marshalMembers_eq_render cfg key xs hp.2]
      cases encTree cfg key x <;> cases encMembers cfg key xs <;>
        simp only [Except.map, List.flatMap_append]
theorem marshalElems_eq_render (cfg : EncCfg) : ∀ (kvs : Entries), PlainEntries cfg kvs = true →
    marshalElems cfg kvs = (encElems cfg kvs).map (fun ns => ns.flatMap (render cfg))
  | [], _ => rfl
  | (k, v) :: rest, hp => by
      simp only [PlainEntries, Bool.and_eq_true] at hp
      simp only [marshalElems, encElems]
      by_cases hk : (decide (k = cfg.textK) || isAttrK cfg k) = true
      · rw [if_pos hk, if_pos hk]
        exact marshalElems_eq_render cfg rest hp.2
      · rw [if_neg hk, if_neg hk]
        simp only [marshalN_eq_render cfg k v hp.1.2, marshalElems_eq_render cfg rest hp.2]
        cases encTree cfg k v <;> cases encElems cfg rest <;>
          simp only [Except.map, List.flatMap_append]
end

theorem nullTextOk_norm (cfg : EncCfg) (k : Str) (v : Val) :
    nullTextOk cfg k v.norm = nullTextOk cfg k v := by cases v <;> rfl

mutual
theorem Plain_norm (cfg : EncCfg) : ∀ (v : Val), Plain cfg v = true → Plain cfg v.norm = true
  | .null, _ => rfl
  | .bool _, _ => rfl
  | .num _, h => h
  | .str _, _ => rfl
  | .list xs, h => by
      simp only [Plain] at h
      simp only [Val.norm, Plain, PlainList_norm cfg xs h]
  | .map kvs, h => by
      simp only [Plain] at h
      simp only [Val.norm, Plain]
      exact entrywise_sortByKey (PlainEntries_iff cfg) (PlainEntries_norm cfg kvs h)
theorem PlainList_norm (cfg : EncCfg) : ∀ (xs : List Val), PlainList cfg xs = true →
    PlainList cfg (Val.normList xs) = true
  | [], _ => rfl
  | x :: xs, h => by
      simp only [PlainList, Bool.and_eq_true] at h
      simp only [Val.normList, PlainList, Plain_norm cfg x h.1, PlainList_norm cfg xs h.2, Bool.and_self]
theorem PlainEntries_norm (cfg : EncCfg) : ∀ (kvs : Entries), PlainEntries cfg kvs = true →
    PlainEntries cfg (Val.normEntries kvs) = true
  | [], _ => rfl
  | (k, v) :: rest, h => by
      simp only [PlainEntries, Bool.and_eq_true] at h
      simp only [Val.normEntries, PlainEntries, nullTextOk_norm, h.1.1, Plain_norm cfg v h.1.2,
        PlainEntries_norm cfg rest h.2, Bool.and_self]
end

/-! ### `Conv.groupOnto` on the encoder's sibling sequences: exact computation -/

theorem foldl_gStep_congr (cs cs' : List (Str × Val)) : ∀ (ks : List Str) (b : Entries),
    (∀ q ∈ ks, Dec.valsOf q cs = Dec.valsOf q cs') → ks.foldl (gStep cs) b = ks.foldl (gStep cs') b
  | [], _, _ => rfl
  | k :: ks, b, h => by
      have h1 : gStep cs b k = gStep cs' b k := by
        unfold gStep; rw [h k (List.mem_cons_self ..)]
      rw [List.foldl_cons, List.foldl_cons, h1]
      exact foldl_gStep_congr cs cs' ks _ (fun q hq => h q (List.mem_cons_of_mem _ hq))

theorem collect_none (vs : List Val) (h : vs ≠ []) : Conv.collect none vs = some (collectV vs) := by
  match vs, h with
  | [_], _ => rfl
  | _ :: _ :: _, _ => rfl

theorem valsOf_block_self (k : Str) (sibs : List Val) (rest : List (Str × Val))
    (hr : k ∉ keys rest) : Dec.valsOf k (sibs.map (k, ·) ++ rest) = sibs := by
  rw [Dec.valsOf_append, Dec.valsOf_eq_nil hr, List.append_nil]
  simp [Dec.valsOf, List.filter_map, Function.comp_def]

theorem valsOf_block_other (k q : Str) (sibs : List Val) (rest : List (Str × Val))
    (hq : q ≠ k) : Dec.valsOf q (sibs.map (k, ·) ++ rest) = Dec.valsOf q rest := by
  rw [Dec.valsOf_append, Dec.valsOf_eq_nil, List.nil_append]
  simp [keys, Function.comp_def, hq.symm]

theorem groupOnto_nil (base : Entries) : Conv.groupOnto base [] = base := rfl

theorem groupOnto_block (base : Entries) (k : Str) (sibs : List Val) (rest : List (Str × Val))
    (hs : sibs ≠ []) (hk : k ∉ keys base) (hr : k ∉ keys rest) :
    Conv.groupOnto base (sibs.map (k, ·) ++ rest)
      = Conv.groupOnto (base ++ [(k, collectV sibs)]) rest := by
  obtain ⟨s, ss, rfl⟩ := List.exists_cons_of_ne_nil hs
  -- the keys in first-occurrence order: `k`, then those of `rest`
  have hkeys : (((s :: ss).map (k, ·) ++ rest).map (·.1)).eraseDups
      = k :: (rest.map (·.1)).eraseDups := by
    rw [List.map_cons, List.cons_append, List.map_cons, List.eraseDups_cons, List.map_append,
      List.filter_append, List.filter_eq_nil_iff.2, List.filter_eq_self.2, List.nil_append]
    · intro a ha
      have : a ≠ k := fun e => hr (e ▸ ha)
      simpa using this
    · intro a ha
      obtain ⟨_, hb, rfl⟩ := List.mem_map.1 ha
      obtain ⟨_, _, rfl⟩ := List.mem_map.1 hb
      simp
  rw [groupOnto_eq, groupOnto_eq, hkeys, List.foldl_cons]
  -- the step for `k` appends the collected block; the later steps do not see the block
  have hstep : gStep ((s :: ss).map (k, ·) ++ rest) base k = base ++ [(k, collectV (s :: ss))] := by
    unfold gStep
    rw [(lookup_eq_none_iff k base).2 hk, valsOf_block_self k _ rest hr,
      collect_none _ (by simp)]
    exact insert_of_not_mem hk
  rw [hstep]
  refine foldl_gStep_congr _ _ _ _ fun q hq => valsOf_block_other k q _ rest ?_
  rintro rfl
  exact hr (List.mem_eraseDups.1 hq)

theorem groupOnto_single (k : Str) {sibs : List Val} (hs : sibs ≠ []) :
    Conv.groupOnto [] (sibs.map (k, ·)) = [(k, collectV sibs)] := by
  have := groupOnto_block [] k sibs [] hs (by simp [keys]) (by simp [keys])
  rw [List.append_nil] at this
  exact this

def isElem : Node → Bool
  | .elem .. => true
  | _ => false

theorem textRuns_elems (cfg : DecCfg) : ∀ (ns : List Node) (seen : Bool),
    (∀ n ∈ ns, isElem n = true) → Conv.textRuns cfg seen ns = []
  | [], _, _ => rfl
  | n :: ns, seen, h => by
      obtain ⟨h1, h2⟩ := List.forall_mem_cons.1 h
      cases n <;> simp only [isElem, Bool.false_eq_true] at h1
      simp only [Conv.textRuns, textRuns_elems cfg ns true h2]

mutual
theorem encTree_isElem (cfg : EncCfg) : ∀ (key : Str) (v : Val) (ns : List Node),
    encTree cfg key v = .ok ns → ∀ n ∈ ns, isElem n = true
  | key, .list [], ns, h => by cases h; simp [isElem]
  | key, .list (x :: xs), ns, h => encMembers_isElem cfg key (x :: xs) ns h
  | key, .null, ns, h | key, .str _, ns, h | key, .bool _, ns, h | key, .num _, ns, h
  | key, .map _, ns, h => by
      obtain ⟨_, _, rfl⟩ := encTree_single cfg key _ ns rfl h
      exact List.forall_mem_singleton.2 rfl
theorem encMembers_isElem (cfg : EncCfg) (key : Str) : ∀ (xs : List Val) (ns : List Node),
    encMembers cfg key xs = .ok ns → ∀ n ∈ ns, isElem n = true
  | [], ns, h => by simp only [encMembers, Except.ok.injEq] at h; subst h; simp
  | x :: xs, ns, h => by
      obtain ⟨a, r, ha, hr, rfl⟩ := encMembers_cons_ok h
      exact List.forall_mem_append.2 ⟨encTree_isElem cfg key x a ha, encMembers_isElem cfg key xs r hr⟩
end

theorem encElems_isElem (cfg : EncCfg) : ∀ (kvs : Entries) (ns : List Node),
    encElems cfg kvs = .ok ns → ∀ n ∈ ns, isElem n = true
  | [], ns, h => by simp only [encElems, Except.ok.injEq] at h; subst h; simp
  | (k, v) :: rest, ns, h => by
      rcases encElems_cons_ok h with ⟨_, h⟩ | ⟨_, a, r, ha, hr, rfl⟩
      · exact encElems_isElem cfg rest ns h
      · exact List.forall_mem_append.2 ⟨encTree_isElem cfg k v a ha, encElems_isElem cfg rest r hr⟩

theorem isScalar_wf : ∀ {v : Val}, isScalar v = true → v.wf = true
  | .str _, _ | .num _, _ | .bool _, _ => rfl
  | .null, h | .list _, h | .map _, h => by simp [isScalar, attrValue] at h

theorem fmtV_scalar : ∀ {v : Val}, isScalar v = true → ∃ t, fmtV v = some t
  | .str _, _ | .num _, _ | .bool true, _ | .bool false, _ => ⟨_, rfl⟩
  | .null, h | .list _, h | .map _, h => by simp [isScalar, attrValue] at h

/-- the values stored under a key, as siblings -/
def sibsOf : Val → List Val
  | .list xs => xs
  | v => [v]

theorem norm_collectV : ∀ (xs : List Val), (collectV xs).norm = collectV (xs.map Val.norm)
  | [] | [_] => rfl
  | _ :: _ :: _ => by simp only [collectV, Val.norm, normList_eq_map, List.map_cons]

theorem collectV_norm_congr {xs ys : List Val} (h : xs.map Val.norm = ys.map Val.norm) :
    (collectV xs).norm = (collectV ys).norm := by
  rw [norm_collectV, norm_collectV, h]

theorem collectV_sibsOf_norm (ys : List Val) (v : Val) (h : ys.map Val.norm = (sibsOf v).map Val.norm)
    (hl : ∀ xs, v = .list xs → 2 ≤ xs.length) : (collectV ys).norm = v.norm := by
  rw [collectV_norm_congr h]
  cases v with
  | list xs =>
    match xs, hl xs rfl with
    | _ :: _ :: _, _ => rfl
  | null | bool _ | num _ | str _ | map _ => rfl

theorem length_normList (xs : List Val) : (Val.normList xs).length = xs.length := by
  rw [normList_eq_map, List.length_map]

theorem collect_ne_none (o : Option Val) (vs : List Val) (h : o ≠ none ∨ vs ≠ []) :
    Conv.collect o vs ≠ none := by
  intro hc
  have ho := collect_eq_none hc
  subst ho
  rcases h with h | h
  · exact h rfl
  · rw [collect_none vs h] at hc; simp at hc

theorem not_isEmpty_of_lookup {q : Str} {l : Entries} (h : lookup q l ≠ none) : l.isEmpty = false := by
  cases l with
  | nil => simp [lookup] at h
  | cons _ _ => rfl

theorem valsOf_ne_nil {q : Str} {cs : List (Str × Val)} (h : q ∈ keys cs) : Dec.valsOf q cs ≠ [] := by
  obtain ⟨c, hc, rfl⟩ := mem_keys.1 h
  exact List.ne_nil_of_mem (mem_valsOf.2 hc)

theorem groupOnto_not_isEmpty (A : Entries) (cs : List (Str × Val))
    (h : A.isEmpty = false ∨ cs ≠ []) : (Conv.groupOnto A cs).isEmpty = false := by
  rcases h with h | h
  · cases A with
    | nil => simp at h
    | cons e rest =>
      apply not_isEmpty_of_lookup (q := e.1)
      rw [lookup_groupOnto]
      have hl : lookup e.1 (e :: rest) ≠ none := by
        rw [Ne, lookup_eq_none_iff]; simp [keys]
      split
      · exact collect_ne_none _ _ (.inl hl)
      · exact hl
  · cases cs with
    | nil => exact absurd rfl h
    | cons c rest =>
      have hq : c.1 ∈ keys (c :: rest) := by simp [keys]
      apply not_isEmpty_of_lookup (q := c.1)
      rw [lookup_groupOnto, if_pos hq]
      exact collect_ne_none _ _ (.inr (valsOf_ne_nil hq))

theorem norm_singleton_map (k : Str) (v : Val) : (Val.map [(k, v)]).norm = .map [(k, v.norm)] := rfl

theorem equiv_singleton_map {k : Str} {v w : Val} (h : v ≈ᵥ w) :
    Val.map [(k, v)] ≈ᵥ Val.map [(k, w)] := by
  unfold Val.equiv at h ⊢
  simp only [norm_singleton_map, h]

theorem norm_of_scalar {v : Val} (h : isScalar v = true) : v.norm = v := by
  cases v <;> first | rfl | cases h

theorem isScalar_norm (v : Val) : isScalar v.norm = isScalar v := by cases v <;> rfl

theorem attrValue_norm (v : Val) : attrValue v.norm = attrValue v := by cases v <;> rfl

theorem leafText_norm (v : Val) : leafText v.norm = leafText v := by cases v <;> rfl

theorem normEntries_append (a b : Entries) :
    Val.normEntries (a ++ b) = Val.normEntries a ++ Val.normEntries b := by
  simp only [normEntries_eq_map, List.map_append]

theorem _root_.Mxj.noAdjText_of_wellNamed {n : Node} (h : WellNamed n = true) :
    noAdjText n = true :=
  (Bool.and_eq_true_iff.1 h).2

theorem marshal_eq_render (cfg : EncCfg) (key : Str) (v : Val) (hp : Plain cfg v = true) :
    marshal cfg key v = (encTree cfg key v.norm).map (fun ns => ns.flatMap (render cfg)) := by
  unfold marshal
  exact marshalN_eq_render cfg key v.norm (Plain_norm cfg v hp)

end Mxj.Enc
