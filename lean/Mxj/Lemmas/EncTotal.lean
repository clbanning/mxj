/-
  The tree builder `encTree` split into what it builds and whether it succeeds: a total function
  `encT` (no `Except`, no count tests) and a Boolean test `EncOk` on the value, with
  `encTree e key v = okIf (EncOk e v) (encT e key v)` when the text key is not an attribute key.
  Facts about the encoder's trees are proved about `encT` by structural induction and carried to
  `encTree` through that equation (`encTree_inv`: what `encTree` returns is `encT`).  That the
  encoder accepts a class of values is proved as "… → `EncOk e v = true`" and turned into `.ok` by
  `okIf_true`; the converse (`encTree … = .ok _ → EncOk e v = true`) holds by the same equation
  and is not stated, nothing needs it.
-/
import Mxj.Lemmas.EncodeBase
namespace Mxj.Enc
open Mxj

def attrT (e : EncCfg) (k : Str) (v : Val) : Attr :=
  ⟨[], k.drop e.attrPrefix.length, (attrValue v).getD []⟩

def attrsT (e : EncCfg) : Entries → List Attr
  | [] => []
  | (k, v) :: rest => if isAttrK e k then attrT e k v :: attrsT e rest else attrsT e rest

/-- the text child of a map element -/
def textT (e : EncCfg) (vv : Entries) : List Node :=
  match lookup e.textK vv with
  | some tv => [.text (leafText tv)]
  | none => []

mutual
def encT (e : EncCfg) : Str → Val → List Node
  | key, .map vv => [.elem [] key (attrsT e vv) (textT e vv ++ elemsT e vv)]
  | key, .list xs => if xs.isEmpty then [.elem [] key [] []] else membersT e key xs
  | key, .null => [.elem [] key [] []]
  | key, .str s => [.elem [] key [] (if s.isEmpty then [] else [.text s])]
  | key, v => [.elem [] key [] [.text (leafText v)]]
def membersT (e : EncCfg) (key : Str) : List Val → List Node
  | [] => []
  | x :: xs => encT e key x ++ membersT e key xs
def elemsT (e : EncCfg) : Entries → List Node
  | [] => []
  | (k, v) :: rest =>
    if k = e.textK || isAttrK e k then elemsT e rest else encT e k v ++ elemsT e rest
end

def attrsOk (e : EncCfg) (kvs : Entries) : Bool := kvs.all fun x => !isAttrK e x.1 || isScalar x.2

def textValOk (e : EncCfg) (kvs : Entries) : Bool :=
  match lookup e.textK kvs with
  | some tv => (fmtV tv).isSome
  | none => true

mutual
/-- the encoder accepts the value: attribute values are scalars, the text-key value is not a
    container, and so on below every element entry -/
def EncOk (e : EncCfg) : Val → Bool
  | .list xs => EncOkList e xs
  | .map kvs => attrsOk e kvs && textValOk e kvs && EncOkEntries e kvs
  | _ => true
def EncOkList (e : EncCfg) : List Val → Bool
  | [] => true
  | x :: xs => EncOk e x && EncOkList e xs
def EncOkEntries (e : EncCfg) : Entries → Bool
  | [] => true
  | (k, v) :: rest => (decide (k = e.textK) || isAttrK e k || EncOk e v) && EncOkEntries e rest
end

/-- the encoder has one error -/
def okIf {α : Type} (b : Bool) (a : α) : Except ErrKind α := if b then .ok a else .error .other

theorem okIf_true {α : Type} {b : Bool} (h : b = true) (a : α) : okIf b a = .ok a := by
  subst h; rfl

theorem okIf_inv {α : Type} {b : Bool} {a x : α} (h : okIf b a = .ok x) : x = a := by
  cases b
  · cases h
  · exact (Except.ok.inj h).symm

variable {e : EncCfg}

theorem encAttrs_eq : ∀ (kvs : Entries), encAttrs e kvs = okIf (attrsOk e kvs) (attrsT e kvs)
  | [] => rfl
  | (k, v) :: rest => by
      simp only [encAttrs, attrsT, encAttrs_eq rest]
      rw [show attrsOk e ((k, v) :: rest) = ((!isAttrK e k || isScalar v) && attrsOk e rest)
        from rfl]
      cases ha : isAttrK e k
      · simp only [Bool.false_eq_true, if_false, Bool.not_false, Bool.true_or, Bool.true_and]
      · simp only [if_true, encAttr, isScalar, attrT, Bool.not_true, Bool.false_or]
        cases attrValue v <;> cases attrsOk e rest <;> rfl

theorem lookup_all_attrs (hta : isAttrK e e.textK = false) (vv : Entries)
    (h : countAttrs e vv = vv.length) : lookup e.textK vv = none := by
  rw [lookup_eq_none_iff]
  intro hm
  obtain ⟨x, hx, hk⟩ := mem_keys.1 hm
  have := List.length_filter_eq_length_iff.1 h x hx
  rw [hk, hta] at this
  cases this

/-- all entries are attributes: no child elements -/
theorem encElems_all_attrs (vv : Entries) (h : countAttrs e vv = vv.length) :
    encElems e vv = .ok [] := by
  replace h := List.length_filter_eq_length_iff.1 h
  induction vv with
  | nil => rfl
  | cons x rest ih =>
    simp only [encElems, h x (.head _), Bool.or_true, if_true]
    exact ih fun y hy => h y (.tail _ hy)

/-- all entries but the text entry are attributes: no child elements -/
theorem encElems_text_attrs (hta : isAttrK e e.textK = false) (vv : Entries) (tv : Val) :
    countAttrs e vv + 1 = vv.length → lookup e.textK vv = some tv → encElems e vv = .ok [] := by
  fun_induction lookup e.textK vv with
  | case1 => nofun
  | case2 v rest =>           -- the text entry itself: the others are all attributes
    intro h _
    rw [countAttrs_cons, hta] at h
    simp only [encElems, decide_true, Bool.true_or, if_true]
    exact encElems_all_attrs rest (by simpa using h)
  | case3 k v rest _ ih =>
    intro h hl
    rw [countAttrs_cons, List.length_cons] at h
    cases ha : isAttrK e k
    · -- a child element: then the others are all attributes, the text entry is not among them
      rw [lookup_all_attrs hta rest (by simpa [ha] using h)] at hl
      cases hl
    · simp only [encElems, ha, Bool.or_true, if_true]
      exact ih (by simp only [ha, if_true] at h; omega) hl

mutual
/-- the two count tests of `encTree` (attributes only; attributes and text only) are shortcuts:
    in both cases `elemsT` is empty anyway -/
theorem encTree_eq (hta : isAttrK e e.textK = false) :
    ∀ (key : Str) (v : Val), encTree e key v = okIf (EncOk e v) (encT e key v)
  | key, .null | key, .str s | key, .bool true | key, .bool false | key, .num t => rfl
  | key, .list [] => rfl
  | key, .list (x :: xs) => encMembers_eq hta key (x :: xs)
  | key, .map vv => by
      simp only [encTree, encAttrs_eq vv, EncOk, encT]
      cases attrsOk e vv
      · rfl
      · simp only [okIf, if_true, Bool.true_and]
        refine (ite_eq_right_iff.2 fun hn => ?_).trans ?_
        · rw [lookup_all_attrs hta vv hn, encElems_all_attrs vv hn]
        cases hl : lookup e.textK vv with
        | none =>
          simp only [textT, textValOk, hl, encElems_eq hta vv, Bool.true_and, List.nil_append]
          cases EncOkEntries e vv <;> rfl
        | some tv =>
          simp only [textT, textValOk, hl, leafText]
          cases fmtV tv with
          | none => rfl
          | some txt =>
            refine (ite_eq_right_iff.2 fun hn1 => ?_).trans ?_
            · rw [encElems_text_attrs hta vv tv hn1 hl]
            simp only [encElems_eq hta vv, Option.isSome_some, Bool.true_and, Option.getD_some]
            cases EncOkEntries e vv <;> rfl
theorem encMembers_eq (hta : isAttrK e e.textK = false) (key : Str) :
    ∀ (xs : List Val), encMembers e key xs = okIf (EncOkList e xs) (membersT e key xs)
  | [] => rfl
  | x :: xs => by
      simp only [encMembers, encTree_eq hta key x, encMembers_eq hta key xs, EncOkList, membersT]
      cases EncOk e x <;> cases EncOkList e xs <;> rfl
theorem encElems_eq (hta : isAttrK e e.textK = false) :
    ∀ (kvs : Entries), encElems e kvs = okIf (EncOkEntries e kvs) (elemsT e kvs)
  | [] => rfl
  | (k, v) :: rest => by
      simp only [encElems, EncOkEntries, elemsT]
      split
      · rename_i hk
        simp only [hk, Bool.true_or, Bool.true_and, encElems_eq hta rest]
      · rename_i hk
        simp only [Bool.not_eq_true] at hk
        simp only [hk, Bool.false_or, encTree_eq hta k v, encElems_eq hta rest]
        cases EncOk e v <;> cases EncOkEntries e rest <;> rfl
end

theorem encT_scalar (e : EncCfg) (key : Str) {v : Val} (hv : isScalar v = true) :
    ∃ kids, encT e key v = [.elem [] key [] kids]
      ∧ ((kids = [] ∧ leafText v = []) ∨ kids = [.text (leafText v)]) := by
  match v, hv with
  | .str [], _ => exact ⟨[], rfl, .inl ⟨rfl, rfl⟩⟩
  | .str (_ :: _), _ | .num _, _ | .bool true, _ | .bool false, _ => exact ⟨_, rfl, .inr rfl⟩

theorem encT_single (e : EncCfg) (key : Str) {v : Val} (hl : v.isList = false) :
    ∃ attrs kids, encT e key v = [.elem [] key attrs kids] := by
  cases v with
  | list _ => cases hl
  | null | str _ | map _ | num _ | bool _ => exact ⟨_, _, rfl⟩

/-! ### the trees are elements, and no two text nodes are adjacent -/

def AdjOk (ns : List Node) : Prop := ∀ n ∈ ns, isElem n = true ∧ noAdjText n = true

theorem noAdjTextKids_of_adjOk : ∀ (ns : List Node), AdjOk ns → noAdjTextKids ns = true
  | [], _ => by simp [noAdjTextKids]
  | n :: ns, h => by
      have h1 := h n (List.mem_cons_self ..)
      have h2 := noAdjTextKids_of_adjOk ns (fun x hx => h x (List.mem_cons_of_mem _ hx))
      cases n with
      | elem sp name attrs kids =>
        unfold noAdjTextKids
        simp only [h1.2, h2, Bool.and_self]
      | text _ | comment _ | procinst _ _ | directive _ => simp [isElem] at h1

theorem noAdjTextKids_text_elems (s : Str) (ns : List Node) (h : AdjOk ns) :
    noAdjTextKids (.text s :: ns) = true := by
  have h2 := noAdjTextKids_of_adjOk ns h
  cases ns with
  | nil => simp [noAdjTextKids, noAdjText]
  | cons n rest =>
    have h1 := (h n (List.mem_cons_self ..)).1
    cases n with
    | elem sp name attrs kids =>
      unfold noAdjTextKids
      simp only [noAdjText, Bool.true_and]
      exact h2
    | text _ | comment _ | procinst _ _ | directive _ => simp [isElem] at h1

theorem noAdjTextKids_textT (e : EncCfg) (vv : Entries) (ns : List Node) (h : AdjOk ns) :
    noAdjTextKids (textT e vv ++ ns) = true := by
  unfold textT
  split
  · exact noAdjTextKids_text_elems _ ns h
  · exact noAdjTextKids_of_adjOk ns h

theorem AdjOk.single (key : Str) (attrs : List Attr) (kids : List Node)
    (h : noAdjTextKids kids = true) : AdjOk [.elem [] key attrs kids] := by
  intro n hn
  rw [List.mem_singleton] at hn
  subst hn
  exact ⟨rfl, by simpa [noAdjText] using h⟩

theorem AdjOk.append {a b : List Node} (ha : AdjOk a) (hb : AdjOk b) : AdjOk (a ++ b) := by
  intro n hn
  rcases List.mem_append.1 hn with hn | hn
  · exact ha n hn
  · exact hb n hn

mutual
/-- the encoder's trees are elements without two adjacent text children, at any depth -/
theorem encT_adjOk (e : EncCfg) : ∀ (key : Str) (v : Val), AdjOk (encT e key v)
  | key, .null | key, .bool true | key, .bool false | key, .num _ | key, .list [] =>
      AdjOk.single key _ _ rfl
  | key, .str s => AdjOk.single key _ _ (by cases s <;> rfl)
  | key, .list (x :: xs) => membersT_adjOk e key (x :: xs)
  | key, .map vv => AdjOk.single key _ _ (noAdjTextKids_textT e vv _ (elemsT_adjOk e vv))
theorem membersT_adjOk (e : EncCfg) (key : Str) : ∀ (xs : List Val), AdjOk (membersT e key xs)
  | [] => fun _ h => nomatch h
  | x :: xs => (encT_adjOk e key x).append (membersT_adjOk e key xs)
theorem elemsT_adjOk (e : EncCfg) : ∀ (kvs : Entries), AdjOk (elemsT e kvs)
  | [] => fun _ h => nomatch h
  | (k, v) :: rest => by
      simp only [elemsT]
      split
      · exact elemsT_adjOk e rest
      · exact (encT_adjOk e k v).append (elemsT_adjOk e rest)
end

theorem elemsT_isElem (e : EncCfg) (kvs : Entries) : ∀ n ∈ elemsT e kvs, isElem n = true :=
  fun n h => (elemsT_adjOk e kvs n h).1

/-! ### carrying a fact about `encT` to what `encTree` returns -/

theorem encTree_inv (hta : isAttrK e e.textK = false) {key : Str} {v : Val} {ns : List Node}
    (h : encTree e key v = .ok ns) : ns = encT e key v :=
  okIf_inv ((encTree_eq hta key v).symm.trans h)

theorem encMembers_inv (hta : isAttrK e e.textK = false) {key : Str} {xs : List Val}
    {ns : List Node} (h : encMembers e key xs = .ok ns) : ns = membersT e key xs :=
  okIf_inv ((encMembers_eq hta key xs).symm.trans h)

theorem encElems_inv (hta : isAttrK e e.textK = false) {kvs : Entries} {ns : List Node}
    (h : encElems e kvs = .ok ns) : ns = elemsT e kvs :=
  okIf_inv ((encElems_eq hta kvs).symm.trans h)

theorem textValOk_of (kvs : Entries) (h : ∀ tv, lookup e.textK kvs = some tv → isScalar tv = true) :
    textValOk e kvs = true := by
  unfold textValOk
  split
  · rename_i tv hl
    obtain ⟨t, ht⟩ := fmtV_scalar (h tv hl)
    rw [ht]; rfl
  · rfl

end Mxj.Enc
