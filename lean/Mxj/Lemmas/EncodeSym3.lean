/-
  Mxj.Lemmas.EncodeSym3 — C02 for every symmetric option pair, towards bytes: values of the
  decoded shape are `Plain`, the encoder's trees are in the C01 domain of the decoder; hence the
  tree-level fixed point (`fixed_point_valueG`).
-/
import Mxj.Lemmas.EncodeSym2
namespace Mxj.EncSym
open Mxj Mxj.Enc

/-- the `%v` text of a number the decoder produced is non-empty and needs no escaping
    (Go writes it raw) -/
structure NumPlainLaw (d : DecCfg) (S : Strconv) (e : EncCfg) : Prop where
  plain : ∀ s t, lf d S s = .num t →
    (numText t).isEmpty = false ∧ plainText e (numText t) = true

variable {d : DecCfg} {S : Strconv} {e : EncCfg}

theorem attrOk_plain (hP : NumPlainLaw d S e) (k : Str) {v : Val} (h : attrOk d S v = true) :
    nullTextOk e k v = true ∧ Plain e v = true := by
  have hr := attrOk_reparse h
  cases v with
  | null | list _ | map _ => cases attrOk_scalar h
  | str _ | bool _ => exact ⟨rfl, rfl⟩
  | num t =>
    have := hP.plain _ t hr
    exact ⟨rfl, by simp [Plain, this.1, this.2]⟩

mutual
theorem DecodedChildG_Plain (d : DecCfg) (S : Strconv) (e : EncCfg) (hP : NumPlainLaw d S e) :
    ∀ (v : Val), DecodedChildG d S e v = true → Plain e v = true
  | .null, _ | .bool _, _ | .str _, _ => rfl
  | .num t, h => by
      simp only [DecodedChildG, leafChildOk, Bool.or_eq_true, decide_eq_true_eq,
        Bool.and_eq_true, reduceCtorEq, false_or] at h
      exact (attrOk_plain hP [] (textOk_attrOk h.2)).2
  | .list xs, h => DecodedListG_Plain d S e hP xs (DecodedChildG_list h).2
  | .map kvs, h => DecodedEntriesG_Plain d S e hP kvs (DecodedChildG_map h).2
theorem DecodedListG_Plain (d : DecCfg) (S : Strconv) (e : EncCfg) (hP : NumPlainLaw d S e) :
    ∀ (xs : List Val), DecodedListG d S e xs = true → PlainList e xs = true
  | [], _ => rfl
  | x :: xs, h => by
      have h := DecodedListG_cons h
      simp only [PlainList, DecodedChildG_Plain d S e hP x h.1.2,
        DecodedListG_Plain d S e hP xs h.2, Bool.and_self]
theorem DecodedEntriesG_Plain (d : DecCfg) (S : Strconv) (e : EncCfg) (hP : NumPlainLaw d S e) :
    ∀ (kvs : Entries), DecodedEntriesG d S e kvs = true → PlainEntries e kvs = true
  | [], _ => rfl
  | (k, v) :: rest, h => by
      obtain ⟨hr, hc⟩ := DecodedEntriesG_cons h
      have hv : nullTextOk e k v = true ∧ Plain e v = true := by
        rcases hc with ⟨_, hv, _⟩ | ⟨_, _, hv⟩ | ⟨_, hk, _, hv⟩
        · exact attrOk_plain hP k hv
        · exact attrOk_plain hP k (textOk_attrOk hv)
        · exact ⟨by cases v <;> simp [nullTextOk, hk], DecodedChildG_Plain d S e hP v hv⟩
      simp only [PlainEntries, hv.1, hv.2, DecodedEntriesG_Plain d S e hP rest hr, Bool.and_self]
end

theorem inDomainKids_append : ∀ (a b : List Node),
    Conv.inDomainKids d S a = true → Conv.inDomainKids d S b = true →
    Conv.inDomainKids d S (a ++ b) = true
  | [], _, _, hb => hb
  | n :: a, b, ha, hb => by
      cases n <;> simp only [List.cons_append, Conv.inDomainKids, Bool.and_eq_true] at ha ⊢
      · exact ⟨ha.1, inDomainKids_append a b ha.2 hb⟩
      all_goals exact inDomainKids_append a b ha hb

/-- siblings named `key`, each in the domain -/
def SibsDomG (d : DecCfg) (S : Strconv) (key : Str) (ns : List Node) : Prop :=
  ∀ n ∈ ns, ∃ attrs kids, n = .elem [] key attrs kids ∧ Conv.inDomain d S n = true

theorem SibsDomG.inDomain {key : Str} {ns : List Node} (h : SibsDomG d S key ns) {n : Node}
    (hn : n ∈ ns) : Conv.inDomain d S n = true := by
  obtain ⟨_, _, _, hin⟩ := h n hn
  exact hin

theorem inDomainKids_of_sibsG (hseq : d.seqNum = false) {key : Str}
    (hfix : elemKey d S key = key) (hk : key ≠ d.textK) :
    ∀ (ns : List Node), SibsDomG d S key ns → Conv.inDomainKids d S ns = true
  | [], _ => rfl
  | n :: ns, h => by
      obtain ⟨attrs, kids, rfl, hin⟩ := h n (.head _)
      simp only [Conv.inDomainKids, Bool.and_eq_true, hfix, hseq, Bool.not_false, Bool.true_or]
      exact ⟨⟨⟨decide_eq_true hk, trivial⟩, hin⟩,
        inDomainKids_of_sibsG hseq hfix hk ns (fun m hm => h m (.tail _ hm))⟩

theorem SibsDomG_single {key : Str} {attrs : List Attr} {kids : List Node}
    (h : Conv.inDomain d S (.elem [] key attrs kids) = true) :
    SibsDomG d S key [.elem [] key attrs kids] := by
  intro m hm
  cases List.mem_singleton.1 hm
  exact ⟨attrs, kids, rfl, h⟩

theorem inDomain_leaf (d : DecCfg) (S : Strconv) (key t : Str) :
    Conv.inDomain d S (.elem [] key [] [.text t]) = true := by
  simp only [Conv.inDomain, Conv.inDomainKids, Conv.textRuns, List.all_nil, Bool.and_true]
  split <;> rfl

theorem encT_dom_scalar {key : Str} {v : Val} (hv : isScalar v = true) :
    SibsDomG d S key (encT e key v) := by
  obtain ⟨kids, hk, hc⟩ := encT_scalar e key hv
  rw [hk]
  rcases hc with ⟨rfl, _⟩ | rfl
  · exact SibsDomG_single rfl
  · exact SibsDomG_single (inDomain_leaf d S key _)

theorem attrsT_inDomain (hs : Sym d e) {vv : Entries} (hD : KeysFixedEntriesG d S e vv = true) :
    (attrsT e vv).all (fun a => decide (attrKey d S a.name ≠ d.textK)
      && (!d.seqNum || decide (attrKey d S a.name ≠ "_seq".toList))) = true := by
  rw [List.all_eq_true]
  intro a ha
  simp only [hs.seq, Bool.not_false, Bool.true_or, Bool.and_true]
  apply decide_eq_true
  intro he
  have hm : attrKey d S a.name ∈ keys (imageAttrsG d S e vv) := by
    rw [← attrsT_imageG vv hD]
    exact mem_keys.2 ⟨_, List.mem_map.2 ⟨a, ha, rfl⟩, rfl⟩
  rw [keys_imageAttrsG, List.mem_filter, he, ← hs.txt, hs.txt_not_attr] at hm
  cases hm.2

theorem inDomainKids_textT (d : DecCfg) (S : Strconv) (e : EncCfg) (vv : Entries)
    (kids : List Node) :
    Conv.inDomainKids d S (textT e vv ++ kids) = Conv.inDomainKids d S kids := by
  unfold textT
  split <;> rfl

theorem textRuns_textT (d : DecCfg) (e : EncCfg) (vv : Entries) {kids : List Node}
    (hk : ∀ n ∈ kids, isElem n = true) :
    (Conv.textRuns d false (textT e vv ++ kids)).length ≤ 1 := by
  unfold textT
  split
  · simp only [List.singleton_append, Conv.textRuns, textRuns_elems d kids _ hk]
    split <;> simp
  · simp [textRuns_elems d kids _ hk]

mutual
/-- the encoder's trees are in the C01 domain of the decoder: all it takes is that the keys are
    fixed points of the folding -/
theorem encT_domK (hs : Sym d e) : ∀ (key : Str) (v : Val),
    KeysFixedG d S e v = true → SibsDomG d S key (encT e key v)
  | key, .null, _ | key, .list [], _ => SibsDomG_single rfl
  | key, .str _, _ | key, .bool _, _ | key, .num _, _ => encT_dom_scalar rfl
  | key, .list (x :: xs), hD => membersT_domK hs key (x :: xs) hD
  | key, .map vv, hD => by
      apply SibsDomG_single
      simp only [Conv.inDomain, Bool.and_eq_true, decide_eq_true_eq]
      refine ⟨⟨textRuns_textT d e vv (elemsT_isElem e vv), attrsT_inDomain hs hD⟩, ?_⟩
      rw [inDomainKids_textT]
      exact elemsT_domK hs vv hD
theorem membersT_domK (hs : Sym d e) (key : Str) : ∀ (xs : List Val),
    KeysFixedListG d S e xs = true → SibsDomG d S key (membersT e key xs)
  | [], _ => fun _ hn => nomatch hn
  | x :: xs, hD => by
      simp only [KeysFixedListG, Bool.and_eq_true] at hD
      intro n hn
      rcases List.mem_append.1 hn with hn | hn
      · exact encT_domK hs key x hD.1 n hn
      · exact membersT_domK hs key xs hD.2 n hn
theorem elemsT_domK (hs : Sym d e) : ∀ (kvs : Entries),
    KeysFixedEntriesG d S e kvs = true → Conv.inDomainKids d S (elemsT e kvs) = true
  | [], _ => rfl
  | (k, v) :: rest, hD => by
      obtain ⟨hr, _, hE⟩ := KeysFixedEntriesG_cons hD
      simp only [elemsT]
      split
      · exact elemsT_domK hs rest hr
      · rename_i hk
        obtain ⟨hf, hv⟩ := hE (Bool.eq_false_iff.2 hk)
        simp only [Bool.or_eq_true, decide_eq_true_eq, not_or, hs.txt] at hk
        exact inDomainKids_append _ _
          (inDomainKids_of_sibsG hs.seq hf hk.1 _ (encT_domK hs k v hv)) (elemsT_domK hs rest hr)
end

theorem encTree_domK (hs : Sym d e) (key : Str) (v : Val) (ns : List Node)
    (hD : KeysFixedG d S e v = true) (h : encTree e key v = .ok ns) : SibsDomG d S key ns :=
  encTree_inv hs.txt_not_attr h ▸ encT_domK hs key v hD

theorem encMembers_domG (d : DecCfg) (S : Strconv) (e : EncCfg) (hs : Sym d e) (key : Str) :
    ∀ (xs : List Val) (ns : List Node), DecodedListG d S e xs = true →
    encMembers e key xs = .ok ns → SibsDomG d S key ns := fun xs _ hD h =>
  encMembers_inv hs.txt_not_attr h ▸ membersT_domK hs key xs (DecodedListG_keysFixed xs hD)

theorem encElems_domG (d : DecCfg) (S : Strconv) (e : EncCfg) (hs : Sym d e) :
    ∀ (kvs : Entries) (ns : List Node), DecodedEntriesG d S e kvs = true →
    encElems e kvs = .ok ns → Conv.inDomainKids d S ns = true := fun kvs _ hD h =>
  encElems_inv hs.txt_not_attr h ▸ elemsT_domK hs kvs (DecodedEntriesG_keysFixed kvs hD)

/-- for an in-domain tree `t`, encoding the value the conventions give yields ONE element, named
    by the root key and in the decoder's domain again, and applying the conventions to it gives an
    equivalent value -/
theorem fixed_point_valueG (hs : Sym d e) (hF : FoldLaw d S) (hL : LeafLaw d S)
    (sp name : Str) (attrs : List Attr) (kids : List Node)
    (hd : Conv.inDomain d S (.elem sp name attrs kids) = true)
    (hn : NamesOkG d S e (.elem sp name attrs kids) = true) :
    ∃ n, encTree e (elemKey d S name) (Conv.value d S (.elem sp name attrs kids)).norm = .ok [n]
      ∧ (∃ a' k', n = .elem [] (elemKey d S name) a' k')
      ∧ Conv.inDomain d S n = true
      ∧ Conv.doc d S n = .map [(elemKey d S name, Conv.value d S n)]
      ∧ Conv.value d S n ≈ᵥ Conv.value d S (.elem sp name attrs kids) := by
  have hD := value_decodedG d S e hs hF hL (.elem sp name attrs kids) hd hn rfl
  generalize Conv.value d S (.elem sp name attrs kids) = w at hD
  have hDn := DecodedG_norm hD
  have hwf := DecodedChildG_wf d S e w (DecodedG_iff.1 hD).2
  obtain ⟨hnl, hDc⟩ := DecodedG_iff.1 hDn
  have hK := DecodedChildG_keysFixed _ hDc
  have hns := (encTree_eq hs.txt_not_attr (elemKey d S name) w.norm).trans
    (okIf_true (DecodedChildG_ok hs.txt_not_attr _ hDc) _)
  have hcv := childVals_encT hs (elemKey d S name) w.norm (hF.elem_idem name)
    (DecodedChildG_wf d S e _ hDc) hK
  have hdom := encT_domK hs (elemKey d S name) w.norm hK
  obtain ⟨a', k', hT⟩ := encT_single e (elemKey d S name) hnl
  rw [hT] at hns hcv hdom
  have hdom := hdom.inDomain (.head _)
  refine ⟨_, hns, ⟨a', k', rfl⟩, hdom, by simp only [Conv.doc, hF.elem_idem], ?_⟩
  rw [childVals_singleG hs.seq, imageSibsG_not_list hnl] at hcv
  simp only [List.map_cons, List.map_nil, List.cons.injEq, Prod.mk.injEq, and_true] at hcv
  rw [hcv.2]
  exact Val.equiv_trans (image_decodedG hs.txt_not_attr hDn) (norm_idem w hwf)

end Mxj.EncSym
