/-
  Mxj.Lemmas.PermKey — invariance of `hasKey` (ValuesForKey) and `hasKeyPath` (PathsForKey) under
  `ValPerm` (the entries of every map, at every depth, permuted).
-/
import Mxj.Lemmas.PermQuery
namespace Mxj

theorem hasKeyList_flatMap (key : Str) (subs : SubKeys) : ∀ xs : List Val,
    hasKeyList key subs xs = xs.flatMap (hasKey key subs)
  | [] => by simp [hasKeyList]
  | x :: xs => by simp [hasKeyList, hasKeyList_flatMap key subs xs]

theorem hasKeyEntries_flatMap (key : Str) (subs : SubKeys) : ∀ kvs : Entries,
    hasKeyEntries key subs kvs = kvs.flatMap (fun e => hasKey key subs e.2)
  | [] => by simp [hasKeyEntries]
  | (k, v) :: rest => by simp [hasKeyEntries, hasKeyEntries_flatMap key subs rest]

theorem loadKeyVal_valperm (subs : SubKeys) {m m' : Val} (hw : m.wf = true)
    (h : ValPerm m m') : All2 ValPerm (loadKeyVal subs m) (loadKeyVal subs m') := by
  cases h with
  | refl => exact all2_refl _
  | list f =>
    simp only [loadKeyVal]
    exact all2_filter f (fun a b ha hab => hasSubKeys_valperm (hered_wf.list hw a ha) hab subs)
  | map p a =>
    simp only [loadKeyVal, ← hasSubKeys_valperm hw (.map p a) subs]
    cases hasSubKeys (.map _) subs
    · simpa using All2.nil
    · simpa using All2.cons (ValPerm.map p a) .nil

theorem sizeOf_entry_lt {kvs : Entries} {e : Str × Val} (he : e ∈ kvs) :
    sizeOf e.2 < sizeOf (Val.map kvs) := by
  have := List.sizeOf_lt_of_mem he
  obtain ⟨k, v⟩ := e
  simp only [Val.map.sizeOf_spec, Prod.mk.sizeOf_spec] at *
  omega

theorem sizeOf_member_lt {xs : List Val} {x : Val} (hx : x ∈ xs) :
    sizeOf x < sizeOf (Val.list xs) := by
  have := List.sizeOf_lt_of_mem hx
  simp only [Val.list.sizeOf_spec]
  omega

theorem hasKey_valperm (key : Str) (subs : SubKeys) : ∀ {m m' : Val}, m.wf = true → ValPerm m m' →
    PermR (hasKey key subs m) (hasKey key subs m')
  | _, _, _, .refl _ => PermR.refl _
  | .list xs, _, hw, .list f => by
    simp only [hasKey, hasKeyList_flatMap]
    exact all2_flatMap_rel (PermR.refl []) PermR.append f fun a b ha hab =>
      hasKey_valperm key subs (hered_wf.list hw a ha) hab
  | .map kvs, _, hw, .map p a => by
    simp only [hasKey, hasKeyEntries_flatMap]
    refine PermR.append (PermR.append ?_ ?_) ?_
    · rcases lookup_valperm (k := key) hw p a with ⟨h1, h2⟩ | ⟨v, w, h1, h2, hvw⟩
      · rw [h1, h2]; exact PermR.refl _
      · rw [h1, h2]
        exact PermR.of_all2 (loadKeyVal_valperm subs (hered_wf.lookup hw h1) hvw)
    · by_cases hk : key = ['*']
      · simp only [hk, if_true]
        exact entries_flatMap_rel (f := fun _ => loadKeyVal subs) (PermR.refl []) PermR.append
          PermR.of_perm_left p a fun e he w hew =>
            PermR.of_all2 (loadKeyVal_valperm subs (hered_wf.map hw e he) hew)
      · simp only [hk, if_false]; exact PermR.refl _
    · exact entries_flatMap_rel (f := fun _ => hasKey key subs) (PermR.refl []) PermR.append
        PermR.of_perm_left p a fun e he w hew => hasKey_valperm key subs (hered_wf.map hw e he) hew
termination_by m => sizeOf m
decreasing_by
  · exact sizeOf_member_lt ‹_›
  · exact sizeOf_entry_lt ‹_›

theorem hasKeyPathList_flatMap (key crumbs : Str) : ∀ xs : List Val,
    hasKeyPathList key crumbs xs = xs.flatMap (hasKeyPath key crumbs)
  | [] => by simp [hasKeyPathList]
  | x :: xs => by simp [hasKeyPathList, hasKeyPathList_flatMap key crumbs xs]

theorem hasKeyPathEntries_flatMap (key crumbs : Str) : ∀ kvs : Entries,
    hasKeyPathEntries key crumbs kvs
      = kvs.flatMap (fun e => hasKeyPath key (crumb crumbs e.1) e.2)
  | [] => by simp [hasKeyPathEntries]
  | (k, v) :: rest => by simp [hasKeyPathEntries, hasKeyPathEntries_flatMap key crumbs rest]

theorem hasKeyPath_valperm (key : Str) : ∀ {m m' : Val} (crumbs : Str), m.wf = true → ValPerm m m' →
    (hasKeyPath key crumbs m).Perm (hasKeyPath key crumbs m')
  | _, _, _, _, .refl _ => .refl _
  | .list xs, _, crumbs, hw, .list f => by
    simp only [hasKeyPath, hasKeyPathList_flatMap]
    exact all2_flatMap_rel (S := List.Perm) (.refl _) List.Perm.append f fun a b ha hab =>
      hasKeyPath_valperm key crumbs (hered_wf.list hw a ha) hab
  | .map kvs, .map kvs', crumbs, hw, .map p a => by
    simp only [hasKeyPath, hasKeyPathEntries_flatMap]
    have hl : (lookup key kvs).isSome = (lookup key kvs').isSome := by
      rcases lookup_valperm (k := key) hw p a with ⟨h1, h2⟩ | ⟨v, w, h1, h2, _⟩
        <;> rw [h1, h2] <;> rfl
    rw [hl]
    exact List.Perm.append_left _ (entries_flatMap_rel (S := List.Perm) (.refl _) List.Perm.append List.Perm.trans
      (f := fun k v => hasKeyPath key (crumb crumbs k) v) p a fun e he w hew =>
        hasKeyPath_valperm key _ (hered_wf.map hw e he) hew)
termination_by m => sizeOf m
decreasing_by
  · exact sizeOf_member_lt ‹_›
  · exact sizeOf_entry_lt ‹_›

end Mxj
