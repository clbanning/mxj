/-
  Mxj.Lemmas.Cast — the "only string leaves" predicate of an un-cast decoding, and the leaf-wise
  cast relation `CastRel` between an un-cast and a cast decoding with its preservation by every
  decoder step (the decision chain of `cast` itself is in Mxj.Lemmas.CastChain).
-/
import Mxj.Lemmas.LRel
namespace Mxj

/-! ### "only string leaves" -/

def Val.isNum : Val → Bool | .num _ => true | _ => false

mutual
/-- every leaf is a string; with `seqOk` a map entry `_seq` may also hold a number -/
def strLeaves (seqOk : Bool) : Val → Bool
  | .str _ => true
  | .list xs => strLeavesList seqOk xs
  | .map kvs => strLeavesEntries seqOk kvs
  | _ => false
def strLeavesList (seqOk : Bool) : List Val → Bool
  | [] => true
  | x :: xs => strLeaves seqOk x && strLeavesList seqOk xs
def strLeavesEntries (seqOk : Bool) : Entries → Bool
  | [] => true
  | (k, v) :: rest =>
      (strLeaves seqOk v || (seqOk && k == "_seq".toList && v.isNum)) && strLeavesEntries seqOk rest
end

/-- strings only, and numbers only under the key `_seq` -/
def onlyStrLeaves (v : Val) : Bool := strLeaves true v

/-- strings only -/
def allStrLeaves (v : Val) : Bool := strLeaves false v

mutual
theorem strLeaves_mono : ∀ (v : Val), strLeaves false v = true → strLeaves true v = true
  | .null, h | .bool _, h | .num _, h => nomatch h
  | .str _, _ => rfl
  | .list xs, h => strLeavesList_mono xs h
  | .map kvs, h => strLeavesEntries_mono kvs h
theorem strLeavesList_mono : ∀ (xs : List Val), strLeavesList false xs = true → strLeavesList true xs = true
  | [], _ => rfl
  | x :: xs, h => by
      simp only [strLeavesList, Bool.and_eq_true] at h ⊢
      exact ⟨strLeaves_mono x h.1, strLeavesList_mono xs h.2⟩
theorem strLeavesEntries_mono : ∀ (kvs : Entries), strLeavesEntries false kvs = true → strLeavesEntries true kvs = true
  | [], _ => rfl
  | (k, v) :: rest, h => by
      simp only [strLeavesEntries, Bool.and_eq_true, Bool.or_eq_true, Bool.false_and, Bool.false_eq_true,
        or_false] at h ⊢
      exact ⟨Or.inl (strLeaves_mono v h.1), strLeavesEntries_mono rest h.2⟩
end

theorem strLeavesList_iff (b : Bool) : ∀ (xs : List Val), strLeavesList b xs = true ↔
    ∀ x ∈ xs, strLeaves b x = true
  | [] => by simp [strLeavesList]
  | x :: xs => by
      simp only [strLeavesList, Bool.and_eq_true, strLeavesList_iff b xs, List.mem_cons, forall_eq_or_imp]

theorem strLeavesEntries_iff (b : Bool) : ∀ (kvs : Entries), strLeavesEntries b kvs = true ↔
    ∀ e ∈ kvs, strLeaves b e.2 = true ∨ (b = true ∧ e.1 = "_seq".toList ∧ e.2.isNum = true)
  | [] => by simp [strLeavesEntries]
  | (k, v) :: rest => by
      simp only [strLeavesEntries, Bool.and_eq_true, Bool.or_eq_true, beq_iff_eq,
        strLeavesEntries_iff b rest, List.mem_cons, forall_eq_or_imp, and_assoc]

/-- every entry of the element map under construction, and its pending text value, passes
    `strLeaves` itself: the "`_seq` may hold a number" clause is used one level down only, for the
    numbers `seqDecorate` puts into finished children -/
def strictState (b : Bool) (na : Entries) (n : Option Val) : Prop :=
  (∀ e ∈ na, strLeaves b e.2 = true) ∧ ∀ x, n = some x → strLeaves b x = true

theorem strictState.insert {b : Bool} {na : Entries} {n : Option Val} (h : strictState b na n)
    (k : Str) {v : Val} (hv : strLeaves b v = true) : strictState b (insert k v na) n := by
  refine ⟨fun e he => ?_, h.2⟩
  rcases mem_insert he with rfl | he
  · exact hv
  · exact h.1 e he

theorem strictState.strLeavesEntries {b : Bool} {na : Entries} {n : Option Val} (h : strictState b na n) :
    strLeavesEntries b na = true :=
  (strLeavesEntries_iff b na).2 (fun e he => .inl (h.1 e he))

theorem strictState.addChild {b : Bool} {na : Entries} {n : Option Val} (h : strictState b na n)
    (k : Str) {v : Val} (hv : strLeaves b v = true) : strictState b (addChild na k v) n := by
  rw [Dec.addChild_eq]
  refine h.insert k ?_
  cases hl : lookup k na with
  | none => exact hv
  | some old =>
    exact Dec.promote_of_list (Q := (strLeaves b · = true))
      (strLeavesList_iff b) (h.1 _ (mem_of_lookup hl)) hv

theorem strLeaves_seqDecorate (cfg : DecCfg) (seq : Nat) (v : Val)
    (hv : strLeaves cfg.seqNum v = true) : strLeaves cfg.seqNum (seqDecorate cfg seq v).1 = true := by
  unfold seqDecorate
  cases hb : cfg.seqNum with
  | false => rw [hb] at hv; exact hv
  | true =>
    rw [hb] at hv
    have hseq : ∀ (kvs : Entries) (x : Str), strLeavesEntries true kvs = true →
        strLeavesEntries true (insert "_seq".toList (.num x) kvs) = true := by
      intro kvs x hk
      rw [strLeavesEntries_iff] at hk ⊢
      intro e he
      rcases mem_insert he with rfl | he
      · exact .inr ⟨rfl, rfl, rfl⟩
      · exact hk e he
    cases v with
    | null | bool _ | num _ => cases hv
    | list xs => exact hv
    | map kvs => exact hseq kvs _ hv
    | str s => exact hseq _ _ rfl

theorem strLeaves_finishElem (cfg : DecCfg) {b : Bool} {na : Entries} {n : Option Val}
    (h : strictState b na n) : strLeaves b (finishElem cfg na n) = true := by
  fun_cases finishElem cfg na n with
  | case1 => rfl
  | case2 => exact h.strLeavesEntries
  | case3 v => exact h.2 v rfl
  | case4 v => exact (h.insert _ (h.2 v rfl)).strLeavesEntries

theorem strLeaves_newMapXml (cfg : DecCfg) (S : Strconv) (fin : StreamEnd) (toks : List Tok) (v : Val)
    (hr : cfg.cast.r = false) (h : newMapXml cfg S toks fin = .ok v) :
    strLeaves cfg.seqNum v = true := by
  rw [Dec.newMapXml_eq] at h
  obtain ⟨p, hp, h⟩ := Outcome.bind_eq_ok.1 h
  cases h
  have hc : ∀ s t, strLeaves cfg.seqNum (cast S cfg.cast s t) = true := fun s t => by
    rw [cast_off S _ s t hr]; rfl
  exact Dec.decodeTop_inv cfg S fin (T := fun _ => True) (I := strictState cfg.seqNum)
    (Q := fun v => strLeaves cfg.seqNum v = true) (R := fun v => strLeaves cfg.seqNum v = true)
    (hattrs := Dec.loadAttrs_inv cfg S (P := fun na => strictState cfg.seqNum na none) ⟨nofun, nofun⟩
      fun _ _ _ h => h.insert _ (hc _ _))
    (hchild := fun _ _ _ _ _ seq v _ hI hv => hI.addChild _ (strLeaves_seqDecorate cfg seq v hv))
    (htext := fun skey na n s hI => Dec.onText_cases cfg S skey na n s
      (P := fun r => strictState cfg.seqNum r.1 r.2) hI (hI.insert _ (hc _ _))
      ⟨hI.1, fun x hx => by cases hx; exact hc _ _⟩)
    (hfin := fun _ _ hI => strLeaves_finishElem cfg hI)
    (hroot := fun _ _ _ v _ hv => by simp [strLeaves, strLeavesEntries, hv])
    (fun _ _ => trivial) hp

/-! ### the leaf-wise cast relation -/

mutual
/-- `CastRel S c v0 v`: `v` is `v0` with each string leaf `s` replaced by `cast S c s t` for some
    key `t` (the empty value `""` of an empty element is never passed to `cast` and stays `""`);
    same shape, same keys in the same order, non-string leaves equal.
    Spelled out so that the statements of C14 can be read without `LRel`; every proof goes through
    `CastRel_iff` to `LRel (castLeaf S c)`, and the preservation lemmas `CastRel_seqDecorate` …
    `CastRel_decodeTop` below are stated on that side. -/
def CastRel (S : Strconv) (c : CastCfg) : Val → Val → Prop
  | .str s, w => (s = [] ∧ w = .str []) ∨ ∃ t, w = cast S c s t
  | .list xs, w => ∃ ys, w = .list ys ∧ CastRelList S c xs ys
  | .map kvs, w => ∃ kvs', w = .map kvs' ∧ CastRelEntries S c kvs kvs'
  | .null, w => w = .null
  | .bool b, w => w = .bool b
  | .num x, w => w = .num x
def CastRelList (S : Strconv) (c : CastCfg) : List Val → List Val → Prop
  | [], ys => ys = []
  | x :: xs, ys => ∃ y ys', ys = y :: ys' ∧ CastRel S c x y ∧ CastRelList S c xs ys'
def CastRelEntries (S : Strconv) (c : CastCfg) : Entries → Entries → Prop
  | [], b => b = []
  | (k, v) :: rest, b =>
      ∃ w rest', b = (k, w) :: rest' ∧ CastRel S c v w ∧ CastRelEntries S c rest rest'
end

section Rel
variable (S : Strconv) (c : CastCfg)
open CastSeq

/-- relation on optional values (`lookup` results, the pending text value `n`) -/
def CastRelOpt : Option Val → Option Val → Prop
  | none, none => True
  | some v, some w => CastRel S c v w
  | _, _ => False

/-- what `CastRel` says at a leaf -/
def castLeaf : Val → Val → Prop
  | .str s, w => (s = [] ∧ w = .str []) ∨ ∃ t, w = cast S c s t
  | .null, w => w = .null
  | .bool b, w => w = .bool b
  | .num x, w => w = .num x
  | .list _, _ => False
  | .map _, _ => False

mutual
/-- `CastRel` is the leaf-wise relation `LRel` of `castLeaf` -/
theorem CastRel_iff : ∀ (v w : Val), CastRel S c v w ↔ LRel (castLeaf S c) v w
  | .str s, w | .null, w | .bool _, w | .num _, w => Iff.rfl
  | .list xs, w => by simp only [CastRel, LRel, CastRelList_iff xs]
  | .map a, w => by simp only [CastRel, LRel, CastRelEntries_iff a]
theorem CastRelList_iff : ∀ (xs ys : List Val), CastRelList S c xs ys ↔ LRelList (castLeaf S c) xs ys
  | [], ys => Iff.rfl
  | x :: xs, ys => by simp only [CastRelList, LRelList, CastRel_iff x, CastRelList_iff xs]
theorem CastRelEntries_iff : ∀ (a b : Entries), CastRelEntries S c a b ↔ LRelEntries (castLeaf S c) a b
  | [], b => Iff.rfl
  | (k, v) :: rest, b => by
      simp only [CastRelEntries, LRelEntries, CastRel_iff v, CastRelEntries_iff rest]
end

theorem castLeaf_str {s : Str} {w : Val} (h : castLeaf S c (.str s) w) : Dec.scalar w = true := by
  rcases h with ⟨_, rfl⟩ | ⟨t, rfl⟩
  · rfl
  · exact Dec.cast_scalar S c s t

theorem castLeaf_scalarRight : ScalarRight (castLeaf S c) := by
  intro v w h
  cases v with
  | str s => exact Dec.scalar_leaf (castLeaf_str S c h)
  | null | bool _ | num _ => obtain rfl := h; exact ⟨rfl, rfl⟩
  | list _ | map _ => exact h.elim

theorem castLeaf_off (hr : c.r = false) (v w : Val)
    (h : castLeaf S c v w) : w = v := by
  cases v with
  | str s =>
    rcases h with ⟨rfl, rfl⟩ | ⟨t, rfl⟩
    · rfl
    · exact cast_off S c s t hr
  | null | bool _ | num _ => exact h
  | list _ | map _ => exact h.elim

theorem LRel_str_cast (s t : Str) : LRel (castLeaf S c) (.str s) (cast S c s t) := .inr ⟨t, rfl⟩

theorem LRel_num (x : Str) : LRel (castLeaf S c) (.num x) (.num x) := rfl

theorem CastRel_seqDecorate (cfg : DecCfg) (seq : Nat) {v w : Val} (h : LRel (castLeaf S c) v w) :
    LRel (castLeaf S c) (seqDecorate cfg seq v).1 (seqDecorate cfg seq w).1 ∧
      (seqDecorate cfg seq w).2 = (seqDecorate cfg seq v).2 := by
  -- the same `_seq` entry goes into related entries: those of a map, or the one entry of a wrapped leaf
  have ins {a b : Entries} (hab : LRelEntries (castLeaf S c) a b) :=
    LRel_map.2 (LRelEntries_insert "_seq".toList (LRel_num S c ("i:".toList ++ natToStr seq)) hab)
  have leaf {x y : Val} (hxy : LRel (castLeaf S c) x y) :=
    ins (LRelEntries_cons.2 ⟨rfl (a := cfg.textK), hxy, LRelEntries_nil⟩)
  unfold seqDecorate
  cases cfg.seqNum with
  | false => exact ⟨h, rfl⟩
  | true =>
    cases v with
    | null => obtain rfl := h; exact ⟨rfl, rfl⟩
    | list xs => obtain ⟨ys, rfl, hl⟩ := h; exact ⟨LRel_list.2 hl, rfl⟩
    | map a => obtain ⟨b, rfl, hab⟩ := h; exact ⟨ins hab, rfl⟩
    | bool _ | num _ => obtain rfl := h; exact ⟨leaf rfl, rfl⟩
    | str s =>
      have hs := castLeaf_str S c h
      cases w with
      | null | list _ | map _ => cases hs
      | bool _ | num _ | str _ => exact ⟨leaf h, rfl⟩

theorem CastRel_finishElem (cfg : DecCfg) {na nb : Entries} {n m : Option Val}
    (hE : LRelEntries (castLeaf S c) na nb) (hn : LRelOpt (castLeaf S c) n m) :
    LRel (castLeaf S c) (finishElem cfg na n) (finishElem cfg nb m) := by
  unfold finishElem
  rw [LRelEntries_isEmpty hE]
  match n, m, hn with
  | none, none, _ =>
    dsimp only
    split
    · exact .inl ⟨rfl, rfl⟩
    · exact LRel_map.2 hE
  | some v, some w, hn =>
    dsimp only
    split
    · exact hn
    · exact LRel_map.2 (LRelEntries_insert _ hn hE)

end Rel

/-! ### the un-cast configuration -/

section Decoder
variable (cfg : DecCfg) (S : Strconv) (fin : StreamEnd)
open CastSeq

def uncastCfg (cfg : DecCfg) : DecCfg := { cfg with cast := { cfg.cast with r := false } }

theorem uncastCfg_r (cfg : DecCfg) : (uncastCfg cfg).cast.r = false := rfl

theorem cast_uncast (S : Strconv) (cfg : DecCfg) (s t : Str) :
    cast S (uncastCfg cfg).cast s t = .str s := cast_off S _ s t rfl

theorem CastRel_onText (skey : Str) {na nb : Entries}
    {n m : Option Val} (s : Str)
    (hE : LRelEntries (castLeaf S cfg.cast) na nb) (hn : LRelOpt (castLeaf S cfg.cast) n m) :
    LRelEntries (castLeaf S cfg.cast) (onText (uncastCfg cfg) S skey na n s).1 (onText cfg S skey nb m s).1 ∧
      LRelOpt (castLeaf S cfg.cast) (onText (uncastCfg cfg) S skey na n s).2 (onText cfg S skey nb m s).2 := by
  -- `uncastCfg cfg` agrees with `cfg` in every field but `cast`
  simp only [Dec.onText_eq, show Conv.textOf (uncastCfg cfg) s = Conv.textOf cfg s from rfl,
    show (uncastCfg cfg).textK = cfg.textK from rfl, show (uncastCfg cfg).asMap = cfg.asMap from rfl,
    LRelEntries_isEmpty hE, cast_uncast]
  split
  · exact ⟨hE, hn⟩
  · split
    · exact ⟨LRelEntries_insert _ (LRel_str_cast S cfg.cast _ _) hE, hn⟩
    · exact ⟨hE, LRel_str_cast S cfg.cast _ _⟩

theorem CastRel_loadAttrs (attrs : List Attr) :
    LRelEntries (castLeaf S cfg.cast) (loadAttrs (uncastCfg cfg) S attrs) (loadAttrs cfg S attrs) :=
  List.foldl_rel (r := LRelEntries (castLeaf S cfg.cast)) LRelEntries_nil fun a _ na nb h => by
    dsimp only
    rw [cast_uncast]
    exact LRelEntries_insert _ (LRel_str_cast S cfg.cast _ _) h

/-- outcomes of the token loop: identical control flow, related values, same unread tokens -/
def CastRelOut (S : Strconv) (c : CastCfg) :
    Outcome (Val × List Tok) → Outcome (Val × List Tok) → Prop
  | .ok (v, r), .ok (w, r') => CastRel S c v w ∧ r = r'
  | .eof, .eof => True
  | .syntax, .syntax => True
  | .err a, .err b => a = b
  | .panic a, .panic b => a = b
  | _, _ => False

theorem CastRelOut_iff (S : Strconv) (c : CastCfg) (x y : Outcome (Val × List Tok)) :
    CastRelOut S c x y ↔ Outcome.Rel (fun p q => LRel (castLeaf S c) p.1 q.1 ∧ p.2 = q.2) x y := by
  rcases x with ⟨v, r⟩ | _ | _ | _ | _ <;> rcases y with ⟨w, r'⟩ | _ | _ | _ | _ <;>
    first | exact Iff.rfl | exact and_congr_left' (CastRel_iff S c v w)

theorem CastRel_parseElem (f : Nat) {skey : Str} {na nb : Entries} {n m : Option Val} {seq : Nat}
    {pend : Option Str} {toks : List Tok}
    (hE : LRelEntries (castLeaf S cfg.cast) na nb) (hn : LRelOpt (castLeaf S cfg.cast) n m) :
    Outcome.Rel (fun p q => LRel (castLeaf S cfg.cast) p.1 q.1 ∧ p.2 = q.2)
      (parseElem (uncastCfg cfg) S fin f skey na n seq pend toks)
      (parseElem cfg S fin f skey nb m seq pend toks) := by
  induction f generalizing skey na nb n m seq pend toks with
  | zero => exact rfl
  | succ f ih =>
    cases toks with
    | nil => rw [Dec.parseElem_nil, Dec.parseElem_nil]; exact Outcome.Rel.finErr _ fin
    | cons t rest =>
      induction t using Tok.casesMisc with
      | start sp name attrs =>
        rw [Dec.parseElem_start, Dec.parseElem_start]
        refine (ih (CastRel_loadAttrs cfg S attrs) LRelOpt_none).bind ?_
        intro p q _ _ hpq
        obtain ⟨hd, hs⟩ := CastRel_seqDecorate S cfg.cast cfg seq hpq.1
        rw [hs, ← hpq.2]
        exact ih (LRelEntries_addChild (castLeaf_scalarRight S cfg.cast) _ hE hd) hn
      | stop sp name => exact ⟨CastRel_finishElem S cfg.cast cfg hE hn, rfl⟩
      | text s =>
        rw [Dec.parseElem_text, Dec.parseElem_text]
        have := CastRel_onText cfg S skey (pend.getD [] ++ s) hE hn
        exact ih this.1 this.2
      | misc t ht =>
        rw [Dec.parseElem_misc _ S fin ht, Dec.parseElem_misc _ S fin ht]
        exact ih hE hn

theorem CastRel_decodeTop (f : Nat) (toks : List Tok) :
    Outcome.Rel (fun p q => LRel (castLeaf S cfg.cast) p.1 q.1 ∧ p.2 = q.2)
      (decodeTop (uncastCfg cfg) S fin f toks) (decodeTop cfg S fin f toks) := by
  induction f generalizing toks with
  | zero => exact rfl
  | succ f ih =>
    cases toks with
    | nil => rw [Dec.decodeTop_nil, Dec.decodeTop_nil]; exact Outcome.Rel.finErr _ fin
    | cons t rest =>
      induction t using Tok.casesStart with
      | start sp name attrs =>
        rw [Dec.decodeTop_start, Dec.decodeTop_start]
        refine (CastRel_parseElem cfg S fin f (CastRel_loadAttrs cfg S attrs) LRelOpt_none).bind ?_
        intro p q _ _ hpq
        exact ⟨LRel_map_cons hpq.1 LRel_map_nil, hpq.2⟩
      | other t ht =>
        rw [Dec.decodeTop_other _ S fin ht, Dec.decodeTop_other _ S fin ht]
        exact ih rest

end Decoder

end Mxj
