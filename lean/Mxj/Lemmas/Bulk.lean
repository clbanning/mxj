/-
  Mxj.Lemmas.Bulk — the two loops over the JSON stream reader: the bulk handler `handleJson`
  (Mxj.Model.Bulk) and the file loop `readMapsJson` (Mxj.Model.Files).  The file loop is the bulk
  handler with an error handler that answers `false`, a map handler that never stops, and the
  error count forgotten (`readMapsJson_eq_handleJson`), so what is proved about runs of
  documents is proved for `handleJson` and projected.
-/
import Mxj.Model.Bulk
import Mxj.Lemmas.Files
namespace Mxj.Files
open Mxj Mxj.Stream Mxj.Json

theorem spend_zero : spend 0 = some 0 := rfl
theorem spend_one : spend 1 = none := rfl

/-- a call that is not the last one: "never stops" stays, otherwise one less -/
theorem spend_of (b : Nat) (h : b = 0 ∨ 1 < b) : spend b = some (b - 1) := by
  match b, h with
  | 0, _ => rfl
  | 1, h => omega
  | b + 2, _ => rfl

theorem handleJson_step_map (cont : Bool) (lead : Str)
    (hlead : ∀ c ∈ lead, c ≠ '{' ∧ c ≠ '}' ∧ c ≠ '"')
    (m : Entries) (hm : JsonShaped (.map m) = true) (f b : Nat) (s : Sched) (acc : List Val)
    (e : Nat) :
    handleJson cont (f + 1) b (plain (lead ++ mapJson false (.map m)) ++ s) acc e
      = match spend b with
        | some b' => handleJson cont f b' s (Val.norm (.map m) :: acc) e
        | none => ⟨(Val.norm (.map m) :: acc).reverse, e, false⟩ := by
  rw [handleJson, scans_lead_mapJson false lead hlead m hm s]
  simp only [newMapJson_mapJson false m hm, Val.norm]
  cases spend b <;> rfl

/-- a round that errs — the scanner reports anything but a document or io.EOF, or the document
    does not decode: one error-handler call, and the loop stops or goes on with what the scanner
    left unread -/
theorem handleJson_err (cont : Bool) (f b : Nat) {s rest : Sched} {r : JRes}
    (h : getJson s {} = (r, rest)) (hdoc : ∀ raw, r = .doc raw → newMapJson raw = none)
    (heof : ∀ raw, r ≠ .eof raw) (acc : List Val) (e : Nat) :
    handleJson cont (f + 1) b s acc e
      = if cont then handleJson cont f b rest acc (e + 1) else ⟨acc.reverse, e + 1, true⟩ := by
  rw [handleJson, h]
  cases r with
  | doc raw => simp only [hdoc raw rfl]
  | eof raw => exact absurd rfl (heof raw)
  | _ => rfl

theorem handleJson_trail (cont : Bool) (trail : Str)
    (htrail : ∀ c ∈ trail, c ≠ '{' ∧ c ≠ '}' ∧ c ≠ '"') (f b : Nat) (acc : List Val) (e : Nat) :
    handleJson cont (f + 1) b (plain trail) acc e = ⟨acc.reverse, e, false⟩ := by
  rw [handleJson, getJson_trail trail htrail]

/-- the file loop is the bulk handler with `cont = false`, a map handler that never stops, and
    the number of error-handler calls forgotten -/
theorem readMapsJson_eq_handleJson (f : Nat) (s : Sched) (acc : List Val) (e : Nat) :
    readMapsJson f s acc
      = ⟨(handleJson false f 0 s acc e).maps, (handleJson false f 0 s acc e).failed⟩ := by
  -- branch by branch of the file loop: the bulk handler takes the same branch
  fun_induction readMapsJson f s acc <;> simp [handleJson, spend_zero, *]

/-- a run of well-formed documents followed by any schedule.  With budget for all of them (never
    stops, or more budget than documents) every Map is handed over, in order, and the loop goes on
    with that schedule and the remaining budget; with a budget `1 ≤ b ≤ docs.length` the handler
    sees exactly the first `b` Maps and the loop ends there -/
theorem handleJson_docs (cont : Bool) (docs : List (Str × Entries))
    (hlead : ∀ d ∈ docs, ∀ c ∈ d.1, c ≠ '{' ∧ c ≠ '}' ∧ c ≠ '"')
    (hms : ∀ d ∈ docs, JsonShaped (.map d.2) = true) (f : Nat) (s : Sched) (e : Nat) :
    ∀ (b : Nat) (acc : List Val),
      handleJson cont (docs.length + f) b (plain (sepText docs) ++ s) acc e
        = if b = 0 ∨ docs.length < b then
            handleJson cont f (b - docs.length) s
              ((docs.map (fun d => Val.norm (.map d.2))).reverse ++ acc) e
          else ⟨acc.reverse ++ (docs.take b).map (fun d => Val.norm (.map d.2)), e, false⟩ := by
  induction docs with
  | nil => intro b acc; simp [sepText_nil, plain_nil]
  | cons d ds ih =>
    intro b acc
    have ih := ih (fun x hx => hlead x (List.mem_cons_of_mem _ hx))
      (fun x hx => hms x (List.mem_cons_of_mem _ hx))
    rw [List.length_cons, Nat.add_right_comm, sepText_cons, plain_append, List.append_assoc,
      handleJson_step_map cont d.1 (hlead d (List.mem_cons_self ..)) d.2
        (hms d (List.mem_cons_self ..))]
    -- never stops / stops at this call / one call less left
    match b with
    | 0 => simp [spend_zero, ih]
    | 1 => simp [spend_one]
    | b + 2 => simp [spend, ih]

/-- a budget `1 ≤ b ≤ docs.length` needs fuel for `b` rounds only: the first `b` documents use it
    up, and what follows them is not looked at -/
theorem handleJson_stop (cont : Bool) (docs : List (Str × Entries))
    (hlead : ∀ d ∈ docs, ∀ c ∈ d.1, c ≠ '{' ∧ c ≠ '}' ∧ c ≠ '"')
    (hms : ∀ d ∈ docs, JsonShaped (.map d.2) = true) (f b : Nat) (s : Sched) (acc : List Val)
    (e : Nat) (h1 : 1 ≤ b) (h2 : b ≤ docs.length) (hf : b ≤ f) :
    handleJson cont f b (plain (sepText docs) ++ s) acc e
      = ⟨acc.reverse ++ (docs.take b).map (fun d => Val.norm (.map d.2)), e, false⟩ := by
  have h := handleJson_docs cont (docs.take b) (fun d hd => hlead d (List.mem_of_mem_take hd))
    (fun d hd => hms d (List.mem_of_mem_take hd)) (f - b) (plain (sepText (docs.drop b)) ++ s) e
    b acc
  rwa [← List.append_assoc, ← plain_append, ← sepText_append, List.take_append_drop,
    List.length_take, Nat.min_eq_left h2, Nat.add_sub_cancel' hf, if_neg (by omega),
    List.take_take, Nat.min_self] at h

/-- the file loop over separated documents followed by any schedule: `handleJson_docs` projected -/
theorem readMapsJson_docs (docs : List (Str × Entries))
    (hlead : ∀ d ∈ docs, ∀ c ∈ d.1, c ≠ '{' ∧ c ≠ '}' ∧ c ≠ '"')
    (hms : ∀ d ∈ docs, JsonShaped (.map d.2) = true) (f : Nat) (s : Sched) (acc : List Val) :
    readMapsJson (docs.length + f) (plain (sepText docs) ++ s) acc
      = readMapsJson f s ((docs.map (fun d => Val.norm (.map d.2))).reverse ++ acc) := by
  rw [readMapsJson_eq_handleJson _ _ _ 0, readMapsJson_eq_handleJson _ _ _ 0,
    handleJson_docs false docs hlead hms, if_pos (.inl rfl), Nat.zero_sub]

/-- what `Maps.JsonFile` writes is the case of empty separators -/
theorem jsonString_eq_sepText (ms : List Entries) :
    jsonString (ms.map Val.map) = sepText (ms.map fun m => ([], m)) := by
  induction ms with
  | nil => rfl
  | cons m ms ih => rw [List.map_cons, jsonString_cons, ih]; rfl

theorem readMapsJson_sched_free (n : Nat) (s : Sched) (acc : List Val) (hs : Tame s = true) :
    readMapsJson n s acc = readMapsJson n (plain (bytesOf s)) acc := by
  fun_induction readMapsJson n s acc
  · rfl
  all_goals
    -- the scanner's answer on the plain schedule, and the rest tame again behind a document
    obtain ⟨h1, h2⟩ := getJson_tame _ {} hs
    simp only [*] at h1 h2
    simp [readMapsJson, *]

theorem readMapsJson_end (f : Nat) (acc : List Val) :
    readMapsJson (f + 1) [] acc = ⟨acc.reverse, false⟩ := by
  simp [readMapsJson, getJson_nil, endRes]

theorem readMapsJson_noClose (f : Nat) (s rest : Sched) (acc : List Val) (raw : Str)
    (h : getJson s {} = (.noClose raw, rest)) :
    readMapsJson (f + 1) s acc = ⟨acc.reverse, true⟩ := by
  simp [readMapsJson, h]

/-- whenever the file loop ends without error — on ANY schedule — the bulk loop with a map handler
    that never stops hands over exactly the Maps the file loop returns, calls the error handler
    not at all and returns no error, whatever the error handler would have answered -/
theorem handleJson_of_readMapsJson_ok (cont : Bool) (f : Nat) (s : Sched) (acc : List Val)
    (e : Nat) (h : (readMapsJson f s acc).failed = false) :
    handleJson cont f 0 s acc e = ⟨(readMapsJson f s acc).maps, e, false⟩ := by
  -- branch by branch of the file loop: a branch that errs contradicts `h`, every other branch is
  -- the same in the bulk handler whatever `cont`
  fun_induction readMapsJson f s acc <;> simp [handleJson, spend_zero, *] at h ⊢

/-- `s.length + 1` rounds always suffice: with more fuel than reads in the schedule the result
    does not depend on the fuel (every round that does not end the loop consumes a read) -/
theorem handleJson_fuel (cont : Bool) : ∀ (f g b : Nat) (s : Sched) (acc : List Val) (e : Nat),
    s.length < f → s.length < g →
    handleJson cont f b s acc e = handleJson cont g b s acc e := by
  intro f
  induction f with
  | zero => intro g b s acc e hf _; omega
  | succ f ih =>
    intro g b s acc e hf hg
    cases g with
    | zero => omega
    | succ g =>
      cases s with
      | nil => simp [handleJson, getJson_nil, endRes]
      | cons r s =>
        have hlt := (getJson_suffix_tail (r :: s) {}).length_le
        simp only [handleJson]
        generalize getJson (r :: s) {} = x at hlt
        obtain ⟨res, rest⟩ := x
        simp only [List.tail_cons, List.length_cons] at hlt hf hg
        have hr : ∀ (b : Nat) (acc : List Val) (e : Nat),
            handleJson cont f b rest acc e = handleJson cont g b rest acc e :=
          fun b acc e => ih g b rest acc e (by omega) (by omega)
        cases res <;> simp only [hr]

end Mxj.Files
