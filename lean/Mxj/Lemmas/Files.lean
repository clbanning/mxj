/-
  Mxj.Lemmas.Files — the texts the scanner reads as exactly one document (`Scans`): the compact
  JSON encoder (Mxj.Model.Json, C06) writes texts of the generative grammar the scanner is proved
  against (Mxj.Lemmas.Stream, C13); a text cut inside an object ends in "no closing }".  `sepText`
  is a row of such texts, each behind a separator; the loops over it are in Mxj.Lemmas.Bulk.
-/
import Mxj.Model.Files
import Mxj.Lemmas.Stream
import Mxj.Lemmas.Json
namespace Mxj.Files
open Mxj Mxj.Stream Mxj.Json

theorem flatBody_append (a b : List StrCh) : flatBody (a ++ b) = flatBody a ++ flatBody b := by
  induction a with
  | nil => rfl
  | cons x xs ih => simp only [List.cons_append, flatBody, ih, List.append_assoc]

theorem flatList_append (a b : List Item) : flatList (a ++ b) = flatList a ++ flatList b := by
  induction a with
  | nil => simp [flatList]
  | cons x xs ih => simp only [List.cons_append, flatList, ih, List.append_assoc]

theorem flatNoWsList_append (a b : List Item) :
    flatNoWsList (a ++ b) = flatNoWsList a ++ flatNoWsList b := by
  induction a with
  | nil => simp [flatNoWsList]
  | cons x xs ih => simp only [List.cons_append, flatNoWsList, ih, List.append_assoc]

/-- `s` is the text of a list of grammar items, and it has no white space outside strings -/
def Gr (s : Str) : Prop := ∃ is : List Item, flatList is = s ∧ flatNoWsList is = s

/-- `s` is the text of a string body of the grammar -/
def Bd (s : Str) : Prop := ∃ b : List StrCh, flatBody b = s

theorem Gr.nil : Gr [] := ⟨[], by simp [flatList], by simp [flatNoWsList]⟩

theorem Gr.append {a b : Str} (ha : Gr a) (hb : Gr b) : Gr (a ++ b) := by
  obtain ⟨ia, ha1, ha2⟩ := ha
  obtain ⟨ib, hb1, hb2⟩ := hb
  exact ⟨ia ++ ib, by rw [flatList_append, ha1, hb1], by rw [flatNoWsList_append, ha2, hb2]⟩

theorem Gr.ch (c : Char) (h : isPlainCh c = true) : Gr [c] :=
  ⟨[.ch c h], by simp [flatList, flat], by simp [flatNoWsList, flatNoWs]⟩

theorem Gr.plain (s : Str) (h : ∀ c ∈ s, isPlainCh c = true) : Gr s := by
  induction s with
  | nil => exact Gr.nil
  | cons c s ih =>
    exact Gr.append (a := [c]) (Gr.ch c (h c (List.mem_cons_self ..)))
      (ih (fun x hx => h x (List.mem_cons_of_mem _ hx)))

theorem Gr.str {s : Str} (h : Bd s) : Gr ('"' :: s ++ ['"']) := by
  obtain ⟨b, hb⟩ := h
  exact ⟨[.str b], by simp [flatList, flat, hb], by simp [flatNoWsList, flatNoWs, hb]⟩

theorem Gr.obj {s : Str} (h : Gr s) : Gr ('{' :: s ++ ['}']) := by
  obtain ⟨is, h1, h2⟩ := h
  exact ⟨[.obj is], by simp [flatList, flat, h1], by simp [flatNoWsList, flatNoWs, h2]⟩

theorem Bd.nil : Bd [] := ⟨[], rfl⟩

theorem Bd.append {a b : Str} (ha : Bd a) (hb : Bd b) : Bd (a ++ b) := by
  obtain ⟨ia, ha⟩ := ha
  obtain ⟨ib, hb⟩ := hb
  exact ⟨ia ++ ib, by rw [flatBody_append, ha, hb]⟩

theorem Bd.esc (c : Char) : Bd ['\\', c] := ⟨[.esc c], by simp [flatBody, StrCh.flat]⟩

theorem Bd.plain (c : Char) (h : c ≠ '"' ∧ c ≠ '\\') : Bd [c] :=
  ⟨[.plain c h], by simp [flatBody, StrCh.flat]⟩

theorem hexDigitLower_ne_quote : ∀ d, d < 16 → hexDigitLower d ≠ '"' ∧ hexDigitLower d ≠ '\\' := by
  decide

theorem Bd.u4 (n : Nat) : Bd (u4 n) := by
  have m := fun k => Nat.mod_lt k (by decide : 16 > 0)
  have hd := fun k => Bd.plain _ (hexDigitLower_ne_quote (k % 16) (m k))
  exact Bd.append (a := ['\\', 'u']) (Bd.esc 'u')
    (Bd.append (a := [_]) (hd _) (Bd.append (a := [_]) (hd _)
      (Bd.append (a := [_]) (hd _) (hd _))))

theorem Bd.quoteChar (html : Bool) (c : Char) : Bd (quoteChar html c) := by
  rcases quoteChar_cases html c with ⟨_, _, _, h⟩ | ⟨_, h⟩ | ⟨h1, h2, _, _, h⟩ <;> rw [h]
  · exact Bd.esc _
  · exact Bd.u4 _
  · exact Bd.plain _ ⟨h1, h2⟩

theorem Bd.flatMap (html : Bool) (s : Str) : Bd (s.flatMap (Json.quoteChar html)) := by
  induction s with
  | nil => exact Bd.nil
  | cons c s ih => rw [List.flatMap_cons]; exact Bd.append (Bd.quoteChar html c) ih

theorem Gr.quote (html : Bool) (s : Str) : Gr (Json.quote html s) := by
  have := Gr.str (Bd.flatMap html s)
  simpa [Json.quote] using this

theorem isPlainCh_of_isNumCh (c : Char) (h : isNumCh c = true) : isPlainCh c = true := by
  -- a number character is none of the seven characters that are not plain
  have hne : ∀ d, isNumCh d = false → c ≠ d := fun d hd e => by rw [e, hd] at h; cases h
  simp [isPlainCh, isJsonWs, hne '{' (by decide), hne '}' (by decide), hne '"' (by decide),
    hne '\n' (by decide), hne '\r' (by decide), hne '\t' (by decide), hne ' ' (by decide)]

theorem Gr.num (lit : Str) (h : numberLit lit = some (lit, [])) : Gr lit :=
  Gr.plain lit (fun c hc => isPlainCh_of_isNumCh c (numberLit_numCh h c hc))

mutual
theorem gr_encN : ∀ (html : Bool) (v : Val), JsonShaped v = true → Gr (encN html v)
  | html, .null, _ => by simp only [encN]; exact Gr.plain _ (by decide)
  | html, .bool true, _ => by simp only [encN]; exact Gr.plain _ (by decide)
  | html, .bool false, _ => by simp only [encN]; exact Gr.plain _ (by decide)
  | html, .num t, h => by
      simp only [encN]
      exact Gr.num _ (jsonShaped_num h).2
  | html, .str s, _ => by simp only [encN]; exact Gr.quote html s
  | html, .list xs, h => by
      simp only [encN]
      exact Gr.append (Gr.append (Gr.ch '[' (by decide)) (gr_encList html xs h))
        (Gr.ch ']' (by decide))
  | html, .map kvs, h => by
      simp only [encN]
      exact Gr.obj (gr_encEntries html kvs (jsonShaped_map h).1)
theorem gr_encList : ∀ (html : Bool) (xs : List Val), JsonShapedList xs = true →
    Gr (encList html xs)
  | html, [], _ => by simp only [encList]; exact Gr.nil
  | html, [x], h => by
      simp only [encList]; exact gr_encN html x (jsonShapedList_cons h).1
  | html, x :: y :: rest, h => by
      simp only [encList]
      exact Gr.append (Gr.append (gr_encN html x (jsonShapedList_cons h).1) (Gr.ch ',' (by decide)))
        (gr_encList html (y :: rest) (jsonShapedList_cons h).2)
theorem gr_encEntries : ∀ (html : Bool) (kvs : Entries), JsonShapedEntries kvs = true →
    Gr (encEntries html kvs)
  | html, [], _ => by simp only [encEntries]; exact Gr.nil
  | html, [(k, v)], h => by
      simp only [encEntries]
      exact Gr.append (Gr.append (Gr.quote html k) (Gr.ch ':' (by decide)))
        (gr_encN html v (jsonShapedEntries_cons h).1)
  | html, (k, v) :: e :: rest, h => by
      simp only [encEntries]
      exact Gr.append (Gr.append (Gr.append (Gr.append (Gr.quote html k) (Gr.ch ':' (by decide)))
        (gr_encN html v (jsonShapedEntries_cons h).1)) (Gr.ch ',' (by decide)))
        (gr_encEntries html (e :: rest) (jsonShapedEntries_cons h).2)
end

theorem mapJson_items (safe : Bool) (m : Entries) (hm : JsonShaped (.map m) = true) :
    ∃ items, flat (.obj items) = mapJson safe (.map m) ∧
      flatNoWs (.obj items) = mapJson safe (.map m) := by
  obtain ⟨items, h1, h2⟩ := gr_encEntries safe _ (jsonShaped_map (jsonShaped_norm (.map m) hm)).1
  refine ⟨items, ?_, ?_⟩
  · simp only [flat, mapJson, Val.norm, encN, h1]; simp
  · simp only [flatNoWs, mapJson, Val.norm, encN, h2]; simp

theorem mapJson_head (safe : Bool) (m : Entries) :
    ∃ tl, mapJson safe (.map m) = '{' :: tl := by
  exact ⟨_, by simp only [mapJson, Val.norm, encN]; rfl⟩

/-- the scanner reads the text `t` as the one document `raw` and stops right behind it, whatever
    the reader delivers afterwards -/
def Scans (t raw : Str) : Prop := ∀ s : Sched, getJson (plain t ++ s) {} = (.doc raw, s)

theorem Scans.of_plain {t raw : Str} (h : getJson (plain t) {} = (.doc raw, [])) : Scans t raw :=
  fun s => by simpa using getJson_doc_append t {} raw [] s h

theorem Scans.append {t raw : Str} (h : Scans t raw) (rest : Str) :
    getJson (plain (t ++ rest)) {} = (.doc raw, plain rest) := by
  rw [plain_append]; exact h _

/-- a non-empty proper prefix of a text that begins with `{` and is read as exactly one document
    ends inside that document: "no closing }" -/
theorem Scans.cut {t raw : Str} (h : Scans t raw) (ht : ∃ tl, t = '{' :: tl) {cut : Str}
    (hpre : cut <+: t) (hne : cut ≠ []) (hproper : cut ≠ t) :
    ∃ raw', getJson (plain cut) {} = (.noClose raw', []) := by
  obtain ⟨tl, rfl⟩ := ht
  obtain ⟨b, hb⟩ := hpre
  cases cut with
  | nil => exact absurd rfl hne
  | cons c a =>
    rw [List.cons_append] at hb
    obtain ⟨rfl, rfl⟩ := List.cons.inj hb
    have hfull := h []
    rw [List.append_nil, getJson_plain_cons, stepJ_first_open] at hfull
    rw [getJson_plain_cons, stepJ_first_open]
    exact getJson_cut_inDoc a _ b (by rintro rfl; exact hproper (by simp)) (.obj _ _)
      (congrArg Prod.snd hfull)

theorem scans_obj (lead : Str) (hlead : ∀ c ∈ lead, c ≠ '{' ∧ c ≠ '}' ∧ c ≠ '"')
    (items : List Item) : Scans (lead ++ flat (.obj items)) (flatNoWs (.obj items)) :=
  .of_plain (by simpa [plain_nil] using getJson_obj lead hlead items [])

theorem scans_lead_mapJson (safe : Bool) (lead : Str)
    (hlead : ∀ c ∈ lead, c ≠ '{' ∧ c ≠ '}' ∧ c ≠ '"')
    (m : Entries) (hm : JsonShaped (.map m) = true) :
    Scans (lead ++ mapJson safe (.map m)) (mapJson safe (.map m)) := by
  obtain ⟨items, h1, h2⟩ := mapJson_items safe m hm
  have := scans_obj lead hlead items
  rwa [h1, h2] at this

theorem scans_mapJson (safe : Bool) (m : Entries) (hm : JsonShaped (.map m) = true) :
    Scans (mapJson safe (.map m)) (mapJson safe (.map m)) :=
  scans_lead_mapJson safe [] (by simp) m hm

theorem jsonString_nil : jsonString [] = [] := rfl
theorem jsonString_cons (v : Val) (vs : List Val) :
    jsonString (v :: vs) = mapJson false v ++ jsonString vs := by
  simp [jsonString]

theorem readAll_jsonString (ms : List Entries) : (∀ m ∈ ms, JsonShaped (.map m) = true) →
    ∀ n, ms.length < n →
      readAll n (plain (jsonString (ms.map Val.map)))
        = (ms.map (fun m => mapJson false (.map m)), some (.eof [])) := by
  induction ms with
  | nil =>
    intro _ n hn
    cases n with
    | zero => simp at hn
    | succ f => simp [jsonString_nil, plain_nil, readAll, getJson_nil, endRes]
  | cons m ms ih =>
    intro hms n hn
    cases n with
    | zero => simp at hn
    | succ f =>
      have hf : ms.length < f := by simp at hn; omega
      rw [List.map_cons, jsonString_cons, readAll,
        (scans_mapJson false m (hms m (List.mem_cons_self ..))).append]
      simp only [ih (fun x hx => hms x (List.mem_cons_of_mem _ hx)) f hf, List.map_cons]

/-- encoded Maps, each preceded by some separator text -/
def sepText : List (Str × Entries) → Str
  | [] => []
  | d :: ds => d.1 ++ mapJson false (.map d.2) ++ sepText ds

theorem sepText_nil : sepText [] = [] := rfl
theorem sepText_cons (d : Str × Entries) (ds : List (Str × Entries)) :
    sepText (d :: ds) = d.1 ++ mapJson false (.map d.2) ++ sepText ds := rfl

theorem sepText_append (a b : List (Str × Entries)) :
    sepText (a ++ b) = sepText a ++ sepText b := by
  induction a with
  | nil => rfl
  | cons d ds ih => simp only [List.cons_append, sepText_cons, ih, List.append_assoc]

end Mxj.Files
