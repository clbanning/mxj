/-
  Mxj.Lemmas.TokenizerCatGen — compositionality of the tokenizer model for ARBITRARY accepted
  input (not only encoder renderings): one `step` on `s ++ t` yields the tokens of the step on `s`
  and leaves exactly `rest ++ t` unread, provided the step is markup or its character data ends
  before the end of `s` (or `t` is empty / begins with `<`); hence `tokenize (s ++ t)`.
  Every lexer is analysed by its own case principle (`fun_cases`, `fun_induction`): a branch in
  which it rejects `s` contradicts the hypothesis (`nofun`); in an accepting branch the hypotheses
  say what each scan found in `s`, and the same finds are replayed on `s ++ t`.
-/
import Mxj.Lemmas.Tokenizer
namespace Mxj.Tokz
open Mxj

theorem asciiNext_append {r : Str} (t : Str) (h : r ≠ []) : asciiNext (r ++ t) = asciiNext r := by
  cases r with
  | nil => exact absurd rfl h
  | cons c r => rfl

theorem lexRawName_append {s : Str} (t : Str) {nm r1 : Str} :
    lexRawName s = some (nm, r1) → r1 ≠ [] → lexRawName (s ++ t) = some (nm, r1 ++ t) := by
  fun_cases lexRawName s with
  | case2 c nm' htw hcond =>
    intro h hr
    cases h
    have hsp := span_append isNmCh s t (.inl hr)
    simp only [Bool.and_eq_true] at hcond
    simp only [lexRawName, hsp.1, hsp.2, htw, hcond.1, asciiNext_append t hr, hcond.2,
      Bool.and_self, if_true]
  | _ => nofun

theorem lexName_append {s : Str} (t : Str) {sp l r1 : Str} :
    lexName s = some (sp, l, r1) → r1 ≠ [] → lexName (s ++ t) = some (sp, l, r1 ++ t) := by
  fun_cases lexName s with
  | case3 nm r hl sp' l' hn =>
    intro h hr
    cases h
    simp only [lexName, lexRawName_append t hl hr, hn]
  | _ => nofun

theorem dropSp_append {r : Str} {c : Char} {x : Str} (t : Str) (h : dropSp r = c :: x) :
    dropSp (r ++ t) = c :: (x ++ t) := by
  rw [dropSp, (span_append isSp r t (.inl (by rw [← dropSp, h]; simp))).2, ← dropSp, h]; rfl

theorem dropSp_ne {r : Str} {c : Char} {x : Str} (h : dropSp r = c :: x) : r ≠ [] := by
  intro e; subst e; simp [dropSp] at h

theorem endTag_append {s : Str} (t : Str) {tk : List Tok} {rest : Str} :
    endTag s = some (tk, rest) → endTag (s ++ t) = some (tk, rest ++ t) := by
  fun_cases endTag s with
  | case3 sp nm r1 hl r hd =>
    intro h
    cases h
    simp [endTag, lexName_append t hl (dropSp_ne hd), dropSp_append t hd]
  | _ => nofun

/-- whether `p` is a prefix is decided by the first `p.length` characters -/
theorem isPrefixOf_append_len (p s t : Str) (hl : p.length ≤ s.length) :
    p.isPrefixOf (s ++ t) = p.isPrefixOf s := by
  rw [Bool.eq_iff_iff, List.isPrefixOf_iff_prefix, List.isPrefixOf_iff_prefix,
    List.prefix_iff_eq_take, List.prefix_iff_eq_take, List.take_append_of_le_length hl]

theorem breakOn_len {pat s a b : Str} : breakOn pat s = some (a, b) → pat.length ≤ s.length := by
  fun_induction breakOn pat s generalizing a b with
  | case2 c r hp => exact fun _ => (List.isPrefixOf_iff_prefix.1 hp).length_le
  | case4 c r _ a' b' hb ih => exact fun _ => Nat.le_succ_of_le (ih hb)
  | _ => nofun

theorem breakOn_append {pat s : Str} (t : Str) {a b : Str} : breakOn pat s = some (a, b) →
    breakOn pat (s ++ t) = some (a, b ++ t) := by
  fun_induction breakOn pat s generalizing a b with
  | case2 c r hp =>
    -- `pat` at the head
    intro h
    cases h
    have hl := (List.isPrefixOf_iff_prefix.1 hp).length_le
    rw [List.cons_append, breakOn, ← List.cons_append, isPrefixOf_append_len pat _ t hl, if_pos hp,
      List.drop_append_of_le_length hl]
  | case4 c r hp a' b' hb ih =>
    intro h
    cases h
    rw [List.cons_append, breakOn, ← List.cons_append, isPrefixOf_append_len pat (c :: r) t
      (Nat.le_succ_of_le (breakOn_len hb)), if_neg hp, ih hb]
  | _ => nofun

theorem procInst_append {s : Str} (t : Str) {tk : List Tok} {rest : Str} :
    procInst s = some (tk, rest) → procInst (s ++ t) = some (tk, rest ++ t) := by
  fun_cases procInst s with
  | case3 target r1 hl inst rest' hb =>
    intro h
    cases h
    cases hd : dropSp r1 with
    | nil => rw [hd] at hb; simp [breakOn] at hb
    | cons c x =>
      rw [hd] at hb
      have hb' := breakOn_append t hb
      rw [List.cons_append] at hb'
      simp only [procInst, lexRawName_append t hl (dropSp_ne hd), dropSp_append t hd, hb']
  | _ => nofun

theorem bang_append {s : Str} (t : Str) {tk : List Tok} {rest : Str} :
    bang s = some (tk, rest) → bang (s ++ t) = some (tk, rest ++ t) := by
  fun_cases bang s with
  | case3 h1 body r hb =>
    -- a comment; with the opening made visible (`s = "--" ++ s'`) `bang` computes on `s ++ t`
    intro h
    cases h
    obtain ⟨s', rfl⟩ := List.isPrefixOf_iff_prefix.1 h1
    change breakOn _ s' = _ at hb
    simp [bang, List.isPrefixOf, breakOn_append t hb]
  | case7 _ h2 body r hb v hv =>
    -- a CDATA section
    intro h
    cases h
    obtain ⟨s', rfl⟩ := List.isPrefixOf_iff_prefix.1 h2
    change breakOn _ s' = _ at hb
    simp [bang, List.isPrefixOf, breakOn_append t hb, hv]
  | _ => nofun

theorem lexAttr_append {s : Str} (t : Str) {a : Attr} {r4 : Str} :
    lexAttr s = some (a, r4) → lexAttr (s ++ t) = some (a, r4 ++ t) := by
  fun_cases lexAttr s with
  | case6 sp nm r1 hl r2 q r3 hd2 hq c r4 hd3 v hv hd =>
    -- `hl`: the name, then `r1`; `hd`: the `=` behind white space, then `r2`; `hd2`: the opening
    -- quote `q` (`hq`), then `r3`; `hd3`: the closing quote `c` found in `r3`, then `r4`; `hv`: the
    -- value lexed from what stands between the quotes
    intro h
    cases h
    have hsp := span_append (· != q) r3 t (.inl (by rw [hd3]; simp))
    simp only [lexAttr, lexName_append t hl (dropSp_ne hd), dropSp_append t hd,
      dropSp_append t hd2, hq, if_true, hsp.1, hsp.2, hd3, hv, List.cons_append]
  | _ => nofun

/-- the fuel may grow: `startTag` calls `lexAttrs (r1.length + 1) r1`, and `r1` is longer on
    `s ++ t` -/
theorem lexAttrs_append {f : Nat} {s : Str} (t : Str) {as : List Attr} {e : Bool} {rest : Str}
    (h : lexAttrs f s = some (as, e, rest)) (g : Nat) (hg : f ≤ g) :
    lexAttrs g (s ++ t) = some (as, e, rest ++ t) := by
  obtain ⟨k, rfl⟩ := Nat.exists_eq_add_of_le hg
  fun_induction lexAttrs f s generalizing as e rest with
  | case3 f s r hd =>
    -- `>`
    cases h
    simp [Nat.add_right_comm, lexAttrs, dropSp_append t hd]
  | case5 f s r _ hd =>
    -- `/>`
    cases h
    simp [Nat.add_right_comm, lexAttrs, dropSp_append t hd]
  | case9 f s c r hd h1 h2 a r1 ha as' e' rest' hr ih =>
    -- an attribute, then the rest of the list
    cases h
    have hap := lexAttr_append t ha
    simp only [List.cons_append] at hap
    simp only [Nat.add_right_comm f 1 k, lexAttrs, dropSp_append t hd, h1, h2, if_false, hap,
      ih hr (Nat.le_add_right ..)]
  | _ => cases h

theorem startTag_append {s : Str} (t : Str) {tk : List Tok} {rest : Str} :
    startTag s = some (tk, rest) → startTag (s ++ t) = some (tk, rest ++ t) := by
  fun_cases startTag s with
  | case3 sp nm r1 hl as e rest' ha =>
    intro h
    cases h
    have hr1 : r1 ≠ [] := by
      intro e0; subst e0; simp [lexAttrs, dropSp] at ha
    simp only [startTag, lexName_append t hl hr1,
      lexAttrs_append t ha ((r1 ++ t).length + 1) (by simp)]
  | _ => nofun

theorem step_append_markup (r t : Str) (tk : List Tok) (rest : Str)
    (h : step ('<' :: r) = some (tk, rest)) :
    step ('<' :: (r ++ t)) = some (tk, rest ++ t) := by
  cases r with
  | nil => simp [step] at h
  | cons d r' =>
    simp only [List.cons_append, step, if_true] at h ⊢
    by_cases h1 : d = '/'
    · rw [if_pos h1] at h ⊢; exact endTag_append t h
    · rw [if_neg h1] at h ⊢
      by_cases h2 : d = '?'
      · rw [if_pos h2] at h ⊢; exact procInst_append t h
      · rw [if_neg h2] at h ⊢
        by_cases h3 : d = '!'
        · rw [if_pos h3] at h ⊢; exact bang_append t h
        · rw [if_neg h3] at h ⊢
          have := startTag_append t h
          simpa using this

/-- a character-data step composes when the run ends inside `s` (`rest ≠ []`: it stopped at a
    `<`) or `t` is empty or begins with `<`; the token is a single `Tok.text` -/
theorem step_append_text (c : Char) (r t : Str) (tk : List Tok) (rest : Str) (hc : c ≠ '<')
    (h : step (c :: r) = some (tk, rest)) :
    (∃ v, tk = [Tok.text v]) ∧
    ((rest ≠ [] ∨ startsLt t = true) → step (c :: (r ++ t)) = some (tk, rest ++ t)) := by
  simp only [step, if_neg hc, textRun] at h ⊢
  cases hl : lexChars ((c :: r).takeWhile (· != '<')) with
  | none => simp [hl] at h
  | some v =>
    simp only [hl, Option.some.injEq, Prod.mk.injEq] at h
    refine ⟨⟨v, h.1.symm⟩, fun hj => ?_⟩
    have hspan := span_append (· != '<') (c :: r) t (h.2 ▸ hj)
    simp only [List.cons_append] at hspan
    rw [hspan.1, hspan.2, hl]
    simp [h.1, h.2]

def lastIsText (ts : List Tok) : Bool :=
  match ts.getLast? with
  | some (.text _) => true
  | _ => false

/-- the junction of `s` (tokens `ts`) and `t` is not inside a run of character data: the last
    token of `s` is not character data, or `t` is empty or begins with `<` -/
def junctionOk (ts : List Tok) (t : Str) : Bool := !lastIsText ts || startsLt t

theorem tokF_nil_of (f : Nat) (ts : List Tok) (h : tokF f [] = some ts) : ts = [] := by
  cases f <;> simpa [tokF] using h.symm

theorem junctionOk_tail (tk more : List Tok) (t : Str) (h : junctionOk (tk ++ more) t = true) :
    junctionOk more t = true := by
  cases more with
  | nil => simp [junctionOk, lastIsText]
  | cons m ms =>
    cases hg : (m :: ms).getLast? with
    | none => simp at hg
    | some x =>
      simp only [junctionOk, lastIsText, List.getLast?_append, hg, Option.some_or] at h ⊢
      exact h

theorem tokF_append : ∀ (f : Nat) (s : Str) (ts : List Tok), tokF f s = some ts →
    ∀ (t : Str) (us : List Tok) (g : Nat), tokF g t = some us → junctionOk ts t = true →
    tokF (f + g) (s ++ t) = some (ts ++ us) := by
  intro f s
  fun_induction tokF f s with
  | case1 f =>
    intro ts h t us g ht _
    cases h
    exact tokF_fuel ht (f + g) (.inl (Nat.le_add_left ..))
  | case5 f c r tk rest hs hle more hr ih =>
    intro ts h t us g ht hj
    cases h
    have hstep : step (c :: (r ++ t)) = some (tk, rest ++ t) := by
      by_cases hc : c = '<'
      · subst hc; exact step_append_markup r t tk rest hs
      · obtain ⟨⟨v, rfl⟩, hcomp⟩ := step_append_text c r t tk rest hc hs
        apply hcomp
        by_cases hrest : rest = []
        · -- the run is the last token of `s`: the junction condition speaks about it
          subst hrest
          cases tokF_nil_of f more hr
          exact .inr (by simpa [junctionOk, lastIsText] using hj)
        · exact .inl hrest
    have := tokF_step (f := f + g) hstep (by simp; omega)
      (ih more hr t us g ht (junctionOk_tail tk more t hj))
    simpa [Nat.add_right_comm, List.append_assoc] using this
  | _ => nofun

/-- the "concatenated tokens" half of TB-XML-stop, for arbitrary accepted input -/
theorem tokenize_append (s t : Str) (ts us : List Tok) (hs : tokenize s = some ts)
    (ht : tokenize t = some us) (hj : junctionOk ts t = true) :
    tokenize (s ++ t) = some (ts ++ us) :=
  tokenize_of_tokF (tokF_append _ s ts hs t us _ ht hj)

end Mxj.Tokz
