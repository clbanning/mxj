/-
  Mxj.Props.C02ExtSym — C02 "decode → encode → decode is a fixed point" for SYMMETRIC
  NON-DEFAULT option combinations (tree level, and through bytes under the tokenizer law).

  `Props/C02.lean` proves the fixed point for the default decoder / encoder options (`dc`, `ec`).
  Here the same statement is proved for every pair `(d, e)` of decoder / encoder configurations
  that is symmetric (`EncSym.Sym`): same attribute prefix, same text key (not itself an
  attribute key), no tag sequence numbers, no decoder-side escaping, no `checkTagToSkip` set —
  and ANY setting of lower-case / snake-case key folding, keep-spaces, simple-values-as-map and
  `cast` (float / bool), all at once.  Facts about the standard library enter as explicit
  laws (trusted base):
    * `EncSym.LowerLaw S`  — `strings.ToLower` is idempotent and commutes with '-' ↦ '_'
                             (needed only when keys are lower-cased);
    * `EncSym.FloatLaw S`  — the `%v` text of a parsed float parses back to the same float, is
                             non-empty and free of white space, is not a NaN/Inf word when the
                             float is finite, and "true"/"false" are neither floats nor such
                             words (needed only when values are cast).
    * `EncSym.FloatTextLaw S` — (bytes only) that text contains nothing XML escaping rewrites.
  The development is in Lemmas/EncodeSym1 … EncodeSym3 and Lemmas/EncodeSym.

  `C02_sym_fixed_point_tree` (Props/C02.lean) is the general theorem (abstract laws `FoldLaw`,
  `LeafLaw`); `C02_sym_fixed_point_tree_tb` the same from the trusted-base laws; the per-option theorems
  `C02_sym_fold_…`, `C02_sym_keepSpace_…`, `C02_sym_asMap_…`, `C02_sym_prefix_textKey_…`,
  `C02_sym_cast_…` are its instances; `C02_sym_fixed_point_bytes` (Props/C02.lean) is the statement through
  bytes (`TokLaw`, compact encoder), `…_bytes_tb` below the same from the trusted-base laws.  Every hypothesis comes with a counterexample below.
-/
import Mxj.Lemmas.EncodeSym
import Mxj.Props.C02
namespace Mxj.C02
open Mxj Mxj.Enc Mxj.EncSym

/-! ### the shape of decoded values, and the image -/

/-- what the conventions produce under the options `d` has the shape `DecodedG d S e`: leaves are
    the cast of their own (trimmed, non-empty) text, lists have at least two non-list members,
    maps are non-empty, have distinct keys and — unless simple values decode as maps — are not
    text-only, attribute entries are cast scalars, every key is a fixed point of the folding. -/
theorem C02_sym_decoded (d : DecCfg) (S : Strconv) (e : EncCfg) (hs : Sym d e)
    (hF : FoldLaw d S) (hL : LeafLaw d S) (sp name : Str) (attrs : List Attr) (kids : List Node)
    (hd : Conv.inDomain d S (.elem sp name attrs kids) = true)
    (hn : NamesOkG d S e (.elem sp name attrs kids) = true) :
    DecodedG d S e (Conv.value d S (.elem sp name attrs kids)) = true :=
  value_decodedG d S e hs hF hL _ hd hn rfl

/-- a value of that shape is its own image under encode-then-decode with `(e, d)` -/
theorem C02_sym_decoded_image (d : DecCfg) (S : Strconv) (e : EncCfg)
    (hta : isAttrK e e.textK = false) (v : Val) (h : DecodedG d S e v = true) :
    imageG d S e v ≈ᵥ v := image_decodedG hta h

/-- … and stays of that shape when normalised -/
theorem C02_sym_decoded_norm (d : DecCfg) (S : Strconv) (e : EncCfg) (v : Val)
    (h : DecodedG d S e v = true) : DecodedG d S e v.norm = true := DecodedG_norm h

/-! ### the fixed point from the library laws -/

/-- `C02_sym_fixed_point_tree` (Props/C02) from the trusted-base laws: `LowerLaw S` when keys are
    lower-cased, `FloatLaw S` when values are cast; integer casting off (documented as asymmetric: see the last
    counterexample of this file) -/
theorem C02_sym_fixed_point_tree_tb (d : DecCfg) (S : Strconv) (e : EncCfg) (hs : Sym d e)
    (hlow : d.lowerCase = true → LowerLaw S)
    (hI : d.cast.toInt = false) (hfl : d.cast.r = true → FloatLaw S)
    (sp name : Str) (attrs : List Attr) (kids : List Node)
    (hd : Conv.inDomain d S (.elem sp name attrs kids) = true)
    (hnames : NamesOkG d S e (.elem sp name attrs kids) = true) :
    ∃ root, Conv.doc d S (.elem sp name attrs kids) = .map [root] ∧
      ∃ n, encTree e root.1 root.2.norm = .ok [n]
        ∧ Conv.doc d S n ≈ᵥ Conv.doc d S (.elem sp name attrs kids) :=
  C02_sym_fixed_point_tree d S e hs (FoldLaw_of d S hlow) (LeafLaw_of d S hI hfl)
    sp name attrs kids hd hnames

/-! ### one option at a time -/

/-- key folding (`lowerCase`, `snake`, either or both), everything else default -/
theorem C02_sym_fold_fixed_point_tree (lc sn : Bool) (S : Strconv)
    (hlow : lc = true → LowerLaw S) (sp name : Str) (attrs : List Attr) (kids : List Node)
    (hd : Conv.inDomain { lowerCase := lc, snake := sn } S (.elem sp name attrs kids) = true)
    (hnames : NamesOkG { lowerCase := lc, snake := sn } S ec (.elem sp name attrs kids) = true) :
    ∃ root, Conv.doc { lowerCase := lc, snake := sn } S (.elem sp name attrs kids) = .map [root] ∧
      ∃ n, encTree ec root.1 root.2.norm = .ok [n]
        ∧ Conv.doc { lowerCase := lc, snake := sn } S n
            ≈ᵥ Conv.doc { lowerCase := lc, snake := sn } S (.elem sp name attrs kids) :=
  C02_sym_fixed_point_tree_tb { lowerCase := lc, snake := sn } S ec
    ⟨rfl, rfl, textK_not_attr, rfl, rfl, rfl⟩ hlow rfl nofun
    sp name attrs kids hd hnames

/-- keep-spaces (only tabs, returns, backspaces and newlines are trimmed) -/
theorem C02_sym_keepSpace_fixed_point_tree (S : Strconv) (sp name : Str) (attrs : List Attr)
    (kids : List Node)
    (hd : Conv.inDomain { keepSpace := true } S (.elem sp name attrs kids) = true)
    (hnames : NamesOkG { keepSpace := true } S ec (.elem sp name attrs kids) = true) :
    ∃ root, Conv.doc { keepSpace := true } S (.elem sp name attrs kids) = .map [root] ∧
      ∃ n, encTree ec root.1 root.2.norm = .ok [n]
        ∧ Conv.doc { keepSpace := true } S n
            ≈ᵥ Conv.doc { keepSpace := true } S (.elem sp name attrs kids) :=
  C02_sym_fixed_point_tree_tb { keepSpace := true } S ec
    ⟨rfl, rfl, textK_not_attr, rfl, rfl, rfl⟩ nofun rfl
    nofun sp name attrs kids hd hnames

/-- simple values decode as `{text key: value}` maps -/
theorem C02_sym_asMap_fixed_point_tree (S : Strconv) (sp name : Str) (attrs : List Attr)
    (kids : List Node)
    (hd : Conv.inDomain { asMap := true } S (.elem sp name attrs kids) = true)
    (hnames : NamesOkG { asMap := true } S ec (.elem sp name attrs kids) = true) :
    ∃ root, Conv.doc { asMap := true } S (.elem sp name attrs kids) = .map [root] ∧
      ∃ n, encTree ec root.1 root.2.norm = .ok [n]
        ∧ Conv.doc { asMap := true } S n
            ≈ᵥ Conv.doc { asMap := true } S (.elem sp name attrs kids) :=
  C02_sym_fixed_point_tree_tb { asMap := true } S ec
    ⟨rfl, rfl, textK_not_attr, rfl, rfl, rfl⟩ nofun rfl
    nofun sp name attrs kids hd hnames

/-- any attribute prefix `p` and any text key `tk` that does not properly extend `p`
    (with the empty prefix `NamesOkG` admits only attribute-free trees) -/
theorem C02_sym_prefix_textKey_fixed_point_tree (p tk : Str) (S : Strconv)
    (hpt : isAttrK { attrPrefix := p, textK := tk } tk = false)
    (sp name : Str) (attrs : List Attr) (kids : List Node)
    (hd : Conv.inDomain { attrPrefix := p, textK := tk } S (.elem sp name attrs kids) = true)
    (hnames : NamesOkG { attrPrefix := p, textK := tk } S
      { attrPrefix := p, textK := tk, escape := true } (.elem sp name attrs kids) = true) :
    ∃ root, Conv.doc { attrPrefix := p, textK := tk } S (.elem sp name attrs kids) = .map [root] ∧
      ∃ n, encTree { attrPrefix := p, textK := tk, escape := true } root.1 root.2.norm = .ok [n]
        ∧ Conv.doc { attrPrefix := p, textK := tk } S n
            ≈ᵥ Conv.doc { attrPrefix := p, textK := tk } S (.elem sp name attrs kids) :=
  C02_sym_fixed_point_tree_tb { attrPrefix := p, textK := tk } S
    { attrPrefix := p, textK := tk, escape := true }
    ⟨rfl, rfl, hpt, rfl, rfl, rfl⟩ nofun rfl
    nofun sp name attrs kids hd hnames

/-- float / bool casting (`cast` with any of `toFloat`, `toBool`, `nanInf`; no integer casting,
    no skip set) -/
theorem C02_sym_cast_fixed_point_tree (c : CastCfg) (S : Strconv) (hI : c.toInt = false)
    (hskip : c.skipSet = false) (hfl : c.r = true → FloatLaw S)
    (sp name : Str) (attrs : List Attr) (kids : List Node)
    (hd : Conv.inDomain { cast := c } S (.elem sp name attrs kids) = true)
    (hnames : NamesOkG { cast := c } S ec (.elem sp name attrs kids) = true) :
    ∃ root, Conv.doc { cast := c } S (.elem sp name attrs kids) = .map [root] ∧
      ∃ n, encTree ec root.1 root.2.norm = .ok [n]
        ∧ Conv.doc { cast := c } S n ≈ᵥ Conv.doc { cast := c } S (.elem sp name attrs kids) :=
  C02_sym_fixed_point_tree_tb { cast := c } S ec
    ⟨rfl, rfl, textK_not_attr, rfl, rfl, hskip⟩ nofun hI hfl
    sp name attrs kids hd hnames


/-! ### through bytes -/

/-- `C02_sym_fixed_point_bytes` (Props/C02) from the library laws `LowerLaw`, `FloatLaw`,
    `FloatTextLaw` (integer casting off) in place of `FoldLaw`, `LeafLaw`, `NumPlainLaw` -/
theorem C02_sym_fixed_point_bytes_tb (tokens : Str → List Tok) (law : TokLaw tokens)
    (d : DecCfg) (S : Strconv) (e : EncCfg) (hs : Sym d e) (hesc : e.escape = true)
    (hlow : d.lowerCase = true → LowerLaw S) (hI : d.cast.toInt = false)
    (hfl : d.cast.r = true → FloatLaw S ∧ FloatTextLaw S)
    (fin : StreamEnd) (pre post : List Tok) (hpre : ∀ t ∈ pre, ¬ isStart t)
    (sp name : Str) (attrs : List Attr) (kids : List Node)
    (hd : Conv.inDomain d S (.elem sp name attrs kids) = true)
    (hadj : noAdjText (.elem sp name attrs kids) = true)
    (hnames : NamesOkG d S e (.elem sp name attrs kids) = true)
    (hwn : ∀ n, encTree e (elemKey d S name)
        (Conv.value d S (.elem sp name attrs kids)).norm = .ok [n] → WellNamed n = true) :
    ∃ m out m',
      newMapXml d S (pre ++ flatten (.elem sp name attrs kids) ++ post) fin = .ok (.map m)
      ∧ mapXml e m none = .ok out
      ∧ newMapXml d S (tokens out) fin = .ok m'
      ∧ m' ≈ᵥ .map m :=
  C02_sym_fixed_point_bytes tokens law d S e hs hesc (FoldLaw_of d S hlow)
    (LeafLaw_of d S hI (fun h => (hfl h).1)) (NumPlainLaw_of d S e hI hfl)
    fin pre post hpre sp name attrs kids hd hadj hnames hwn

/-! ### non-vacuity: concrete instances of the laws -/

/-- a float parser on a finite table ("1.50" and "1.5" are the float 1.5, `%v` text "1.5";
    "NaN"/"nan" are NaN) -/
def pfT (s : Str) : Option (Str × Bool) :=
  if s = "1.50".toList ∨ s = "1.5".toList then some ("f:1.5".toList, false)
  else if s = "NaN".toList ∨ s = "nan".toList then some ("f:NaN".toList, true)
  else none

/-- a `Strconv` with ASCII lower-casing and that float parser -/
def S1 : Strconv :=
  { parseInt := fun _ => none, parseUint := fun _ => none, parseFloat := pfT, lower := lowerAscii }

theorem S1_lower : LowerLaw S1 := lowerAscii_law S1 rfl

theorem pfT_some {s t : Str} {sp : Bool} (h : pfT s = some (t, sp)) :
    (t, sp) = ("f:1.5".toList, false) ∨ (t, sp) = ("f:NaN".toList, true) := by
  unfold pfT at h
  split at h
  · exact .inl (Option.some.inj h).symm
  · split at h
    · exact .inr (Option.some.inj h).symm
    · cases h

theorem S1_float : FloatLaw S1 := by
  constructor
  · intro s t sp h
    rcases pfT_some h with h | h <;> cases h <;> decide +kernel
  · intro s t sp h
    rcases pfT_some h with h | h <;> cases h <;> decide +kernel
  · intro s t h
    rcases pfT_some h with h | h <;> cases h
    decide +kernel
  · intro b; cases b <;> decide +kernel
  · intro b; cases b <;> decide +kernel

theorem S1_floatText : FloatTextLaw S1 := by
  constructor
  intro s t sp h
  rcases pfT_some h with h | h <;> cases h <;> decide +kernel

/-! ### non-vacuity: the theorems on concrete trees with non-default options -/

/-- `<Doc-Root Attr-One="1.50" B="nan">␤<Item-A> 1.50 </Item-A>␤<item_a>T</item_a>`
    `<C K-k="true">w<D/></C>␤</Doc-Root>` -/
def symTree : Node :=
  .elem [] "Doc-Root".toList [⟨[], "Attr-One".toList, "1.50".toList⟩, ⟨[], "B".toList, "nan".toList⟩]
    [.text "\n".toList, .elem [] "Item-A".toList [] [.text " 1.50 ".toList], .text "\n".toList,
     .elem [] "item_a".toList [] [.text "T".toList],
     .elem [] "C".toList [⟨[], "K-k".toList, "true".toList⟩] [.text "w".toList, .elem [] "D".toList [] []],
     .text "\n".toList]

/-- prefix "at_", text key "_t", lower-case + snake-case keys, simple values as maps, cast -/
def dA : DecCfg :=
  { attrPrefix := "at_".toList, textK := "_t".toList, lowerCase := true, snake := true,
    asMap := true, cast := { r := true } }
def eA : EncCfg := { attrPrefix := "at_".toList, textK := "_t".toList, escape := true }

/-- prefix "@", lower-case + snake-case keys, keep-spaces, cast with NaN/Inf -/
def dB : DecCfg :=
  { attrPrefix := "@".toList, lowerCase := true, snake := true, keepSpace := true,
    cast := { r := true, nanInf := true } }
def eB : EncCfg := { attrPrefix := "@".toList, escape := true }

theorem symA : Sym dA eA := ⟨rfl, rfl, by decide, rfl, rfl, rfl⟩
theorem symB : Sym dB eB := ⟨rfl, rfl, by decide, rfl, rfl, rfl⟩

example : Conv.inDomain dA S1 symTree = true := by decide +kernel
example : NamesOkG dA S1 eA symTree = true := by decide +kernel
example : Conv.inDomain dB S1 symTree = true := by decide +kernel
example : NamesOkG dB S1 eB symTree = true := by decide +kernel

/-- the Map of the document under `dA`: folded keys, cast attribute and leaf values (the
    NaN word stays a string), simple values as `{"_t": value}` maps … -/
example : Conv.doc dA S1 symTree = .map [("doc_root".toList, .map
    [("at_attr_one".toList, .num "f:1.5".toList), ("at_b".toList, .str "nan".toList),
     ("item_a".toList, .list [.map [("_t".toList, .num "f:1.5".toList)],
                              .map [("_t".toList, .bool true)]]),
     ("c".toList, .map [("at_k_k".toList, .bool true), ("d".toList, .str []),
                        ("_t".toList, .str "w".toList)])])] := by decide +kernel

/-- … and under `dB`: spaces kept (so " 1.50 " is not a number), NaN cast -/
example : Conv.doc dB S1 symTree = .map [("doc_root".toList, .map
    [("@attr_one".toList, .num "f:1.5".toList), ("@b".toList, .num "f:NaN".toList),
     ("item_a".toList, .list [.str " 1.50 ".toList, .bool true]),
     ("c".toList, .map [("@k_k".toList, .bool true), ("d".toList, .str []),
                        ("#text".toList, .str "w".toList)])])] := by decide +kernel

/-- the general theorem applies to both … -/
example : FixedPointAt dA S1 eA symTree :=
  C02_sym_fixed_point_tree_tb dA S1 eA symA (fun _ => S1_lower) rfl (fun _ => S1_float)
    _ _ _ _ (by decide +kernel) (by decide +kernel)
example : FixedPointAt dB S1 eB symTree :=
  C02_sym_fixed_point_tree_tb dB S1 eB symB (fun _ => S1_lower) rfl (fun _ => S1_float)
    _ _ _ _ (by decide +kernel) (by decide +kernel)

/-- … and the one-option theorems to their option sets -/
example : FixedPointAt { lowerCase := true, snake := true } S1 ec symTree :=
  C02_sym_fold_fixed_point_tree true true S1 (fun _ => S1_lower) _ _ _ _
    (by decide +kernel) (by decide +kernel)
example : FixedPointAt { keepSpace := true } S1 ec symTree :=
  C02_sym_keepSpace_fixed_point_tree S1 _ _ _ _ (by decide +kernel) (by decide +kernel)
example : FixedPointAt { asMap := true } S1 ec symTree :=
  C02_sym_asMap_fixed_point_tree S1 _ _ _ _ (by decide +kernel) (by decide +kernel)
example : FixedPointAt { attrPrefix := "at_".toList, textK := "_t".toList } S1
    { attrPrefix := "at_".toList, textK := "_t".toList, escape := true } symTree :=
  C02_sym_prefix_textKey_fixed_point_tree "at_".toList "_t".toList S1 (by decide +kernel)
    _ _ _ _ (by decide +kernel) (by decide +kernel)
example : FixedPointAt { cast := { r := true, nanInf := true } } S1 ec symTree :=
  C02_sym_cast_fixed_point_tree { r := true, nanInf := true } S1 rfl rfl (fun _ => S1_float)
    _ _ _ _ (by decide +kernel) (by decide +kernel)

/-- the tree the encoder builds for the `dA` Map (names are the folded keys, numbers and
    booleans are written as their `%v` text), and the Map it decodes to: the same entries -/
example : ∃ n, encTree eA "doc_root".toList
      (match Conv.doc dA S1 symTree with | .map [r] => r.2.norm | _ => .null) = .ok [n]
    ∧ n = .elem [] "doc_root".toList
        [⟨[], "attr_one".toList, "1.5".toList⟩, ⟨[], "b".toList, "nan".toList⟩]
        [.elem [] "c".toList [⟨[], "k_k".toList, "true".toList⟩]
           [.text "w".toList, .elem [] "d".toList [] []],
         .elem [] "item_a".toList [] [.text "1.5".toList],
         .elem [] "item_a".toList [] [.text "true".toList]]
    ∧ Conv.doc dA S1 n ≈ᵥ Conv.doc dA S1 symTree := by
  -- the kernel unfolds `String.toList` of a literal through the UTF-8 decoding of its bytes, at a
  -- cost quadratic in its length: a long literal is first turned into its list of characters
  repeat rw [String.toList_ofList]
  refine ⟨_, ?_, rfl, ?_⟩ <;> decide +kernel

/-- the bytes `mv.Xml()` writes for that Map under `eA`, and the premises of
    `C02_sym_fixed_point_bytes_tb` other than the tokenizer law: the encoder's tree is well-named,
    the document has no adjacent text nodes -/
example : (match Conv.doc dA S1 symTree with | .map m => mapXml eA m none | _ => .error .other)
    = .ok ("<doc_root attr_one=\"1.5\" b=\"nan\"><c k_k=\"true\">w<d/></c>"
        ++ "<item_a>1.5</item_a><item_a>true</item_a></doc_root>").toList := by
  repeat rw [String.toList_append]
  repeat rw [String.toList_ofList]
  decide +kernel
example : noAdjText symTree = true := by decide +kernel
example : ∀ n, encTree eA (elemKey dA S1 "Doc-Root".toList)
    (Conv.value dA S1 symTree).norm = .ok [n] → WellNamed n = true := by
  intro n h
  have h' : (match encTree eA (elemKey dA S1 "Doc-Root".toList) (Conv.value dA S1 symTree).norm with
      | .ok [m] => WellNamed m
      | _ => true) = true := by decide +kernel
  rw [h] at h'
  exact h'
example (tokens : Str → List Tok) (law : TokLaw tokens) (hwn : ∀ n, encTree eA
      (elemKey dA S1 "Doc-Root".toList) (Conv.value dA S1 symTree).norm = .ok [n] →
      WellNamed n = true) :
    ∃ m out m', newMapXml dA S1 ([] ++ flatten symTree ++ []) .eof = .ok (.map m)
      ∧ mapXml eA m none = .ok out ∧ newMapXml dA S1 (tokens out) .eof = .ok m'
      ∧ m' ≈ᵥ .map m :=
  C02_sym_fixed_point_bytes_tb tokens law dA S1 eA symA rfl (fun _ => S1_lower) rfl
    (fun _ => ⟨S1_float, S1_floatText⟩) .eof [] [] (by simp) _ _ _ _
    (by decide +kernel) (by decide +kernel) (by decide +kernel) hwn

/-! ### counterexamples: every hypothesis is needed

  Each is `¬ FixedPointAt d S e t` for an in-domain tree `t`, by evaluating the executable
  form `fpCheck` (`fpCheck_iff`). -/

/-- `Sym.txt_not_attr` — the text key must not be an attribute key.  Prefix "#te", text key
    "#text": `<a>hi<b/></a>` decodes to `{"b": "", "#text": "hi"}`; the encoder writes the text
    entry as the ATTRIBUTE `xt="hi"` (and as text), and the child `b` is lost:
    `<a xt="hi">hi</a>`. -/
example :
    let d : DecCfg := { attrPrefix := "#te".toList }
    let e : EncCfg := { attrPrefix := "#te".toList, escape := true }
    let t : Node := .elem [] "a".toList [] [.text "hi".toList, .elem [] "b".toList [] []]
    Conv.inDomain d S1 t = true ∧ NamesOkG d S1 e t = true ∧ ¬ FixedPointAt d S1 e t := by
  refine ⟨by decide +kernel, by decide +kernel, ?_⟩
  rw [← fpCheck_iff]; decide +kernel

/-- `Sym.skip` — no `checkTagToSkip` set.  With the set `{"a"}`, `<a><b/>1.5</a>` decodes the
    (late) text under the text key: `{"b": "", "#text": 1.5}`; re-encoded the text comes first,
    `<a>1.5<b/></a>`, is cast with the element's key "a", skipped, and stays the string "1.5". -/
example :
    let d : DecCfg := { cast := { r := true, skipSet := true, skip := ["a".toList] } }
    let t : Node := .elem [] "a".toList [] [.elem [] "b".toList [] [], .text "1.5".toList]
    Conv.inDomain d S1 t = true ∧ NamesOkG d S1 ec t = true ∧ ¬ FixedPointAt d S1 ec t := by
  refine ⟨by decide +kernel, by decide +kernel, ?_⟩
  rw [← fpCheck_iff]; decide +kernel

/-- `Sym.seq` — tag sequence numbers: `<a><b/></a>` decodes to `{"b": {"_seq": 0, "#text": ""}}`;
    re-encoded, `_seq` is a child element and is numbered itself. -/
example :
    let d : DecCfg := { seqNum := true }
    let t : Node := .elem [] "a".toList [] [.elem [] "b".toList [] []]
    Conv.inDomain d S1 t = true ∧ NamesOkG d S1 ec t = true ∧ ¬ FixedPointAt d S1 ec t := by
  refine ⟨by decide +kernel, by decide +kernel, ?_⟩
  rw [← fpCheck_iff]; decide +kernel

/-- `Sym.esc` — decoder-side escaping: the text `x<y` of `<a>x&lt;y</a>` decodes to "x&lt;y",
    which is written and decoded again as "x&amp;lt;y". -/
example :
    let d : DecCfg := { escDec := true }
    let t : Node := .elem [] "a".toList [] [.text "x<y".toList]
    Conv.inDomain d S1 t = true ∧ NamesOkG d S1 ec t = true ∧ ¬ FixedPointAt d S1 ec t := by
  refine ⟨by decide +kernel, by decide +kernel, ?_⟩
  rw [← fpCheck_iff]; decide +kernel

/-- `Sym.pfx` / `Sym.txt` — the two sides must agree: decoding with prefix "@" and encoding with
    the default "-" turns the attribute into a child element, whose value is then trimmed. -/
example :
    let d : DecCfg := { attrPrefix := "@".toList }
    let t : Node := .elem [] "a".toList [⟨[], "x".toList, " 1 ".toList⟩] []
    Conv.inDomain d S1 t = true ∧ ¬ FixedPointAt d S1 ec t := by
  refine ⟨by decide +kernel, ?_⟩
  rw [← fpCheck_iff]; decide +kernel
example :
    let d : DecCfg := { textK := "_t".toList, asMap := true }
    let t : Node := .elem [] "a".toList [] [.text "w".toList]
    Conv.inDomain d S1 t = true ∧ NamesOkG d S1 ec t = true ∧ ¬ FixedPointAt d S1 ec t := by
  refine ⟨by decide +kernel, by decide +kernel, ?_⟩
  rw [← fpCheck_iff]; decide +kernel

/-- `NamesOkG`, attributes — an attribute whose (folded) local name is empty decodes to the key
    that is just the prefix, which the encoder takes for a child element; its value is then
    trimmed: `<a ="" 1 "">`-style tree, keep-spaces off.  The same happens for EVERY attribute
    when the prefix is empty (`isAttrK_of_empty_prefix`): -/
example :
    let t : Node := .elem [] "a".toList [⟨[], [], " 1 ".toList⟩] []
    Conv.inDomain { asMap := true } S1 t = true ∧ NamesOkG { asMap := true } S1 ec t = false
      ∧ ¬ FixedPointAt { asMap := true } S1 ec t := by
  refine ⟨by decide +kernel, by decide +kernel, ?_⟩
  rw [← fpCheck_iff]; decide +kernel
example :
    let d : DecCfg := { attrPrefix := [] }
    let e : EncCfg := { attrPrefix := [], escape := true }
    let t : Node := .elem [] "a".toList [⟨[], "x".toList, " 1 ".toList⟩] []
    Conv.inDomain d S1 t = true ∧ NamesOkG d S1 e t = false ∧ ¬ FixedPointAt d S1 e t := by
  refine ⟨by decide +kernel, by decide +kernel, ?_⟩
  rw [← fpCheck_iff]; decide +kernel

/-- `NamesOkG`, elements — a child element whose key properly extends the prefix is taken for an
    attribute by the encoder, which rejects its Map value: `<a><Ax><c/></Ax></a>` with prefix
    "a" and lower-cased keys (the name itself does not begin with the prefix; its key does). -/
example :
    let d : DecCfg := { attrPrefix := "a".toList, lowerCase := true }
    let e : EncCfg := { attrPrefix := "a".toList, escape := true }
    let t : Node := .elem [] "r".toList [] [.elem [] "Ax".toList [] [.elem [] "c".toList [] []]]
    Conv.inDomain d S1 t = true ∧ NamesOkG d S1 e t = false ∧ ¬ FixedPointAt d S1 e t := by
  refine ⟨by decide +kernel, by decide +kernel, ?_⟩
  rw [← fpCheck_iff]; decide +kernel

/-- `Conv.inDomain` (the C01 domain) — a child element whose key is the text key:
    `<a><#text k="1"/></a>` decodes to `{"#text": {"-k": "1"}}`, which the encoder rejects (a Map
    under the text key).  (The other half of the domain, at most one text run per element, is
    what makes `Conv.value` the decoder's result — C01; the proof here does not use it.) -/
example :
    let t : Node := .elem [] "a".toList [] [.elem [] "#text".toList [⟨[], "k".toList, "1".toList⟩] []]
    Conv.inDomain { keepSpace := true } S1 t = false ∧ NamesOkG { keepSpace := true } S1 ec t = true
      ∧ ¬ FixedPointAt { keepSpace := true } S1 ec t := by
  refine ⟨by decide +kernel, by decide +kernel, ?_⟩
  rw [← fpCheck_iff]; decide +kernel

/-- `FoldLaw` / `LowerLaw.idem` — a lower-casing that is not idempotent (here: it prepends "x"):
    `<a/>` decodes to the key "xa", the re-encoded `<xa/>` to "xxa". -/
example :
    let S : Strconv := { S1 with lower := fun s => 'x' :: s }
    let t : Node := .elem [] "a".toList [] []
    Conv.inDomain { lowerCase := true } S t = true ∧ NamesOkG { lowerCase := true } S ec t = true
      ∧ ¬ FixedPointAt { lowerCase := true } S ec t := by
  refine ⟨by decide +kernel, by decide +kernel, ?_⟩
  rw [← fpCheck_iff]; decide +kernel

/-- `LeafLaw` / `FloatLaw.reparse` — a float parser whose `%v` text does not parse back to the
    same float ("1" ↦ 2, "2" ↦ 3): `<a>1</a>` decodes to 2, the re-encoded `<a>2</a>` to 3. -/
example :
    let S : Strconv := { S1 with parseFloat := fun s =>
      if s = "1".toList then some ("f:2".toList, false)
      else if s = "2".toList then some ("f:3".toList, false) else none }
    let t : Node := .elem [] "a".toList [] [.text "1".toList]
    Conv.inDomain { cast := { r := true } } S t = true
      ∧ NamesOkG { cast := { r := true } } S ec t = true
      ∧ ¬ FixedPointAt { cast := { r := true } } S ec t := by
  refine ⟨by decide +kernel, by decide +kernel, ?_⟩
  rw [← fpCheck_iff]; decide +kernel

/-- integer casting (`CastCfg.toInt`) is asymmetric even for a lawful float parser:
    "1.0" is not an integer, so it is cast to the float 1, written "1", which IS an integer.
    (`S` below satisfies the float laws on these texts: "1.0" ↦ 1, "1" ↦ 1, `%v` text "1".) -/
example :
    let S : Strconv := { S1 with
      parseInt := fun s => if s = "1".toList then some "i:1".toList else none
      parseFloat := fun s =>
        if s = "1.0".toList ∨ s = "1".toList then some ("f:1".toList, false) else none }
    let d : DecCfg := { cast := { r := true, toInt := true } }
    let t : Node := .elem [] "a".toList [] [.text "1.0".toList]
    Conv.inDomain d S t = true ∧ NamesOkG d S ec t = true ∧ ¬ FixedPointAt d S ec t := by
  refine ⟨by decide +kernel, by decide +kernel, ?_⟩
  rw [← fpCheck_iff]; decide +kernel
end Mxj.C02
