/-
  Mxj.Props.C13ExtBulk — the JSON bulk handler `HandleJsonReader(rdr, mapHandler, errHandler)`
  with BOTH handlers.

  Model: Mxj.Model.Bulk — `BulkRes` (Maps handed to the map handler in order, number of
  error-handler calls, whether an error was returned) and
  `handleJson cont fuel budget sched acc errs`, the Go loop over `getJson` + `newMapJson`:
    * `cont`    the error handler's answer: `false` = the first error is returned
                (`failed = true`), `true` = the loop goes on behind the bytes the failed round
                consumed;
    * `budget`  the map handler returns `false` on its `budget`-th call; `budget = 0` is the
                handler that NEVER stops (`spend`);
    * `fuel`    rounds the model may run; `sched.length + 1` always suffice
                (`C13_bulk_fuel_enough`), running out is reported as `failed = true`.
  Every non-EOF error of a round goes to the error handler: the scanner errors
  `.noClose`/`.stray`/`.ioerr` of `getJson` as well as a scanned object that does not decode.

  Streams are written as in C19: `sepText docs` = each document `d` as the separator text `d.1`
  (any characters except braces and quotes — JSON white space in particular) followed by the
  model's compact encoding of the JSON-shaped Map `d.2`.  A "balanced but invalid" text is a text
  `bad` whose scanner extent is all of it (`getJson (plain bad) {} = (.doc raw, [])`; for texts of
  the generative grammar of C13 this is `C13_getjson_extent`, see `C13_bulk_balanced_extent`)
  and whose scanned form does not decode (`newMapJson raw = none`).

  The four situations the docstrings below refer to by letter:
    (a) every document decodes;
    (b) k documents, then a balanced but invalid text, error handler answers `false`;
    (c) the same, error handler answers `true`, more documents follow;
    (d) the map handler returns `false` on its `b`-th call.

  Helper lemmas live in Mxj.Lemmas.Bulk (namespace `Mxj.Files`).  Property theorems and
  non-vacuity examples only.
-/
import Mxj.Lemmas.Bulk
import Mxj.Props.C13
import Mxj.Props.C19
namespace Mxj.C13
open Mxj Mxj.Stream Mxj.Json Mxj.Files

/-- on ANY schedule on which the file loop `NewMapsFromJsonFile` ends without error, the bulk
    handler with a map handler that never stops (budget 0) hands over exactly the Maps the file
    loop returns, never calls the error handler and returns no error — for both answers `cont`
    of the error handler -/
theorem C13_bulk_no_error_general (cont : Bool) (f : Nat) (s : Sched) (acc : List Val) (e : Nat)
    (h : (readMapsJson f s acc).failed = false) :
    handleJson cont f 0 s acc e = ⟨(readMapsJson f s acc).maps, e, false⟩ :=
  handleJson_of_readMapsJson_ok cont f s acc e h

/-- (a) a stream on which every item decodes — JSON-shaped Maps written with the model's encoder,
    separated and followed by arbitrary skippable text: the bulk handler with a map handler that
    never stops hands over exactly the Maps `readMapsJson` returns (which are the normal forms of
    the written Maps, in order), `errs = 0`, `failed = false`; `cont` does not matter -/
theorem C13_bulk_no_error_is_file_loop (cont : Bool) (docs : List (Str × Entries))
    (hlead : ∀ d ∈ docs, ∀ c ∈ d.1, c ≠ '{' ∧ c ≠ '}' ∧ c ≠ '"')
    (hms : ∀ d ∈ docs, JsonShaped (.map d.2) = true)
    (trail : Str) (htrail : ∀ c ∈ trail, c ≠ '{' ∧ c ≠ '}' ∧ c ≠ '"')
    (f : Nat) (hf : docs.length < f) :
    handleJson cont f 0 (plain (sepText docs ++ trail)) [] 0
        = ⟨(readMapsJson f (plain (sepText docs ++ trail)) []).maps, 0, false⟩ ∧
      readMapsJson f (plain (sepText docs ++ trail)) []
        = ⟨docs.map (fun d => Val.norm (.map d.2)), false⟩ := by
  have h := C19.C19_json_file_separated docs hlead hms trail htrail f hf
  exact ⟨handleJson_of_readMapsJson_ok cont f _ [] 0 (by rw [h]), h⟩

/-- … spelled out: the Maps handed over are the normal forms of the written Maps, in order -/
theorem C13_bulk_no_error_maps (cont : Bool) (docs : List (Str × Entries))
    (hlead : ∀ d ∈ docs, ∀ c ∈ d.1, c ≠ '{' ∧ c ≠ '}' ∧ c ≠ '"')
    (hms : ∀ d ∈ docs, JsonShaped (.map d.2) = true)
    (trail : Str) (htrail : ∀ c ∈ trail, c ≠ '{' ∧ c ≠ '}' ∧ c ≠ '"')
    (f : Nat) (hf : docs.length < f) :
    handleJson cont f 0 (plain (sepText docs ++ trail)) [] 0
      = ⟨docs.map (fun d => Val.norm (.map d.2)), 0, false⟩ := by
  obtain ⟨h1, h2⟩ := C13_bulk_no_error_is_file_loop cont docs hlead hms trail htrail f hf
  rw [h1, h2]

/-- … and for what `Maps.JsonFile` writes (C19): the bulk handler sees every written Map -/
theorem C13_bulk_json_file (cont : Bool) (ms : List Entries)
    (hms : ∀ m ∈ ms, JsonShaped (.map m) = true) (f : Nat) (hf : ms.length < f) :
    handleJson cont f 0 (plain (jsonString (ms.map Val.map))) [] 0
      = ⟨ms.map (fun m => Val.norm (.map m)), 0, false⟩ := by
  have h := C19.C19_json_file ms hms f hf
  rw [handleJson_of_readMapsJson_ok cont f _ [] 0 (by rw [h]), h]

/-- a text of the generative grammar of C13 (an object, strings may hold anything) after
    skippable characters is balanced: its scanner extent is the whole text (this is
    `C13_getjson_extent` with nothing behind the object) -/
theorem C13_bulk_balanced_extent (lead : Str) (hlead : ∀ c ∈ lead, c ≠ '{' ∧ c ≠ '}' ∧ c ≠ '"')
    (items : List Item) :
    getJson (plain (lead ++ flat (.obj items))) {} = (.doc (flatNoWs (.obj items)), []) := by
  have h := C13_getjson_extent lead hlead items []
  rwa [List.append_nil, plain_nil] at h

/-- after `k` well-formed documents, a round that errs — the scanner fails ("no closing }", a
    stray closing brace, an I/O error: any result that is neither a document nor io.EOF) or the
    document it hands over does not decode — is one error-handler call; `cont = false` ends the
    loop with the error, `cont = true` resumes with exactly what the scanner left unread -/
theorem C13_bulk_scanner_error (cont : Bool) (docs : List (Str × Entries))
    (hlead : ∀ d ∈ docs, ∀ c ∈ d.1, c ≠ '{' ∧ c ≠ '}' ∧ c ≠ '"')
    (hms : ∀ d ∈ docs, JsonShaped (.map d.2) = true)
    (s rest : Sched) (r : JRes) (h : getJson s {} = (r, rest))
    (hdoc : ∀ raw, r = .doc raw → newMapJson raw = none) (heof : ∀ raw, r ≠ .eof raw)
    (g b : Nat) (hb : b = 0 ∨ docs.length < b) :
    handleJson cont (docs.length + (g + 1)) b (plain (sepText docs) ++ s) [] 0
      = if cont then
          handleJson true g (b - docs.length) rest
            (docs.map (fun d => Val.norm (.map d.2))).reverse 1
        else ⟨docs.map (fun d => Val.norm (.map d.2)), 1, true⟩ := by
  rw [handleJson_docs cont docs hlead hms, if_pos hb, handleJson_err cont g _ h hdoc heof]
  cases cont <;> simp

/-- after `k` well-formed documents, a balanced text that does not decode, followed by ANY
    schedule `s`: one error-handler call; with `cont = false` that is the end, with
    `cont = true` the loop resumes exactly behind the closing brace of the bad text (with `s`),
    the Maps of the `k` documents handed over and what is left of the budget -/
theorem C13_bulk_error_resumes (cont : Bool) (docs : List (Str × Entries))
    (hlead : ∀ d ∈ docs, ∀ c ∈ d.1, c ≠ '{' ∧ c ≠ '}' ∧ c ≠ '"')
    (hms : ∀ d ∈ docs, JsonShaped (.map d.2) = true)
    (bad raw : Str) (hext : getJson (plain bad) {} = (.doc raw, []))
    (hbad : newMapJson raw = none) (s : Sched)
    (g b : Nat) (hb : b = 0 ∨ docs.length < b) :
    handleJson cont (docs.length + (g + 1)) b (plain (sepText docs ++ bad) ++ s) [] 0
      = if cont then
          handleJson true g (b - docs.length) s (docs.map (fun d => Val.norm (.map d.2))).reverse 1
        else ⟨docs.map (fun d => Val.norm (.map d.2)), 1, true⟩ := by
  rw [plain_append, List.append_assoc]
  exact C13_bulk_scanner_error cont docs hlead hms _ s _ (Scans.of_plain hext s)
    (fun _ h => by cases h; exact hbad) nofun g b hb

/-- (b) well-formed documents d1..dk, then a balanced but invalid object text, then anything:
    with an error handler that answers `false` the Maps of d1..dk were handed over, the error
    handler was called once and the error is returned.  (Budget: never stops, or more than k.) -/
theorem C13_bulk_error_stops (docs : List (Str × Entries))
    (hlead : ∀ d ∈ docs, ∀ c ∈ d.1, c ≠ '{' ∧ c ≠ '}' ∧ c ≠ '"')
    (hms : ∀ d ∈ docs, JsonShaped (.map d.2) = true)
    (bad raw : Str) (hext : getJson (plain bad) {} = (.doc raw, []))
    (hbad : newMapJson raw = none) (s : Sched)
    (f b : Nat) (hb : b = 0 ∨ docs.length < b) (hf : docs.length < f) :
    handleJson false f b (plain (sepText docs ++ bad) ++ s) [] 0
      = ⟨docs.map (fun d => Val.norm (.map d.2)), 1, true⟩ := by
  obtain ⟨g, rfl⟩ := Nat.exists_eq_add_of_lt hf
  rw [Nat.add_assoc, C13_bulk_error_resumes false docs hlead hms bad raw hext hbad s g b hb]
  rfl

/-- (c) the same stream continued by well-formed documents e1..em and the end of the stream: with
    an error handler that answers `true` (and a map handler that never stops, or has budget for
    all k + m Maps) the Maps of d1..dk and e1..em were handed over, in order, the error handler
    was called once, and no error is returned -/
theorem C13_bulk_error_continues (docs : List (Str × Entries))
    (hlead : ∀ d ∈ docs, ∀ c ∈ d.1, c ≠ '{' ∧ c ≠ '}' ∧ c ≠ '"')
    (hms : ∀ d ∈ docs, JsonShaped (.map d.2) = true)
    (bad raw : Str) (hext : getJson (plain bad) {} = (.doc raw, []))
    (hbad : newMapJson raw = none)
    (docs2 : List (Str × Entries))
    (hlead2 : ∀ d ∈ docs2, ∀ c ∈ d.1, c ≠ '{' ∧ c ≠ '}' ∧ c ≠ '"')
    (hms2 : ∀ d ∈ docs2, JsonShaped (.map d.2) = true)
    (trail : Str) (htrail : ∀ c ∈ trail, c ≠ '{' ∧ c ≠ '}' ∧ c ≠ '"')
    (f b : Nat) (hb : b = 0 ∨ docs.length + docs2.length < b)
    (hf : docs.length + docs2.length + 1 < f) :
    handleJson true f b (plain (sepText docs ++ bad ++ sepText docs2 ++ trail)) [] 0
      = ⟨docs.map (fun d => Val.norm (.map d.2)) ++ docs2.map (fun d => Val.norm (.map d.2)),
          1, false⟩ := by
  obtain ⟨g, rfl⟩ : ∃ g, f = docs.length + ((docs2.length + (g + 1)) + 1) :=
    ⟨f - docs.length - docs2.length - 2, by omega⟩
  -- the reads of `trail`, then those of `docs2`, split off: what follows `bad` is one schedule
  rw [plain_append, plain_append, List.append_assoc, C13_bulk_error_resumes true docs hlead hms bad raw hext hbad _ _ b (by omega),
    if_pos rfl,
    handleJson_docs true docs2 hlead2 hms2, if_pos (by omega),
    handleJson_trail true trail htrail]
  simp

/-- (d) with a budget `1 ≤ b ≤ k` the map handler sees exactly the first `b` Maps and nothing
    behind the `b`-th document is looked at: the result is the same whatever schedule `s` follows
    the documents (and only the first `b` documents matter — take `docs` of length `b`; `s` may
    then hold garbage, errors, anything).  No error-handler call, no error; `cont` is
    irrelevant.  Budget 0 is the handler that never stops, hence `1 ≤ b`; in Go the handler
    cannot stop the loop before it has been called once. -/
theorem C13_bulk_handler_stop (cont : Bool) (docs : List (Str × Entries))
    (hlead : ∀ d ∈ docs, ∀ c ∈ d.1, c ≠ '{' ∧ c ≠ '}' ∧ c ≠ '"')
    (hms : ∀ d ∈ docs, JsonShaped (.map d.2) = true)
    (b : Nat) (hb1 : 1 ≤ b) (hb : b ≤ docs.length) (s : Sched) (f : Nat) (hf : b ≤ f) :
    handleJson cont f b (plain (sepText docs) ++ s) [] 0
      = ⟨(docs.take b).map (fun d => Val.norm (.map d.2)), 0, false⟩ := by
  have h := handleJson_stop cont docs hlead hms f b s [] 0 hb1 hb hf
  simpa using h

/-- … explicitly: the rest of the stream and the error handler's answer do not matter -/
theorem C13_bulk_handler_stop_independent (cont cont' : Bool) (docs : List (Str × Entries))
    (hlead : ∀ d ∈ docs, ∀ c ∈ d.1, c ≠ '{' ∧ c ≠ '}' ∧ c ≠ '"')
    (hms : ∀ d ∈ docs, JsonShaped (.map d.2) = true)
    (b : Nat) (hb1 : 1 ≤ b) (hb : b ≤ docs.length) (s s' : Sched) (f : Nat) (hf : b ≤ f) :
    handleJson cont f b (plain (sepText docs) ++ s) [] 0
      = handleJson cont' f b (plain (sepText docs) ++ s') [] 0 := by
  rw [C13_bulk_handler_stop cont docs hlead hms b hb1 hb s f hf,
    C13_bulk_handler_stop cont' docs hlead hms b hb1 hb s' f hf]

/-- a failing read after `k` documents: reported, and (with `cont = true`) the loop goes on with
    the reads after it -/
theorem C13_bulk_io_error (cont : Bool) (docs : List (Str × Entries))
    (hlead : ∀ d ∈ docs, ∀ c ∈ d.1, c ≠ '{' ∧ c ≠ '}' ∧ c ≠ '"')
    (hms : ∀ d ∈ docs, JsonShaped (.map d.2) = true) (s : Sched)
    (g b : Nat) (hb : b = 0 ∨ docs.length < b) :
    handleJson cont (docs.length + (g + 1)) b (plain (sepText docs) ++ Rd.fail :: s) [] 0
      = if cont then
          handleJson true g (b - docs.length) s
            (docs.map (fun d => Val.norm (.map d.2))).reverse 1
        else ⟨docs.map (fun d => Val.norm (.map d.2)), 1, true⟩ :=
  C13_bulk_scanner_error cont docs hlead hms (Rd.fail :: s) s (.ioerr []) (getJson_fail s {})
    nofun nofun g b hb

/-- a stray closing brace after `k` documents: reported, the brace is consumed, and (with
    `cont = true`) the loop goes on right behind it -/
theorem C13_bulk_stray_brace (cont : Bool) (docs : List (Str × Entries))
    (hlead : ∀ d ∈ docs, ∀ c ∈ d.1, c ≠ '{' ∧ c ≠ '}' ∧ c ≠ '"')
    (hms : ∀ d ∈ docs, JsonShaped (.map d.2) = true) (s : Sched)
    (g b : Nat) (hb : b = 0 ∨ docs.length < b) :
    handleJson cont (docs.length + (g + 1)) b
        (plain (sepText docs) ++ Rd.byte '}' false :: s) [] 0
      = if cont then
          handleJson true g (b - docs.length) s
            (docs.map (fun d => Val.norm (.map d.2))).reverse 1
        else ⟨docs.map (fun d => Val.norm (.map d.2)), 1, true⟩ :=
  C13_bulk_scanner_error cont docs hlead hms (Rd.byte '}' false :: s) s (.stray [])
    (by rw [getJson_byte]; rfl) nofun nofun g b hb

/-- the fuel is only a device of the model: with more fuel than reads in the schedule the result
    does not depend on it (every round that does not end the loop consumes at least one read) -/
theorem C13_bulk_fuel_enough (cont : Bool) (f g b : Nat) (s : Sched) (acc : List Val) (e : Nat)
    (hf : s.length < f) (hg : s.length < g) :
    handleJson cont f b s acc e = handleJson cont g b s acc e :=
  handleJson_fuel cont f g b s acc e hf hg

/-- the stream `{"a":1} {"zbad":} {"d":2}` -/
def exBulk : Str := "{\"a\":1} {\"zbad\":} {\"d\":2}".toList

def exD : List (Str × Entries) := [([], [("a".toList, .num "jn:1".toList)])]
def exE : List (Str × Entries) := [([' '], [("d".toList, .num "jn:2".toList)])]
def exBad : Str := " {\"zbad\":}".toList
def exRaw : Str := "{\"zbad\":}".toList

/-- the stream is of the shape of (b) and (c): d1, a balanced text that does not decode, e1 -/
example : sepText exD ++ exBad ++ sepText exE ++ [] = exBulk := by
  -- the kernel unfolds `String.toList` of a literal through the UTF-8 decoding of its bytes, at a
  -- cost quadratic in its length: a long literal is first turned into its list of characters
  unfold exBulk
  repeat rw [String.toList_ofList]
  decide +kernel

/-- the hypotheses on the documents hold … -/
theorem C13_bulk_ex_before_ok : (∀ d ∈ exD, ∀ c ∈ d.1, c ≠ '{' ∧ c ≠ '}' ∧ c ≠ '"') ∧
    (∀ d ∈ exD, JsonShaped (.map d.2) = true) := by decide +kernel
theorem C13_bulk_ex_after_ok : (∀ d ∈ exE, ∀ c ∈ d.1, c ≠ '{' ∧ c ≠ '}' ∧ c ≠ '"') ∧
    (∀ d ∈ exE, JsonShaped (.map d.2) = true) := by decide +kernel
theorem C13_bulk_ex_all_ok : (∀ d ∈ exD ++ exE, ∀ c ∈ d.1, c ≠ '{' ∧ c ≠ '}' ∧ c ≠ '"') ∧
    (∀ d ∈ exD ++ exE, JsonShaped (.map d.2) = true) := by decide +kernel

/-- … and those on the bad text: its scanner extent is the whole text, and it does not decode -/
theorem C13_bulk_ex_bad_ok :
    getJson (plain exBad) {} = (.doc exRaw, []) ∧ newMapJson exRaw = none := by
  unfold exBad exRaw
  repeat rw [String.toList_ofList]
  decide +kernel

/-- the bad text is balanced also in the sense of the grammar of C13 -/
example : exBad = [' '] ++ flat (.obj [.str [.plain 'z' (by decide), .plain 'b' (by decide),
      .plain 'a' (by decide), .plain 'd' (by decide)], .ch ':' (by decide)]) := by decide +kernel

/-- the decodings of d1 and e1 -/
example : exD.map (fun d => Val.norm (.map d.2)) = [.map [("a".toList, .num "jn:1".toList)]] ∧
    exE.map (fun d => Val.norm (.map d.2)) = [.map [("d".toList, .num "jn:2".toList)]] := by
  decide +kernel

/-- (b) by the theorem: `cont = false` -/
example : handleJson false 30 0 (plain (sepText exD ++ exBad) ++ plain (sepText exE)) [] 0
    = ⟨exD.map (fun d => Val.norm (.map d.2)), 1, true⟩ :=
  C13_bulk_error_stops exD C13_bulk_ex_before_ok.1 C13_bulk_ex_before_ok.2
    exBad exRaw C13_bulk_ex_bad_ok.1 C13_bulk_ex_bad_ok.2
    (plain (sepText exE)) 30 0 (Or.inl rfl) (by decide +kernel)

/-- (c) by the theorem: `cont = true` -/
example : handleJson true 30 0 (plain (sepText exD ++ exBad ++ sepText exE ++ [])) [] 0
    = ⟨exD.map (fun d => Val.norm (.map d.2)) ++ exE.map (fun d => Val.norm (.map d.2)),
        1, false⟩ :=
  C13_bulk_error_continues exD C13_bulk_ex_before_ok.1 C13_bulk_ex_before_ok.2
    exBad exRaw C13_bulk_ex_bad_ok.1 C13_bulk_ex_bad_ok.2
    exE C13_bulk_ex_after_ok.1 C13_bulk_ex_after_ok.2 [] (by decide +kernel) 30 0 (Or.inl rfl) (by decide +kernel)

/-- … and by evaluating the model on the bytes, in both modes -/
example : handleJson false 30 0 (plain exBulk) [] 0
    = ⟨[.map [("a".toList, .num "jn:1".toList)]], 1, true⟩ := by
  unfold exBulk
  repeat rw [String.toList_ofList]
  decide +kernel

example : handleJson true 30 0 (plain exBulk) [] 0
    = ⟨[.map [("a".toList, .num "jn:1".toList)], .map [("d".toList, .num "jn:2".toList)]],
        1, false⟩ := by
  unfold exBulk
  repeat rw [String.toList_ofList]
  decide +kernel

/-- (d): budget 1 on the same stream — the handler sees `{"a":1}` only and the bad text is never
    looked at (no error-handler call) -/
example : handleJson true 30 1 (plain exBulk) [] 0
    = ⟨[.map [("a".toList, .num "jn:1".toList)]], 0, false⟩ := by
  unfold exBulk
  repeat rw [String.toList_ofList]
  decide +kernel

example : handleJson false 30 1 (plain (sepText exD) ++ plain (exBad ++ sepText exE)) [] 0
    = ⟨(exD.take 1).map (fun d => Val.norm (.map d.2)), 0, false⟩ :=
  C13_bulk_handler_stop false exD C13_bulk_ex_before_ok.1 C13_bulk_ex_before_ok.2 1 (by decide +kernel)
    (by decide +kernel) _ 30 (by decide +kernel)

/-- budget 2 with `cont = true`: the second Map handed over is the one BEHIND the bad text, and
    the third document is not looked at -/
example : handleJson true 30 2 (plain (exBulk ++ " {\"e\":3}".toList)) [] 0
    = ⟨[.map [("a".toList, .num "jn:1".toList)], .map [("d".toList, .num "jn:2".toList)]],
        1, false⟩ := by
  unfold exBulk
  repeat rw [String.toList_ofList]
  decide +kernel

/-- (a) on a stream without errors, both modes, by the theorem -/
example (cont : Bool) : handleJson cont 30 0 (plain (sepText (exD ++ exE) ++ ['\n'])) [] 0
    = ⟨(exD ++ exE).map (fun d => Val.norm (.map d.2)), 0, false⟩ :=
  C13_bulk_no_error_maps cont (exD ++ exE) C13_bulk_ex_all_ok.1 C13_bulk_ex_all_ok.2 ['\n']
    (by decide +kernel) 30 (by decide +kernel)

/-- scanner errors are counted like decoder errors: a stray brace, the bad object, an object
    that is never closed — three error-handler calls, two Maps, no error returned -/
example : handleJson true 40 0 (plain "{\"a\":1} } {\"zbad\":} {\"d\":2} {".toList) [] 0
    = ⟨[.map [("a".toList, .num "jn:1".toList)], .map [("d".toList, .num "jn:2".toList)]],
        3, false⟩ := by
  repeat rw [String.toList_ofList]
  decide +kernel

/-- … and with `cont = false` the first of them ends the loop -/
example : handleJson false 40 0 (plain "{\"a\":1} } {\"zbad\":} {\"d\":2} {".toList) [] 0
    = ⟨[.map [("a".toList, .num "jn:1".toList)]], 1, true⟩ := by
  repeat rw [String.toList_ofList]
  decide +kernel

/-- the fuel bound of (b): with exactly `k` rounds the model runs out of fuel before it sees the
    bad text (reported as `failed` with no error-handler call) -/
example : handleJson false 1 0 (plain exBulk) [] 0
    = ⟨[.map [("a".toList, .num "jn:1".toList)]], 0, true⟩ := by
  unfold exBulk
  repeat rw [String.toList_ofList]
  decide +kernel

end Mxj.C13
