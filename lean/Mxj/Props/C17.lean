/-
  Mxj.Props.C17 — "Queries and encoders never modify package state" (facts part).

  The extractor lists, for every function of the package, the package-level variables it assigns
  and its static callees (`Generated.funcFacts`; methods resolved by name to every receiver: an
  over-approximation), and for the read-only operations `Generated.queryRoots` a closure
  certificate `Generated.queryRootsClosure`.  Lean checks that the certificate is closed under
  the callee relation, contains the roots and that none of its members assigns a package-level
  variable (`Facts.query_cert`); `Facts.of_cert` lifts this to everything reachable.  (The
  receiver-immutability clause of C17 is checked dynamically by the harness.)

  `Map.Copy` is `Json()` followed by `NewMapJson`: `copy` below composes the two models, and
  `C17_copy_equal` says that the result is the original Map (as a value: entry order aside) for
  every JSON-shaped Map.  Values are immutable in the model, so "shares no mutable structure"
  has no counterpart here; the harness scribbles over the copy instead.
-/
import Mxj.Lemmas.QueryFrame
import Mxj.Generated.Facts
import Mxj.Lemmas.Json
import Mxj.Lemmas.Conc
namespace Mxj.C17
open Mxj

/-- `mv.Copy()`: encode as JSON, decode again (mxj.go) -/
def copy (m : Entries) : Option Val := Json.newMapJson (Json.mapJson false (.map m))

/-- Copy returns a Map equal to the original, for every Map in the JSON domain -/
theorem C17_copy_equal (m : Entries) (hm : Json.JsonShaped (.map m) = true) :
    ∃ r, copy m = some r ∧ r ≈ᵥ .map m :=
  ⟨_, Json.newMapJson_mapJson false m hm, Json.norm_idem (.map m) hm⟩

/-- … exactly: the copy is the normal form of the original (entries sorted by key at every level) -/
theorem C17_copy_exact (m : Entries) (hm : Json.JsonShaped (.map m) = true) :
    copy m = some (Val.norm (.map m)) := Json.newMapJson_mapJson false m hm

example : ∃ r, copy [(['b'], .str ['}']), (['a'], .list [.bool true, .map []])] = some r ∧
    r ≈ᵥ .map [(['b'], .str ['}']), (['a'], .list [.bool true, .map []])] :=
  C17_copy_equal _ (by decide +kernel)

/-- the certificate itself: closed under static calls … -/
theorem C17_query_closure_closed : Facts.closed Generated.queryRootsClosure = true :=
  (Facts.cert_iff.1 Facts.query_cert).1

/-- … and contains the roots -/
theorem C17_query_roots_in_closure :
    Generated.queryRoots.all (Generated.queryRootsClosure.contains ·) = true :=
  (Facts.cert_iff.1 Facts.query_cert).2.1

/-- no member of the certificate assigns a package-level variable -/
theorem C17_query_closure_no_writes : Facts.noneWrites Generated.queryRootsClosure = true :=
  Facts.noneWrites_of_frame (Facts.cert_iff.1 Facts.query_cert).2.2

/-- no read-only operation, nor anything it can reach through static calls, assigns a
    package-level variable -/
theorem C17_readonly_no_global_write (root g : String) (hr : root ∈ Generated.queryRoots)
    (h : Facts.Reach root g) : Facts.writesOf g = [] :=
  Facts.writes_of_frame Facts.query_cert hr h

/-- in particular none of them is one of the functions the extractor found assigning a global -/
theorem C17_readonly_not_a_writer :
    Generated.queryRootsClosure.all
      (fun f => !(Generated.globalWriters.map (·.1)).contains f) = true := by decide +kernel

/-- the root set is not vacuous: the extractor drops a root it does not find in the source; at least
    25 are left (of the 56 names extract/main.go asks for; the bound itself is arbitrary) -/
theorem C17_query_roots_nonempty : 25 ≤ Generated.queryRoots.length := by decide +kernel

/-- every root is a function the extractor actually found in the source (it has a facts row) -/
theorem C17_query_roots_exist :
    Generated.queryRoots.all (fun f => (Facts.factOf f).isSome) = true := by decide +kernel

/-- non-vacuity of the check: the same test applied to a setter fails -/
example : Facts.writesOf "SetFieldSeparator" ≠ [] := by decide +kernel
example : Facts.Reach "Map.Xml" "Map.Xml" := .refl _
example : Facts.writesOf "Map.Xml" = [] :=
  C17_readonly_no_global_write "Map.Xml" "Map.Xml" (by decide +kernel) (.refl _)

/-! ### goroutines over shared read-only state

  The model `Mxj.Model.Conc`: a call in progress is a list of atomic steps, each reading the
  shared state `g` and updating only the call's own local state; a schedule is the order in which
  goroutines take their next step.  That the read-only API has this shape is what
  `C17_readonly_no_global_write` (package variables) and the harness's receiver-immutability
  oracle (the shared Map) establish.  **Partial**: the theorem is about this abstraction, not about
  Go's memory model; the race detector run of the thorough tier is the dynamic counterpart. -/

/-- under EVERY schedule (any length, any order, goroutines starved or not) the result each
    goroutine will have once it has finished is the result of running it alone -/
theorem C17_interleaving_independent {G L : Type} (g : G) (ts : List (Conc.Th G L))
    (schedule : List Nat) :
    (Conc.exec g ts schedule).map (Conc.runTh g) = ts.map (Conc.runTh g) :=
  Conc.exec_results g schedule ts

/-- in particular, once a schedule has run every goroutine to completion, each one holds exactly
    its sequential result -/
theorem C17_concurrent_eq_sequential {G L : Type} (g : G) (ts : List (Conc.Th G L))
    (schedule : List Nat) (hdone : Conc.done (Conc.exec g ts schedule) = true) :
    (Conc.exec g ts schedule).map (·.loc) = ts.map (Conc.runTh g) := by
  rw [← C17_interleaving_independent g ts schedule]
  apply List.map_congr_left
  intro t ht
  have : t.todo.isEmpty = true := by
    unfold Conc.done at hdone
    exact List.all_eq_true.1 hdone t ht
  exact (Conc.runTh_done g t this).symm

/-- non-vacuity: two goroutines of two steps each reading the shared value, interleaved -/
example :
    let t1 : Conc.Th Nat (List Nat) := ⟨[], [fun g l => g :: l, fun g l => (g + 1) :: l]⟩
    let t2 : Conc.Th Nat (List Nat) := ⟨[], [fun g l => (2 * g) :: l, fun _ l => 0 :: l]⟩
    (Conc.exec 7 [t1, t2] [1, 0, 0, 1]).map (·.loc) = [[8, 7], [0, 14]] := by decide +kernel

end Mxj.C17
