/-
  "Encoders are deterministic".

  Go ranges over a map in random order and then `sort.Sort`s attributes and child elements by
  key.  The model (`Mxj.Model.Encode`) normalises the value first (`Val.norm`: the entries of
  every map sorted by key with `sortByKey`) and walks the entries in order.  The theorems:
  `strLe` is a total order and `sortByKey` a sorted permutation, so that for entry lists with
  pairwise distinct keys (every Go map) EVERY iteration order sorts to the same list
  (`C16_sort_unique`); hence maps that differ only in entry order at any depth are `≈ᵥ`
  (`C16_permEq_equiv`) and encode to identical bytes (`C16_perm_invariant`,
  `C16_mapXml_perm_invariant`).
-/
import Mxj.Lemmas.Encode
namespace Mxj.C16
open Mxj Mxj.Enc

theorem C16_strLe_total (a b : Str) : strLe a b = true ∨ strLe b a = true := strLe_total a b

theorem C16_strLe_trans (a b c : Str) (h1 : strLe a b = true) (h2 : strLe b c = true) :
    strLe a c = true := strLe_trans a b c h1 h2

theorem C16_strLe_antisymm (a b : Str) (h1 : strLe a b = true) (h2 : strLe b a = true) : a = b :=
  strLe_antisymm a b h1 h2

/-- `sortByKey` really sorts: the result is a permutation of its input … -/
theorem C16_sortByKey_perm (kvs : Entries) : List.Perm (sortByKey kvs) kvs := sortByKey_perm kvs

/-- … ascending w.r.t. `strLe` -/
theorem C16_sortByKey_sorted (kvs : Entries) :
    List.Pairwise (fun a b => strLe a.1 b.1 = true) (sortByKey kvs) := sortByKey_sorted kvs

/-- with pairwise distinct keys the order is strict: attributes and child elements come out in
    strictly ascending key order -/
theorem C16_sortByKey_strict (kvs : Entries) (hd : distinctKeys kvs = true) :
    List.Pairwise (fun a b => strLe a.1 b.1 = true ∧ a.1 ≠ b.1) (sortByKey kvs) :=
  (sortByKey_sorted kvs).strict (nodup_keys_sortByKey ((distinctKeys_iff_nodup kvs).1 hd))

/-- what Go does — range over the map in ANY order, then sort.Sort by key — equals the model's
    "sort, then walk": for entry lists with pairwise distinct keys every permutation sorts to
    the same list -/
theorem C16_sort_unique (a b : Entries) (hp : List.Perm a b) (hd : distinctKeys a = true) :
    sortByKey a = sortByKey b :=
  sortByKey_congr ((distinctKeys_iff_nodup a).1 hd) hp

/-- normalisation is idempotent on well-formed values (maps with distinct keys).
    The hypothesis is needed: `sortByKey` inserts an entry AFTER the entries with an equal key
    that are already placed, i.e. it reverses runs of equal keys, so on
    `{"a":1,"a":2}` (not a Go map) normalising twice restores the original order. -/
theorem C16_norm_idempotent (v : Val) (hwf : v.wf = true) : v.norm.norm = v.norm := norm_idem v hwf

example :
    let v := Val.map [("a".toList, .num "i:1".toList), ("a".toList, .num "i:2".toList)]
    v.norm.norm ≠ v.norm := by decide +kernel

theorem C16_norm_wf (v : Val) (hwf : v.wf = true) : v.norm.wf = true := wf_norm v hwf

theorem C16_norm_equiv (v : Val) (hwf : v.wf = true) : v.norm ≈ᵥ v := C16_norm_idempotent v hwf

/-- equal Maps however built (any entry order at any depth) give byte-identical XML -/
theorem C16_perm_invariant (cfg : EncCfg) (key : Str) (v w : Val) (h : v ≈ᵥ w) :
    marshal cfg key v = marshal cfg key w :=
  congrArg (marshalN cfg key) h

theorem allMaps_normList (xs : List Val) : allMaps (Val.normList xs) = allMaps xs := by
  simp only [allMaps, normList_eq_map, List.all_map, Function.comp_def, isMap_norm]

/-- does `mv.Xml()` use the single entry as the root? (not for a list with a non-map member) -/
def rootSel : Val → Bool
  | .list xs => allMaps xs
  | _ => true

theorem mapXml_single (cfg : EncCfg) (k : Str) (v : Val) :
    mapXml cfg [(k, v)] none
      = if rootSel v then marshal cfg k v else marshal cfg defaultRootTag (.map [(k, v)]) := by
  cases v <;> rfl

/-- `mv.Xml()` on a one-entry Map whose value is not a list uses the entry as the root -/
theorem mapXml_single_of_not_list (cfg : EncCfg) (k : Str) (v : Val) (h : v.isList = false) :
    mapXml cfg [(k, v)] none = marshal cfg k v := by
  cases v <;> first | rfl | cases h

theorem rootSel_norm (v : Val) : rootSel v.norm = rootSel v := by
  cases v <;> simp [rootSel, Val.norm, allMaps_normList]

/-- the same for `mv.Xml()`: the root selection looks only at the number of entries and at the
    shape (list of maps or not) of a single entry's value, both of which `≈ᵥ` preserves -/
theorem C16_mapXml_perm_invariant (cfg : EncCfg) (m m' : Entries) (rt : Option Str)
    (h : Val.map m ≈ᵥ Val.map m') : mapXml cfg m rt = mapXml cfg m' rt := by
  have hmar : ∀ k, marshal cfg k (.map m) = marshal cfg k (.map m') :=
    fun k => C16_perm_invariant cfg k _ _ h
  cases rt with
  | some r => simp only [mapXml, hmar]
  | none =>
    rcases equiv_map_cases h with ⟨rfl, rfl⟩ | ⟨k, v, v', rfl, rfl, hv⟩ | ⟨_, _, _, _, _, _, rfl, rfl⟩
    · rfl
    · rw [mapXml_single, mapXml_single, ← rootSel_norm v, hv, rootSel_norm v', hmar,
        C16_perm_invariant cfg k v v' hv]
    · simp only [mapXml, hmar]

/-- … in particular when the two entry lists are permutations of each other (distinct keys) -/
theorem C16_mapXml_perm_invariant' (cfg : EncCfg) (m m' : Entries) (rt : Option Str)
    (hp : List.Perm m m') (hd : distinctKeys m = true) : mapXml cfg m rt = mapXml cfg m' rt :=
  C16_mapXml_perm_invariant cfg m m' rt (equiv_map_of_perm hp hd)



mutual
/-- `PermEq v w`: `w` is `v` with the entries of every map, at every depth, listed in some
    other order (what two runs of a Go program that build the same map can differ in) -/
inductive PermEq : Val → Val → Prop
  | refl (v : Val) : PermEq v v
  | list {xs ys : List Val} : PermEqList xs ys → PermEq (.list xs) (.list ys)
  | map {kvs kvs' kvs'' : Entries} : PermEqEntries kvs kvs' → kvs'.Perm kvs'' →
      PermEq (.map kvs) (.map kvs'')
inductive PermEqList : List Val → List Val → Prop
  | nil : PermEqList [] []
  | cons {x y : Val} {xs ys : List Val} : PermEq x y → PermEqList xs ys →
      PermEqList (x :: xs) (y :: ys)
inductive PermEqEntries : Entries → Entries → Prop
  | nil : PermEqEntries [] []
  | cons {k : Str} {x y : Val} {xs ys : Entries} : PermEq x y → PermEqEntries xs ys →
      PermEqEntries ((k, x) :: xs) ((k, y) :: ys)
end

-- one case per rule of the relation; the recursion is on the value, and is named because Lean's
-- search for it (the derivation is a candidate too) costs more than checking the proofs
mutual
theorem PermEq.equiv : ∀ (v w : Val), v.wf = true → PermEq v w → v.norm = w.norm
  | _, _, _, .refl _ => rfl
  | .list xs, _, hwf, .list hl => by
      simp only [Val.wf] at hwf
      simp only [Val.norm, PermEqList.equiv xs _ hwf hl]
  | .map kvs, _, hwf, .map he hp =>
      norm_map_congr (Val.nodup_keys_of_wf hwf)
        ((PermEqEntries.equiv kvs _ ((Val.wf_map kvs).1 hwf).1 he).1 ▸ perm_normEntries hp)
termination_by structural v => v
theorem PermEqList.equiv : ∀ (xs ys : List Val), Val.wfList xs = true → PermEqList xs ys →
    Val.normList xs = Val.normList ys
  | _, _, _, .nil => rfl
  | x :: xs, _, hwf, .cons hx hr => by
      simp only [Val.wfList, Bool.and_eq_true] at hwf
      simp only [Val.normList, PermEq.equiv x _ hwf.1 hx, PermEqList.equiv xs _ hwf.2 hr]
termination_by structural xs => xs
theorem PermEqEntries.equiv : ∀ (xs ys : Entries), Val.wfEntries xs = true → PermEqEntries xs ys →
    Val.normEntries xs = Val.normEntries ys ∧ keys xs = keys ys
  | _, _, _, .nil => ⟨rfl, rfl⟩
  | (k, x) :: xs, _, hwf, .cons hx hr => by
      simp only [Val.wfEntries, Bool.and_eq_true] at hwf
      obtain ⟨h1, h2⟩ := PermEqEntries.equiv xs _ hwf.2 hr
      exact ⟨by simp only [Val.normEntries, PermEq.equiv x _ hwf.1 hx, h1],
        by simp only [keys_cons, h2]⟩
termination_by structural xs => xs
end

/-- the same Map built in any entry order at any depth is `≈ᵥ` … -/
theorem C16_permEq_equiv (v w : Val) (hwf : v.wf = true) (h : PermEq v w) : v ≈ᵥ w :=
  PermEq.equiv v w hwf h

/-- … and therefore encodes to byte-identical XML -/
theorem C16_permEq_invariant (cfg : EncCfg) (key : Str) (v w : Val) (hwf : v.wf = true)
    (h : PermEq v w) : marshal cfg key v = marshal cfg key w :=
  C16_perm_invariant cfg key v w (C16_permEq_equiv v w hwf h)

example :
    let a := Val.map [("b".toList, .num "i:2".toList),
                      ("a".toList, .map [("y".toList, .null), ("x".toList, .bool true)])]
    let b := Val.map [("a".toList, .map [("x".toList, .bool true), ("y".toList, .null)]),
                      ("b".toList, .num "i:2".toList)]
    a ≈ᵥ b ∧ marshal {} "r".toList a = .ok "<r><a><x>true</x><y/></a><b>2</b></r>".toList
      ∧ marshal {} "r".toList b = .ok "<r><a><x>true</x><y/></a><b>2</b></r>".toList := by
  -- the kernel unfolds `String.toList` of a literal through the UTF-8 decoding of its bytes, at a
  -- cost quadratic in its length: a long literal is first turned into its list of characters
  repeat rw [String.toList_ofList]
  decide +kernel

end Mxj.C16
