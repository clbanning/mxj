/-
  Mxj.Props.C19ExtTok — the XML-file theorems of C19ExtXml at BYTE level, with the tokenizer
  model (`Mxj.Tokz.tokenize`, Model/Tokenizer.lean, compared with `encoding/xml` by the harness
  op `xtok` on single documents (C02) and on concatenated multi-document files (C19)) in place of
  the law TB-XML-stop, trusted where C19ExtXml is read as a statement about files ("tokens of the
  concatenated bytes = concatenated tokens, and no read beyond the end tag").

  Hypotheses that remain: the trees the encoder builds are `WellNamed` element trees, encoder
  escaping on (the raw form is `Tokz.cat_render_raw`), separators of blanks / tabs / line feeds.
  Still trusted: the tokens `encoding/xml` delivers BEFORE a syntax error in a truncated file
  (`tokenize` is all-or-nothing; `C19_xml_truncated…` stay at token level), and that the real
  decoder's read-ahead (one byte, through the single-byte adaptor of C13) loses nothing.
-/
import Mxj.Lemmas.TokenizerCat
import Mxj.Props.C19ExtXml
import Mxj.Props.C02ExtTok
namespace Mxj.C19
open Mxj Mxj.Enc Mxj.Dec Mxj.Files Mxj.Tokz

/-! ### tokens of concatenated documents -/

/-- two documents with a white-space separator: the tokens of the first, the separator as one
    run of character data (nothing if it is empty), the tokens of the second -/
theorem C19_tok_two_docs (cfg : EncCfg) (hesc : cfg.escape = true) (a b : Node) (sep : Str)
    (ha : WellNamed a = true) (hb : WellNamed b = true)
    (hea : Files.isElem a = true) (heb : Files.isElem b = true) (hsep : wsOk sep = true) :
    tokenize (render cfg a ++ sep ++ render cfg b)
      = some (flatten a ++ sepToks sep ++ flatten b) := by
  have h1 := cat_render_esc cfg hesc a ha hea
  have h2 := cat_sep_doc sep _ _ hsep (render_elem_lt cfg heb) (cat_render_esc cfg hesc b hb heb)
  have := cat_tokenize (cat_append h1 h2)
  simpa [List.append_assoc] using this

/-- "no read beyond the end tag", model form: whatever tokenizable input follows the document,
    the tokens of the whole are the document's tokens and then the tokens of what follows -/
theorem C19_tok_no_overread (cfg : EncCfg) (hesc : cfg.escape = true) (a : Node)
    (ha : WellNamed a = true) (hea : Files.isElem a = true) (rest : Str) (us : List Tok)
    (hrest : tokenize rest = some us) :
    tokenize (render cfg a ++ rest) = some (flatten a ++ us) :=
  cat_render_esc cfg hesc a ha hea rest us hrest

/-- a whole file: documents `d.2` behind white-space separators `d.1`, white-space trailer -/
theorem C19_tok_file_tokens (cfg : EncCfg) (hesc : cfg.escape = true) (docs : List (Str × Node))
    (hsep : ∀ d ∈ docs, wsOk d.1 = true) (hW : ∀ d ∈ docs, WellNamed d.2 = true)
    (he : ∀ d ∈ docs, Files.isElem d.2 = true) (trail : Str) (htrail : wsOk trail = true) :
    tokenize (xmlDocsBytes cfg docs trail) = some (fileToks (xmlDocsToks docs) (sepToks trail)) :=
  tokenize_xmlDocs_then cfg hesc docs hsep hW he trail _ (tokenize_ws trail htrail)

/-! ### compositionality for arbitrary accepted input -/

/-- the tokenizer model is compositional over concatenation at token boundaries, for ARBITRARY
    input (comments, PIs, CDATA, both quote styles, prefixed names …): if `s` and `t` are accepted
    and the junction is not inside a run of character data (`junctionOk`: the last token of `s`
    is not character data, or `t` is empty or begins with `<`), the tokens of `s ++ t` are those
    of `s` followed by those of `t` -/
theorem C19_tok_cat (s t : Str) (ts us : List Tok) (hs : tokenize s = some ts)
    (ht : tokenize t = some us) (hj : junctionOk ts t = true) :
    tokenize (s ++ t) = some (ts ++ us) :=
  tokenize_append s t ts us hs ht hj

/-- accepted input that ends with a tag, a comment or a processing instruction composes with
    every accepted input -/
theorem C19_tok_cat_closed (s : Str) (ts : List Tok) (hs : tokenize s = some ts)
    (hc : lastIsText ts = false) (t : Str) (us : List Tok) (ht : tokenize t = some us) :
    tokenize (s ++ t) = some (ts ++ us) :=
  cat_of_closed s ts hs hc t us ht

/-- "no read beyond the end tag", step form: one `RawToken` call on input that begins with `<`
    (a start, empty-element or end tag, a comment, a CDATA section, a processing instruction)
    yields the same tokens whatever follows, and leaves exactly the unread rest followed by it;
    `tokF`/`tokenize` are by definition the iteration of `step` -/
theorem C19_tok_step_no_overread (r t : Str) (tk : List Tok) (rest : Str)
    (h : step ('<' :: r) = some (tk, rest)) :
    step ('<' :: (r ++ t)) = some (tk, rest ++ t) :=
  step_append_markup r t tk rest h

/-! ### bytes → tokenizer model → file loop -/

/-- the file written document by document and read back through the tokenizer model and the
    loop of `NewMapsFromXmlFile`: as many Maps as documents, in order, the i-th one `Fold.doc` of
    the i-th tree, and no error -/
theorem C19_tok_file (e : EncCfg) (hesc : e.escape = true) (cfg : DecCfg) (S : Strconv)
    (docs : List (Str × Node))
    (hsep : ∀ d ∈ docs, wsOk d.1 = true) (hW : ∀ d ∈ docs, WellNamed d.2 = true)
    (he : ∀ d ∈ docs, Files.isElem d.2 = true) (trail : Str) (htrail : wsOk trail = true)
    (f : Nat) (hf : docs.length < f) :
    readMapsXml cfg S .eof f (Tokz.tokens (xmlDocsBytes e docs trail)) []
      = ⟨docs.map (fun d => Fold.doc cfg S d.2), false⟩ := by
  unfold Tokz.tokens
  rw [C19_tok_file_tokens e hesc docs hsep hW he trail htrail]
  have hwf := xmlDocsToks_noStart_isElem docs he
  have := C19_xml_file cfg S (xmlDocsToks docs) hwf.1 hwf.2 (sepToks trail) (sepToks_noStart trail)
    f (by simpa [xmlDocsToks] using hf)
  simpa [xmlDocsToks, List.map_map, Function.comp_def] using this

/-- … and the i-th Map read is the Map `NewMapXml` reads from the i-th document's own bytes -/
theorem C19_tok_file_same_as_single (e : EncCfg) (hesc : e.escape = true) (cfg : DecCfg)
    (S : Strconv) (docs : List (Str × Node))
    (hsep : ∀ d ∈ docs, wsOk d.1 = true) (hW : ∀ d ∈ docs, WellNamed d.2 = true)
    (he : ∀ d ∈ docs, Files.isElem d.2 = true) (trail : Str) (htrail : wsOk trail = true)
    (f : Nat) (hf : docs.length < f) :
    ∃ rs, readMapsXml cfg S .eof f (Tokz.tokens (xmlDocsBytes e docs trail)) [] = ⟨rs, false⟩ ∧
      rs.length = docs.length ∧
      ∀ (i : Nat) (h1 : i < rs.length) (h2 : i < docs.length) (fin : StreamEnd),
        newMapXml cfg S (Tokz.tokens (render e docs[i].2)) fin = .ok rs[i] := by
  refine ⟨_, C19_tok_file e hesc cfg S docs hsep hW he trail htrail f hf, by simp, ?_⟩
  intro i h1 h2 fin
  rw [List.getElem_map]
  have hm := List.getElem_mem h2
  unfold Tokz.tokens
  rw [C02.C02_tok_escaped e _ hesc (hW _ hm)]
  exact newMapXml_doc cfg S fin [] nofun _ (he _ hm)

/-- on C01's domain the Maps read from the bytes are the conventions' Maps -/
theorem C19_tok_file_conventions (e : EncCfg) (hesc : e.escape = true) (cfg : DecCfg)
    (S : Strconv) (docs : List (Str × Node))
    (hsep : ∀ d ∈ docs, wsOk d.1 = true) (hW : ∀ d ∈ docs, WellNamed d.2 = true)
    (he : ∀ d ∈ docs, Files.isElem d.2 = true)
    (hdom : ∀ d ∈ docs, Conv.inDomain cfg S d.2 = true)
    (trail : Str) (htrail : wsOk trail = true) (f : Nat) (hf : docs.length < f) :
    ∃ rs, readMapsXml cfg S .eof f (Tokz.tokens (xmlDocsBytes e docs trail)) [] = ⟨rs, false⟩ ∧
      rs.length = docs.length ∧
      ∀ (i : Nat) (h1 : i < rs.length) (h2 : i < docs.length),
        rs[i] ≈ᵥ Conv.doc cfg S docs[i].2 := by
  refine ⟨_, C19_tok_file e hesc cfg S docs hsep hW he trail htrail f hf, by simp, ?_⟩
  intro i h1 h2
  rw [List.getElem_map]
  have hm := List.getElem_mem h2
  exact doc_equiv cfg S _ (fold_equiv_conv cfg S _ (hdom _ hm) (noAdjText_of_wellNamed (hW _ hm)))

/-- the handler form (`HandleXmlReader` with a handler that stops at the `b`-th Map): the first
    `b` Maps, no error, and what follows the documents may be ANY input the tokenizer accepts -/
theorem C19_tok_handler_stops (e : EncCfg) (hesc : e.escape = true) (cfg : DecCfg) (S : Strconv)
    (fin : StreamEnd) (docs : List (Str × Node))
    (hsep : ∀ d ∈ docs, wsOk d.1 = true) (hW : ∀ d ∈ docs, WellNamed d.2 = true)
    (he : ∀ d ∈ docs, Files.isElem d.2 = true) (rest : Str) (us : List Tok)
    (hrest : tokenize rest = some us) (b : Nat) (hb : b ≤ docs.length) (f : Nat) (hf : b < f) :
    handleXml cfg S fin f b (Tokz.tokens (xmlDocsBytes e docs rest)) []
      = ⟨(docs.take b).map (fun d => Fold.doc cfg S d.2), false⟩ := by
  unfold Tokz.tokens
  rw [tokenize_xmlDocs_then e hesc docs hsep hW he rest us hrest]
  have hwf := xmlDocsToks_noStart_isElem docs he
  have := C19_xml_handler_stops cfg S fin (xmlDocsToks docs) hwf.1 hwf.2 b
    (by simpa [xmlDocsToks] using hb) us f hf
  simpa [xmlDocsToks, List.map_map, Function.comp_def, List.map_take] using this

/-! ### Maps → `XmlString` bytes → Maps -/

/-- `m` is written (default options, `mv.Xml()`) as the rendering of the well-named element tree
    `n`, whose own decoding is equivalent to `m` -/
def Written (S : Strconv) (m : Entries) (n : Node) : Prop :=
  mapXml ec m none = .ok (render ec n) ∧ WellNamed n = true ∧ Files.isElem n = true ∧
    Fold.doc dc S n ≈ᵥ .map m

/-- the Map decoded from an in-domain document is `Written` (the chain of `C02_fixed_point_bytes`;
    same hypotheses) -/
theorem C19_tok_written_of_decoded (S : Strconv)
    (fin : StreamEnd) (pre post : List Tok) (hpre : ∀ t ∈ pre, ¬ isStart t)
    (sp name : Str) (attrs : List Attr) (kids : List Node)
    (hd : Conv.inDomain dc S (.elem sp name attrs kids) = true)
    (hadj : noAdjText (.elem sp name attrs kids) = true)
    (hnames : NamesOk (.elem sp name attrs kids) = true)
    (hwn : ∀ n, encTree ec name (Conv.value dc S (.elem sp name attrs kids)).norm = .ok [n] →
      WellNamed n = true) :
    ∃ m n, newMapXml dc S (pre ++ flatten (.elem sp name attrs kids) ++ post) fin = .ok (.map m)
      ∧ Written S m n := by
  have hD := C02.C02_decoded S sp name attrs kids hd hnames
  obtain ⟨n, hn, ⟨a', k', rfl⟩, hdom, hdoc, hv⟩ := fixed_point_value S sp name attrs kids hd hnames
  have hW := hwn _ hn
  obtain ⟨x, hx, hxe, hbytes⟩ := C02.decode_encode_bytes ec fin pre post hpre sp name attrs kids hd
    hadj (Decoded_iff.1 hD).1 (Decoded_Plain _ hD) hn
  refine ⟨_, _, hx, hbytes, hW, rfl, ?_⟩
  -- the encoder's tree is an element in C01's domain: its own decoding is the conventions' Map
  refine Val.equiv_trans
    (doc_equiv dc S _ (fold_equiv_conv dc S _ hdom (noAdjText_of_wellNamed hW))) ?_
  rw [hdoc]
  exact Enc.equiv_singleton_map (Val.equiv_trans hv (Val.equiv_symm hxe))

/-- Maps → `Maps.XmlString()` (what `XmlFile` writes: the encodings one after another) →
    tokenizer model → `NewMapsFromXmlFile` loop: the writer succeeds, the reader returns no
    error and as many Maps as were written, in order, each equivalent to the Map written
    (`ps`: the Maps `p.1` with the trees `p.2` they are `Written` as) -/
theorem C19_tok_xmlstring_roundtrip (S : Strconv) (ps : List (Entries × Node))
    (h : ∀ p ∈ ps, Written S p.1 p.2) (f : Nat) (hf : ps.length < f) :
    ∃ bytes rs, xmlString ec (ps.map (·.1)) = .ok bytes ∧
      readMapsXml dc S .eof f (Tokz.tokens bytes) [] = ⟨rs, false⟩ ∧
      rs.length = ps.length ∧
      ∀ (i : Nat) (h1 : i < rs.length) (h2 : i < ps.length), rs[i] ≈ᵥ Val.map ps[i].1 := by
  have hbytes : xmlString ec (ps.map (·.1))
      = .ok (xmlDocsBytes ec (ps.map (fun p => (([] : Str), p.2))) []) := by
    clear hf
    induction ps with
    | nil => rfl
    | cons p ps ih =>
      have hw := h p (List.mem_cons_self ..)
      have ih' := ih (fun q hq => h q (List.mem_cons_of_mem _ hq))
      simp only [List.map_cons, xmlString, hw.1, ih']
      simp [xmlDocsBytes, fileBytes]
  refine ⟨_, (ps.map (fun p => (([] : Str), p.2))).map (fun d => Fold.doc dc S d.2), hbytes, ?_,
    by simp, ?_⟩
  · -- stated first: elaborated against the goal, the same call is several times slower to check
    have := C19_tok_file ec rfl dc S (ps.map (fun p => (([] : Str), p.2)))
      (List.forall_mem_map.2 fun _ _ => rfl) (List.forall_mem_map.2 fun p hp => (h p hp).2.1)
      (List.forall_mem_map.2 fun p hp => (h p hp).2.2.1)
      [] rfl f (by simpa using hf)
    exact this
  · intro i h1 h2
    simp only [List.getElem_map]
    exact (h _ (List.getElem_mem h2)).2.2.2

/-! ### non-vacuity -/

/-- the sample file `<a …>…</a>␤<s>…</s><a …>…</a>␤`: three documents, the last two adjacent -/
def tokDocs : List (Str × Node) :=
  [([], C02.tokTree), ("\n".toList, exDoc2), ([], C02.tokTree)]

theorem tokDocs_ok : (∀ d ∈ tokDocs, wsOk d.1 = true) ∧ (∀ d ∈ tokDocs, WellNamed d.2 = true) ∧
    (∀ d ∈ tokDocs, Files.isElem d.2 = true) := by decide +kernel
example : (∀ d ∈ tokDocs, wsOk d.1 = true) ∧ (∀ d ∈ tokDocs, WellNamed d.2 = true) ∧
    (∀ d ∈ tokDocs, Files.isElem d.2 = true) := tokDocs_ok

example : xmlDocsBytes ec [([], .elem [] "a".toList [] []), ("\n".toList, .elem [] "b".toList [] [.text "x".toList])]
    "\n".toList = "<a/>\n<b>x</b>\n".toList := by
  repeat rw [String.toList_ofList]
  decide +kernel

example : readMapsXml {} S0 .eof 4 (Tokz.tokens (xmlDocsBytes ec tokDocs "\n".toList)) []
    = ⟨tokDocs.map (fun d => Fold.doc {} S0 d.2), false⟩ :=
  C19_tok_file ec rfl {} S0 tokDocs tokDocs_ok.1 tokDocs_ok.2.1 tokDocs_ok.2.2 _
    (by decide +kernel) 4 (by decide +kernel)

example : tokenize (render ec C02.tokTree ++ " \n".toList ++ render ec exDoc2)
    = some (flatten C02.tokTree ++ [Tok.text " \n".toList] ++ flatten exDoc2) :=
  C19_tok_two_docs ec rfl _ _ _ (by decide +kernel) (by decide +kernel) (by decide +kernel)
    (by decide +kernel) (by decide +kernel)

/-- `Written` on a concrete Map: `{"a": {"-k":"v", "#text":"x"}}` is written as `<a k="v">x</a>` -/
example : Written S0 [("a".toList, .map [("-k".toList, .str "v".toList), ("#text".toList, .str "x".toList)])]
    (.elem [] "a".toList [⟨[], "k".toList, "v".toList⟩] [.text "x".toList]) := by
  refine ⟨by decide +kernel, by decide +kernel, by decide +kernel, ?_⟩
  unfold Val.equiv
  decide +kernel

/-! ### the junction conditions are needed -/

/-- the general law on input outside the encoder's subset: a declaration and a comment, then a
    document with a prefixed name, single quotes and a CDATA section (the first part ends in
    character data, the second begins with `<`) -/
example : tokenize ("<?xml version=\"1.0\"?>\n<!--c-->\n".toList ++ "<p:a k = 'v'><![CDATA[<&]]></p:a >".toList)
    = some ([.procinst "xml".toList "version=\"1.0\"".toList, .text "\n".toList, .comment "c".toList,
             .text "\n".toList] ++
            [.start "p".toList "a".toList [⟨[], "k".toList, "v".toList⟩], .text "<&".toList,
             .stop "p".toList "a".toList]) := by
  repeat rw [String.toList_ofList]
  exact C19_tok_cat _ _ _ _ (by decide +kernel) (by decide +kernel) (by decide +kernel)

/-- `junctionOk` is needed, and it is exact for the witness below: both parts are accepted, the
    first ends and the second begins in character data, and the tokens merge -/
example : junctionOk [.start [] "a".toList [], .stop [] "a".toList, .text "x".toList] "y<b/>".toList
    = false := by decide +kernel

/-- character data at the junction MERGES: the tokens of `a ++ b` are not the tokens of `a`
    followed by the tokens of `b` when `a` ends and `b` begins inside character data … -/
example : tokenize "<a/>x".toList = some [.start [] "a".toList [], .stop [] "a".toList, .text "x".toList]
    ∧ tokenize "y<b/>".toList = some [.text "y".toList, .start [] "b".toList [], .stop [] "b".toList]
    ∧ tokenize ("<a/>x".toList ++ "y<b/>".toList)
        = some [.start [] "a".toList [], .stop [] "a".toList, .text "xy".toList,
                .start [] "b".toList [], .stop [] "b".toList] := by decide +kernel

/-- … so a document that is a lone text node (not an element) does not compose with a
    separator: `isElem` is needed in `C19_tok_two_docs` -/
example : tokenize (render ec (.text "x".toList) ++ " ".toList ++ render ec (.elem [] "b".toList [] []))
    ≠ some (flatten (.text "x".toList) ++ sepToks " ".toList ++ flatten (.elem [] "b".toList [] [])) := by
  decide +kernel

/-- a separator that is not white space need not be character data at all: `wsOk` is needed -/
example : tokenize (render ec (.elem [] "a".toList [] []) ++ "&".toList ++ render ec (.elem [] "b".toList [] []))
    = none := by decide +kernel

end Mxj.C19
