/-
  Mxj.Props.C16ExtForms — C16 for the API *forms* around the encoders (model: Mxj.Model.Forms):
  "the Writer forms write exactly the bytes the byte-returning forms return (and the Raw forms
  return them as well), and the Maps string/file forms are the concatenation of the per-Map
  encodings."

  (a) `C16_forms_writer_eq_bytes*`   — Writer forms: on success the Writer's content is the old
      content followed by exactly the bytes of the byte-returning form; on an encoder error the
      Writer is untouched and the error is the encoder's.  Xml, XmlIndent, Json, JsonIndent.
  (b) `C16_forms_raw_returns_written*` — `JsonWriterRaw` / `JsonIndentWriterRaw` return exactly
      what they wrote, and write what the non-Raw forms write.  (`XmlWriterRaw` and
      `XmlIndentWriterRaw` are commented out in xml.go.)
  (c) `C16_forms_maps_concat*` / `C16_forms_maps_split*` — when every member encodes, the string
      forms are the concatenation of the member encodings (`JsonStringIndent`: joined with "\n",
      no trailing "\n"); the result for `a ++ b` is composed of the results for `a` and for `b`.
  (d) `C16_forms_maps_first_error*` — first failing member at position k: the first k encodings
      and that member's error; nothing after position k is looked at.
  (e) `C16_forms_maps_perm_invariant*` — members replaced by `≈ᵥ` members (same Map, entries in
      another order at any depth): same string, same error.  All string, file and Writer forms.
  (f) `C16_forms_file_eq_string*` — the file forms leave exactly the string form in the file,
      whatever was in it before; on an encoder error the file is not touched (the Go code
      encodes BEFORE `os.Create`).
  (g) `C16_forms_json_string_ignores_flag*` — `Maps.JsonString(safe)`,
      `Maps.JsonStringIndent(…, safe)` and the JSON file forms give the same bytes for both
      values of the flag (observed behaviour: the flag is not handed to `v.Json()`).
  (+) `C16_forms_writer_seq_eq_string*` — one Writer-form call per member on the same Writer
      appends exactly the string form (what the doc comments of the file forms recommend for
      appending to a file).

  The theorems for an arbitrary byte-returning encoder (`C16_forms_writer_eq_bytes`,
  `C16_forms_raw_returns_written`, `C16_forms_loop_*`, `C16_forms_file_eq_string`) cover every
  form at once — each named form is a definitional instance — and in particular the JSON forms
  under an encoder that CAN fail (the model's JSON encoder is total, so for the JSON forms of the
  model the error statements are vacuous; `C16_forms_json_never_fails`).

  The examples at the end are the outputs of the Go library on the same Maps (go1.23.5).
  Helper lemmas: Mxj.Lemmas.Forms.
-/
import Mxj.Lemmas.Forms
import Mxj.Props.C16
import Mxj.Props.C16ExtIndent
namespace Mxj.C16
open Mxj Mxj.Enc Mxj.Forms

/-- every Writer form, whatever the encoder: success appends exactly the encoder's bytes, an
    encoder error leaves the Writer alone and is returned -/
theorem C16_forms_writer_eq_bytes (enc : Bytes) (w : Sink) :
    (∀ b, enc = .ok b → writerForm enc w = (⟨w.written ++ b⟩, none))
    ∧ (∀ e, enc = .error e → writerForm enc w = (w, some e)) :=
  ⟨fun _ h => by subst h; rfl, fun _ h => by subst h; rfl⟩

/-- `mv.XmlWriter(w, rootTag...)` against `mv.Xml(rootTag...)` -/
theorem C16_forms_writer_eq_bytes_xml (cfg : EncCfg) (m : Entries) (rt : Option Str) (w : Sink) :
    (∀ b, mapXml cfg m rt = .ok b → xmlWriter cfg m rt w = (⟨w.written ++ b⟩, none))
    ∧ (∀ e, mapXml cfg m rt = .error e → xmlWriter cfg m rt w = (w, some e)) :=
  C16_forms_writer_eq_bytes _ w

/-- `mv.XmlIndentWriter(w, prefix, indent, rootTag...)` against `mv.XmlIndent(…)` -/
theorem C16_forms_writer_eq_bytes_xmlIndent (cfg : EncCfg) (pfx indent : Str) (m : Entries)
    (rt : Option Str) (w : Sink) :
    (∀ b, mapXmlIndent cfg pfx indent m rt = .ok b →
        xmlIndentWriter cfg pfx indent m rt w = (⟨w.written ++ b⟩, none))
    ∧ (∀ e, mapXmlIndent cfg pfx indent m rt = .error e →
        xmlIndentWriter cfg pfx indent m rt w = (w, some e)) :=
  C16_forms_writer_eq_bytes _ w

/-- `mv.JsonWriter(w, safe)` against `mv.Json(safe)` (the flag IS passed on here) -/
theorem C16_forms_writer_eq_bytes_json (safe : Bool) (m : Entries) (w : Sink) :
    jsonWriter safe m w = (⟨w.written ++ Json.mapJson safe (.map m)⟩, none) := rfl

/-- `mv.JsonIndentWriter(w, prefix, indent, safe)` against `mv.JsonIndent(prefix, indent, safe)` -/
theorem C16_forms_writer_eq_bytes_jsonIndent (safe : Bool) (pfx ind : Str) (m : Entries)
    (w : Sink) :
    jsonIndentWriter safe pfx ind m w = (⟨w.written ++ mapJsonIndent safe pfx ind (.map m)⟩, none) :=
  rfl

/-- a Writer form never removes or changes what the Writer already holds -/
theorem C16_forms_writer_extends (enc : Bytes) (w : Sink) :
    ∃ b, (writerForm enc w).1.written = w.written ++ b := by
  cases enc with
  | error e => exact ⟨[], by simp [writerForm]⟩
  | ok b => exact ⟨b, rfl⟩

/-- the JSON encoder of the model is total: the JSON byte-returning forms never return an error -/
theorem C16_forms_json_never_fails (safe : Bool) (pfx ind : Str) (m : Entries) :
    (∃ b, jsonBytes safe m = .ok b) ∧ (∃ b, jsonIndentBytes safe pfx ind m = .ok b) :=
  ⟨⟨_, rfl⟩, ⟨_, rfl⟩⟩

/-- every Raw Writer form, whatever the encoder: the bytes returned are the bytes appended to the
    Writer; Writer and error are those of the non-Raw form; on success the bytes are the
    encoder's -/
theorem C16_forms_raw_returns_written (enc : Bytes) (w : Sink) :
    (writerFormRaw enc w).1.written = w.written ++ (writerFormRaw enc w).2.1
    ∧ (writerFormRaw enc w).1 = (writerForm enc w).1
    ∧ (writerFormRaw enc w).2.2 = (writerForm enc w).2
    ∧ (∀ b, enc = .ok b → (writerFormRaw enc w).2.1 = b) := by
  cases enc with
  | error e => simp [writerFormRaw, writerForm]
  | ok b => simp [writerFormRaw, writerForm, Sink.write]

/-- `mv.JsonWriterRaw(w, safe)` -/
theorem C16_forms_raw_returns_written_json (safe : Bool) (m : Entries) (w : Sink) :
    jsonWriterRaw safe m w
      = (⟨w.written ++ Json.mapJson safe (.map m)⟩, Json.mapJson safe (.map m), none) := rfl

/-- `mv.JsonIndentWriterRaw(w, prefix, indent, safe)` -/
theorem C16_forms_raw_returns_written_jsonIndent (safe : Bool) (pfx ind : Str) (m : Entries)
    (w : Sink) :
    jsonIndentWriterRaw safe pfx ind m w
      = (⟨w.written ++ mapJsonIndent safe pfx ind (.map m)⟩,
          mapJsonIndent safe pfx ind (.map m), none) := rfl

/-- the plain loop for any encoder: `xs` the member encodings → their concatenation, no error -/
theorem C16_forms_loop_concat (enc : Entries → Bytes) (ms : Maps) (xs : List Str)
    (h : Encodes enc ms xs) : mapsLoop enc ms [] = (xs.flatten, none) := by
  rw [mapsLoop_eq, run_of_encodes h]; rfl

/-- the `haveFirst` loop for any encoder: the member encodings joined with "\n" — a separator
    between members, none after the last -/
theorem C16_forms_loopSep_concat (enc : Entries → Bytes) (ms : Maps) (xs : List Str)
    (h : Encodes enc ms xs) : mapsLoopSep enc ms false [] = (joinWith ['\n'] xs, none) := by
  rw [mapsLoopSep_eq, run_of_encodes h]; rfl

/-- `mvs.XmlString()` = the concatenation of `m.Xml()` over the members -/
theorem C16_forms_maps_concat_xml (cfg : EncCfg) (ms : Maps) (xs : List Str)
    (h : Encodes (fun m => mapXml cfg m none) ms xs) :
    mapsXmlString cfg ms = (xs.flatten, none) :=
  C16_forms_loop_concat _ ms xs h

/-- `mvs.XmlStringIndent(prefix, indent)` = the concatenation of `m.XmlIndent(prefix, indent)`:
    no separator — the root element of `XmlIndent` has no trailing newline, so the next
    document's prefix follows the previous end tag directly -/
theorem C16_forms_maps_concat_xmlIndent (cfg : EncCfg) (pfx indent : Str) (ms : Maps)
    (xs : List Str) (h : Encodes (fun m => mapXmlIndent cfg pfx indent m none) ms xs) :
    mapsXmlStringIndent cfg pfx indent ms = (xs.flatten, none) :=
  C16_forms_loop_concat _ ms xs h

/-- `mvs.JsonString(safe)` = the concatenation of `m.Json()` (safeEncoding = false) -/
theorem C16_forms_maps_concat_json (safe : Bool) (ms : Maps) :
    mapsJsonString safe ms = ((ms.map fun m => Json.mapJson false (.map m)).flatten, none) :=
  C16_forms_loop_concat _ ms _ (encodes_total _ ms)

/-- … which is the string the C19 round-trip theorems read back (`Files.jsonString`) -/
theorem C16_forms_maps_concat_json_files (safe : Bool) (ms : Maps) :
    mapsJsonString safe ms = (Files.jsonString (ms.map Val.map), none) := by
  rw [C16_forms_maps_concat_json]
  simp [Files.jsonString, List.flatMap, List.map_map, Function.comp_def]

/-- `mvs.JsonStringIndent(prefix, indent, safe)` = `m.JsonIndent(prefix, indent)`
    (safeEncoding = false) of the members joined with "\n"; nothing after the last member, and
    the empty `Maps` gives the empty string -/
theorem C16_forms_maps_concat_jsonIndent (pfx ind : Str) (safe : Bool) (ms : Maps) :
    mapsJsonStringIndent pfx ind safe ms
      = (joinWith ['\n'] (ms.map fun m => mapJsonIndent false pfx ind (.map m)), none) :=
  C16_forms_loopSep_concat _ ms _ (encodes_total _ ms)

/-- (c) in one statement: the four string forms, every member encoding -/
theorem C16_forms_maps_concat (cfg : EncCfg) (pfx indent : Str) (safe : Bool) (ms : Maps)
    (xs ys : List Str) (hx : Encodes (fun m => mapXml cfg m none) ms xs)
    (hy : Encodes (fun m => mapXmlIndent cfg pfx indent m none) ms ys) :
    mapsXmlString cfg ms = (xs.flatten, none)
    ∧ mapsXmlStringIndent cfg pfx indent ms = (ys.flatten, none)
    ∧ mapsJsonString safe ms = ((ms.map fun m => Json.mapJson false (.map m)).flatten, none)
    ∧ mapsJsonStringIndent pfx indent safe ms
        = (joinWith ['\n'] (ms.map fun m => mapJsonIndent false pfx indent (.map m)), none) :=
  ⟨C16_forms_maps_concat_xml cfg ms xs hx, C16_forms_maps_concat_xmlIndent cfg pfx indent ms ys hy,
   C16_forms_maps_concat_json safe ms, C16_forms_maps_concat_jsonIndent pfx indent safe ms⟩

/-- the string forms succeed exactly when every member encodes -/
theorem C16_forms_maps_concat_iff (cfg : EncCfg) (pfx indent : Str) (ms : Maps) :
    ((mapsXmlString cfg ms).2 = none ↔ ∃ xs, Encodes (fun m => mapXml cfg m none) ms xs)
    ∧ ((mapsXmlStringIndent cfg pfx indent ms).2 = none
        ↔ ∃ xs, Encodes (fun m => mapXmlIndent cfg pfx indent m none) ms xs) := by
  simp only [mapsXmlString, mapsXmlStringIndent, mapsLoop_eq, run_none_iff, and_self]

/-- splitting the list, any encoder, success or not: the result for `a ++ b` is the result for
    `a` if that is an error, else the string for `a` followed by the result for `b` -/
theorem C16_forms_loop_split (enc : Entries → Bytes) (a b : Maps) :
    mapsLoop enc (a ++ b) []
      = match mapsLoop enc a [] with
        | (t, some e) => (t, some e)
        | (t, none) => (t ++ (mapsLoop enc b []).1, (mapsLoop enc b []).2) := by
  simp only [mapsLoop_eq, List.map_append, run_append]
  cases run (a.map enc) with
  | mk xs o => cases o <;> simp

theorem mapsLoop_split_ok (enc : Entries → Bytes) (a b : Maps)
    (h : (mapsLoop enc (a ++ b) []).2 = none) :
    mapsLoop enc (a ++ b) [] = ((mapsLoop enc a []).1 ++ (mapsLoop enc b []).1, none)
    ∧ (mapsLoop enc a []).2 = none ∧ (mapsLoop enc b []).2 = none := by
  rw [C16_forms_loop_split] at h ⊢
  cases hA : mapsLoop enc a [] with
  | mk t o =>
    cases o with
    | some e => rw [hA] at h; simp at h
    | none =>
      rw [hA] at h
      simp only at h
      exact ⟨by simp only [h], rfl, h⟩

/-- `XmlString` of `a ++ b`, on success: both parts succeed and the strings concatenate —
    the result does not depend on how the `Maps` is split -/
theorem C16_forms_maps_split_xml (cfg : EncCfg) (a b : Maps)
    (h : (mapsXmlString cfg (a ++ b)).2 = none) :
    mapsXmlString cfg (a ++ b) = ((mapsXmlString cfg a).1 ++ (mapsXmlString cfg b).1, none)
    ∧ (mapsXmlString cfg a).2 = none ∧ (mapsXmlString cfg b).2 = none :=
  mapsLoop_split_ok _ a b h

theorem C16_forms_maps_split_xmlIndent (cfg : EncCfg) (pfx indent : Str) (a b : Maps)
    (h : (mapsXmlStringIndent cfg pfx indent (a ++ b)).2 = none) :
    mapsXmlStringIndent cfg pfx indent (a ++ b)
      = ((mapsXmlStringIndent cfg pfx indent a).1 ++ (mapsXmlStringIndent cfg pfx indent b).1, none)
    ∧ (mapsXmlStringIndent cfg pfx indent a).2 = none
    ∧ (mapsXmlStringIndent cfg pfx indent b).2 = none :=
  mapsLoop_split_ok _ a b h

/-- `JsonString` of `a ++ b` (always succeeds) -/
theorem C16_forms_maps_split_json (safe : Bool) (a b : Maps) :
    mapsJsonString safe (a ++ b) = ((mapsJsonString safe a).1 ++ (mapsJsonString safe b).1, none) := by
  simp [C16_forms_maps_concat_json]

/-- `JsonStringIndent` of `a ++ b`: the two strings with ONE "\n" between them when both parts
    are non-empty (and just the other part's string when one is empty) -/
theorem C16_forms_maps_split_jsonIndent (pfx ind : Str) (safe : Bool) (a b : Maps) :
    mapsJsonStringIndent pfx ind safe (a ++ b)
      = ((mapsJsonStringIndent pfx ind safe a).1
          ++ (if a.isEmpty || b.isEmpty then [] else ['\n'])
          ++ (mapsJsonStringIndent pfx ind safe b).1, none) := by
  simp only [C16_forms_maps_concat_jsonIndent, List.map_append, joinNl_append, List.isEmpty_map]

/-- the plain loop, any encoder: `pre` encodes to `xs`, `bad` fails with `e` → the concatenation
    of `xs` and `e`; `tail` is universally quantified: no member after `bad` matters -/
theorem C16_forms_loop_first_error (enc : Entries → Bytes) (pre : Maps) (bad : Entries)
    (tail : Maps) (xs : List Str) (e : ErrKind) (hp : Encodes enc pre xs)
    (hb : enc bad = .error e) : mapsLoop enc (pre ++ bad :: tail) [] = (xs.flatten, some e) := by
  rw [mapsLoop_eq, run_first_error tail hp hb]; rfl

/-- the `haveFirst` loop, any encoder: the encodings before the failing member joined with "\n"
    — the separator is written only once the next member has encoded, so the string returned
    with the error does not end in "\n" -/
theorem C16_forms_loopSep_first_error (enc : Entries → Bytes) (pre : Maps) (bad : Entries)
    (tail : Maps) (xs : List Str) (e : ErrKind) (hp : Encodes enc pre xs)
    (hb : enc bad = .error e) :
    mapsLoopSep enc (pre ++ bad :: tail) false [] = (joinWith ['\n'] xs, some e) := by
  rw [mapsLoopSep_eq, run_first_error tail hp hb]; rfl

/-- both loops, any encoder, any prefix (encoding or not): what follows a failing member is never
    looked at -/
theorem C16_forms_loop_tail_irrelevant (enc : Entries → Bytes) (pre : Maps) (bad : Entries)
    (tail tail' : Maps) (e : ErrKind) (hb : enc bad = .error e) :
    mapsLoop enc (pre ++ bad :: tail) [] = mapsLoop enc (pre ++ bad :: tail') []
    ∧ mapsLoopSep enc (pre ++ bad :: tail) false [] = mapsLoopSep enc (pre ++ bad :: tail') false [] := by
  simp only [mapsLoop_eq, mapsLoopSep_eq, run_tail_irrelevant pre tail tail' hb, and_self]

/-- `mvs.XmlString()` with the first failing member behind `pre` -/
theorem C16_forms_maps_first_error_xml (cfg : EncCfg) (pre : Maps) (bad : Entries) (tail : Maps)
    (xs : List Str) (e : ErrKind) (hp : Encodes (fun m => mapXml cfg m none) pre xs)
    (hb : mapXml cfg bad none = .error e) :
    mapsXmlString cfg (pre ++ bad :: tail) = (xs.flatten, some e) :=
  C16_forms_loop_first_error _ pre bad tail xs e hp hb

/-- `mvs.XmlStringIndent(prefix, indent)` with the first failing member behind `pre` -/
theorem C16_forms_maps_first_error_xmlIndent (cfg : EncCfg) (pfx indent : Str) (pre : Maps)
    (bad : Entries) (tail : Maps) (xs : List Str) (e : ErrKind)
    (hp : Encodes (fun m => mapXmlIndent cfg pfx indent m none) pre xs)
    (hb : mapXmlIndent cfg pfx indent bad none = .error e) :
    mapsXmlStringIndent cfg pfx indent (pre ++ bad :: tail) = (xs.flatten, some e) :=
  C16_forms_loop_first_error _ pre bad tail xs e hp hb

/-- (d) in one statement, for `XmlString`: the first `k = pre.length` encodings concatenated and
    the error of member `k`, the same for every tail -/
theorem C16_forms_maps_first_error (cfg : EncCfg) (pre : Maps) (bad : Entries)
    (xs : List Str) (e : ErrKind) (hp : Encodes (fun m => mapXml cfg m none) pre xs)
    (hb : mapXml cfg bad none = .error e) :
    ∀ (tail : Maps), mapsXmlString cfg (pre ++ bad :: tail) = (xs.flatten, some e) :=
  fun tail => C16_forms_maps_first_error_xml cfg pre bad tail xs e hp hb

/-- the same by position: the members before position `k` encode to `xs`, member `k` fails -/
theorem C16_forms_maps_first_error_at (cfg : EncCfg) (ms : Maps) (k : Nat) (hk : k < ms.length)
    (xs : List Str) (e : ErrKind) (hp : Encodes (fun m => mapXml cfg m none) (ms.take k) xs)
    (hb : mapXml cfg ms[k] none = .error e) :
    mapsXmlString cfg ms = (xs.flatten, some e)
    ∧ ∀ (tail : Maps), mapsXmlString cfg (ms.take (k + 1) ++ tail) = (xs.flatten, some e) := by
  have h : ∀ tail, mapsXmlString cfg (ms.take (k + 1) ++ tail) = (xs.flatten, some e) := fun tail => by
    rw [List.take_succ_eq_append_getElem hk, List.append_assoc]
    exact C16_forms_maps_first_error_xml cfg (ms.take k) ms[k] tail xs e hp hb
  -- `ms` itself is the case `tail = ms.drop (k + 1)`
  exact ⟨by simpa using h (ms.drop (k + 1)), h⟩

/-- `XmlString` / `XmlStringIndent`: nothing after a failing member is looked at -/
theorem C16_forms_maps_first_error_tail (cfg : EncCfg) (pfx indent : Str) (pre : Maps)
    (bad : Entries) (tail tail' : Maps) :
    (∀ e, mapXml cfg bad none = .error e →
      mapsXmlString cfg (pre ++ bad :: tail) = mapsXmlString cfg (pre ++ bad :: tail'))
    ∧ (∀ e, mapXmlIndent cfg pfx indent bad none = .error e →
      mapsXmlStringIndent cfg pfx indent (pre ++ bad :: tail)
        = mapsXmlStringIndent cfg pfx indent (pre ++ bad :: tail')) :=
  ⟨fun e hb => (C16_forms_loop_tail_irrelevant _ pre bad tail tail' e hb).1,
   fun e hb => (C16_forms_loop_tail_irrelevant _ pre bad tail tail' e hb).1⟩

/-- `ms'` is `ms` with every member's entries listed in another order, at any depth -/
abbrev SameMaps (ms ms' : Maps) : Prop := All₂ (fun m m' => Val.map m ≈ᵥ Val.map m') ms ms'

/-- `mvs.XmlString()` — same string on success, same prefix and same error on failure -/
theorem C16_forms_maps_perm_invariant (cfg : EncCfg) (ms ms' : Maps) (h : SameMaps ms ms') :
    mapsXmlString cfg ms = mapsXmlString cfg ms' :=
  (mapsLoop_congr (fun m m' hm => C16_mapXml_perm_invariant cfg m m' none hm) h).1 []

/-- … in particular when every member's entry list is permuted (distinct keys: a Go map) -/
theorem C16_forms_maps_perm_invariant' (cfg : EncCfg) (ms ms' : Maps)
    (h : All₂ (fun m m' => List.Perm m m' ∧ distinctKeys m = true) ms ms') :
    mapsXmlString cfg ms = mapsXmlString cfg ms' :=
  (mapsLoop_congr (fun m m' hm => C16_mapXml_perm_invariant cfg m m' none
    (equiv_map_of_perm hm.1 hm.2)) h).1 []

/-- `mvs.XmlStringIndent(prefix, indent)` -/
theorem C16_forms_maps_perm_invariant_xmlIndent (cfg : EncCfg) (pfx indent : Str) (ms ms' : Maps)
    (h : SameMaps ms ms') :
    mapsXmlStringIndent cfg pfx indent ms = mapsXmlStringIndent cfg pfx indent ms' :=
  (mapsLoop_congr (fun m m' hm => C16_indent_perm_invariant cfg pfx indent m m' none hm) h).1 []

/-- `m.Json(safe)` and `m.JsonIndent(prefix, indent, safe)`: the encoder sorts the keys -/
theorem C16_forms_json_perm_invariant (safe : Bool) (pfx ind : Str) (m m' : Entries)
    (h : Val.map m ≈ᵥ Val.map m') :
    jsonBytes safe m = jsonBytes safe m' ∧ jsonIndentBytes safe pfx ind m = jsonIndentBytes safe pfx ind m' := by
  have hn : (Val.map m).norm = (Val.map m').norm := h
  simp only [jsonBytes, jsonIndentBytes, Json.mapJson, mapJsonIndent, hn, and_self]

/-- `mvs.JsonString(safe)` -/
theorem C16_forms_maps_perm_invariant_json (safe : Bool) (ms ms' : Maps) (h : SameMaps ms ms') :
    mapsJsonString safe ms = mapsJsonString safe ms' :=
  (mapsLoop_congr (fun m m' hm => (C16_forms_json_perm_invariant false [] [] m m' hm).1) h).1 []

/-- `mvs.JsonStringIndent(prefix, indent, safe)` -/
theorem C16_forms_maps_perm_invariant_jsonIndent (pfx ind : Str) (safe : Bool) (ms ms' : Maps)
    (h : SameMaps ms ms') :
    mapsJsonStringIndent pfx ind safe ms = mapsJsonStringIndent pfx ind safe ms' :=
  (mapsLoop_congr (fun m m' hm => (C16_forms_json_perm_invariant false pfx ind m m' hm).2) h).2 []

/-- the four file forms -/
theorem C16_forms_file_perm_invariant (cfg : EncCfg) (pfx indent : Str) (safe : Bool)
    (ms ms' : Maps) (h : SameMaps ms ms') (old : Sink) :
    mapsXmlFile cfg ms old = mapsXmlFile cfg ms' old
    ∧ mapsXmlFileIndent cfg pfx indent ms old = mapsXmlFileIndent cfg pfx indent ms' old
    ∧ mapsJsonFile safe ms old = mapsJsonFile safe ms' old
    ∧ mapsJsonFileIndent pfx indent safe ms old = mapsJsonFileIndent pfx indent safe ms' old := by
  simp only [mapsXmlFile, mapsXmlFileIndent, mapsJsonFile, mapsJsonFileIndent,
    C16_forms_maps_perm_invariant cfg ms ms' h,
    C16_forms_maps_perm_invariant_xmlIndent cfg pfx indent ms ms' h,
    C16_forms_maps_perm_invariant_json safe ms ms' h,
    C16_forms_maps_perm_invariant_jsonIndent pfx indent safe ms ms' h, and_self]

/-- the Writer and Raw Writer forms of one Map -/
theorem C16_forms_writer_perm_invariant (cfg : EncCfg) (pfx indent : Str) (safe : Bool)
    (m m' : Entries) (rt : Option Str) (h : Val.map m ≈ᵥ Val.map m') (w : Sink) :
    xmlWriter cfg m rt w = xmlWriter cfg m' rt w
    ∧ xmlIndentWriter cfg pfx indent m rt w = xmlIndentWriter cfg pfx indent m' rt w
    ∧ jsonWriter safe m w = jsonWriter safe m' w
    ∧ jsonIndentWriter safe pfx indent m w = jsonIndentWriter safe pfx indent m' w
    ∧ jsonWriterRaw safe m w = jsonWriterRaw safe m' w
    ∧ jsonIndentWriterRaw safe pfx indent m w = jsonIndentWriterRaw safe pfx indent m' w := by
  obtain ⟨hj, hji⟩ := C16_forms_json_perm_invariant safe pfx indent m m' h
  simp only [xmlWriter, xmlIndentWriter, jsonWriter, jsonIndentWriter, jsonWriterRaw,
    jsonIndentWriterRaw, C16_mapXml_perm_invariant cfg m m' rt h,
    C16_indent_perm_invariant cfg pfx indent m m' rt h, hj, hji, and_self]

/-- every file form: a string without error → the file holds exactly that string, whatever it
    held before; an encoder error → the file is not touched (not even truncated) and the error
    is returned -/
theorem C16_forms_file_eq_string (str : Str × Option ErrKind) (old : Sink) :
    (str.2 = none → fileForm str old = (⟨str.1⟩, none))
    ∧ (∀ e, str.2 = some e → fileForm str old = (old, some e)) := by
  obtain ⟨s, o⟩ := str
  refine ⟨fun h => ?_, fun e h => ?_⟩
  · simp only at h; subst h; exact fileForm_ok s old
  · simp only at h; subst h; rfl

/-- on success the result does not depend on the old content of the file -/
theorem C16_forms_file_old_irrelevant (str : Str × Option ErrKind) (old old' : Sink)
    (h : str.2 = none) : fileForm str old = fileForm str old' := by
  rw [(C16_forms_file_eq_string str old).1 h, (C16_forms_file_eq_string str old').1 h]

/-- `mvs.XmlFile(file)` and `mvs.XmlFileIndent(file, prefix, indent)` -/
theorem C16_forms_file_eq_string_xml (cfg : EncCfg) (pfx indent : Str) (ms : Maps) (old : Sink) :
    ((mapsXmlString cfg ms).2 = none →
        ∀ old', mapsXmlFile cfg ms old' = (⟨(mapsXmlString cfg ms).1⟩, none))
    ∧ (∀ e, (mapsXmlString cfg ms).2 = some e → mapsXmlFile cfg ms old = (old, some e))
    ∧ ((mapsXmlStringIndent cfg pfx indent ms).2 = none →
        ∀ old', mapsXmlFileIndent cfg pfx indent ms old'
          = (⟨(mapsXmlStringIndent cfg pfx indent ms).1⟩, none))
    ∧ (∀ e, (mapsXmlStringIndent cfg pfx indent ms).2 = some e →
        mapsXmlFileIndent cfg pfx indent ms old = (old, some e)) :=
  ⟨fun h old' => (C16_forms_file_eq_string _ old').1 h, (C16_forms_file_eq_string _ old).2,
   fun h old' => (C16_forms_file_eq_string _ old').1 h, (C16_forms_file_eq_string _ old).2⟩

/-- `mvs.JsonFile(file, safe)`: the file holds the concatenation of the member encodings — the
    string `Files.jsonString` whose reading back is C19 — whatever it held before -/
theorem C16_forms_file_eq_string_json (safe : Bool) (ms : Maps) (old : Sink) :
    mapsJsonFile safe ms old = (⟨Files.jsonString (ms.map Val.map)⟩, none) := by
  unfold mapsJsonFile
  rw [C16_forms_maps_concat_json_files]
  exact fileForm_ok _ old

/-- `mvs.JsonFileIndent(file, prefix, indent, safe)`: one pretty-printed member after the other,
    separated by "\n" -/
theorem C16_forms_file_eq_string_jsonIndent (pfx ind : Str) (safe : Bool) (ms : Maps) (old : Sink) :
    mapsJsonFileIndent pfx ind safe ms old
      = (⟨joinWith ['\n'] (ms.map fun m => mapJsonIndent false pfx ind (.map m))⟩, none) := by
  unfold mapsJsonFileIndent
  rw [C16_forms_maps_concat_jsonIndent]
  exact fileForm_ok _ old

/-- observed behaviour, modelled as the Go code is: `Maps.JsonString(safeEncoding...)` calls
    `v.Json()` without the flag, so both flag values give the same string (the members are
    always encoded with safeEncoding = false); the same for `JsonStringIndent` and the two JSON
    file forms, which compute the flag and pass it to the string forms -/
theorem C16_forms_json_string_ignores_flag (pfx ind : Str) (ms : Maps) (old : Sink) :
    mapsJsonString true ms = mapsJsonString false ms
    ∧ mapsJsonStringIndent pfx ind true ms = mapsJsonStringIndent pfx ind false ms
    ∧ mapsJsonFile true ms old = mapsJsonFile false ms old
    ∧ mapsJsonFileIndent pfx ind true ms old = mapsJsonFileIndent pfx ind false ms old :=
  ⟨rfl, rfl, rfl, rfl⟩

/-- … whereas the per-Map forms do honour it: `Maps.JsonString(true)` of a one-member `Maps` is
    `m.Json(false)`, which differs from `m.Json(true)` as soon as a string holds `<`, `>` or `&` -/
theorem C16_forms_json_string_ignores_flag_witness :
    let m : Entries := [("r".toList, .str "t<".toList)]
    (mapsJsonString true [m]).1 = Json.mapJson false (.map m)
    ∧ Json.mapJson true (.map m) ≠ Json.mapJson false (.map m)
    ∧ (jsonWriter true m ⟨[]⟩).1.written ≠ (mapsJsonString true [m]).1 := by
  decide +kernel

/-- any encoder: one Writer-form call per member on the same Writer, stopping at the first error,
    leaves the old content followed by the string form's string, and returns its error -/
theorem C16_forms_writer_seq_eq_string (enc : Entries → Bytes) (ms : Maps) (w : Sink) :
    writeAll (fun m => writerForm (enc m)) ms w
      = (⟨w.written ++ (mapsLoop enc ms []).1⟩, (mapsLoop enc ms []).2) := by
  rw [writeAll_eq_loop, mapsLoop_eq, mapsLoop_eq enc ms []]; rfl

/-- `XmlWriter` per member = `XmlString`, `XmlIndentWriter` per member = `XmlStringIndent`,
    `JsonWriter(w)` per member (flag false) = `JsonString` -/
theorem C16_forms_writer_seq_eq_string_maps (cfg : EncCfg) (pfx indent : Str) (safe : Bool)
    (ms : Maps) (w : Sink) :
    writeAll (fun m => xmlWriter cfg m none) ms w
      = (⟨w.written ++ (mapsXmlString cfg ms).1⟩, (mapsXmlString cfg ms).2)
    ∧ writeAll (fun m => xmlIndentWriter cfg pfx indent m none) ms w
      = (⟨w.written ++ (mapsXmlStringIndent cfg pfx indent ms).1⟩,
          (mapsXmlStringIndent cfg pfx indent ms).2)
    ∧ writeAll (jsonWriter false) ms w
      = (⟨w.written ++ (mapsJsonString safe ms).1⟩, (mapsJsonString safe ms).2) :=
  ⟨C16_forms_writer_seq_eq_string _ ms w, C16_forms_writer_seq_eq_string _ ms w,
   C16_forms_writer_seq_eq_string (jsonBytes false) ms w⟩

section Examples

/-- `{"b":2, "a":{"y":nil, "x":true}}` -/
def fA : Entries := [("b".toList, .num "i:2".toList),
  ("a".toList, .map [("y".toList, .null), ("x".toList, .bool true)])]
/-- the same Map with the entries in another order at both levels -/
def fA' : Entries := [("a".toList, .map [("x".toList, .bool true), ("y".toList, .null)]),
  ("b".toList, .num "i:2".toList)]
/-- `{"r":{"-k":"v", "#text":"t<"}}` -/
def fB : Entries := [("r".toList, .map [("-k".toList, .str "v".toList),
  ("#text".toList, .str "t<".toList)])]
/-- `{"l":[1, "s", [], {}, [{"q":"<&>"}]]}` -/
def fC : Entries := [("l".toList, .list [.num "i:1".toList, .str "s".toList, .list [], .map [],
  .list [.map [("q".toList, .str "<&>".toList)]]])]
/-- an attribute whose value is a list: `Xml` / `XmlIndent` return
    "invalid attribute value for: -k:<[]interface {}>" -/
def fBad : Entries := [("r".toList, .map [("-k".toList, .list []), ("a".toList, .null)])]

example : mapXml {} fBad none = .error .other
    ∧ mapXmlIndent {} [] " ".toList fBad none = .error .other := ⟨by decide +kernel, by decide +kernel⟩

-- (a) Writer forms: `buf` holds "old:" before the call
example : xmlWriter {} fA none ⟨"old:".toList⟩
    = (⟨"old:<doc><a><x>true</x><y/></a><b>2</b></doc>".toList⟩, none) := by
  -- the kernel unfolds `String.toList` of a literal through the UTF-8 decoding of its bytes, at a
  -- cost quadratic in its length: a long literal is first turned into its list of characters
  repeat rw [String.toList_ofList]
  decide +kernel
example : xmlWriter {} fBad none ⟨"old:".toList⟩ = (⟨"old:".toList⟩, some .other) := by
  decide +kernel
example : xmlIndentWriter {} [] " ".toList fA (some "root".toList) ⟨"old:".toList⟩
    = (⟨"old:<root>\n <a>\n  <x>true</x>\n  <y/>\n </a>\n <b>2</b>\n</root>".toList⟩, none) := by
  repeat rw [String.toList_ofList]
  decide +kernel
example : xmlIndentWriter {} [] " ".toList fBad none ⟨"old:".toList⟩
    = (⟨"old:".toList⟩, some .other) := by decide +kernel

-- (b) Raw forms: `JsonWriterRaw(w, true)` and `JsonIndentWriterRaw(w, "", " ")`
example : jsonWriterRaw true fB ⟨"old:".toList⟩
    = (⟨("old:{\"r\":{\"#text\":\"t\\" ++ "u003c\",\"-k\":\"v\"}}").toList⟩,
        ("{\"r\":{\"#text\":\"t\\" ++ "u003c\",\"-k\":\"v\"}}").toList, none) := by
  rw [String.toList_append, String.toList_append]
  repeat rw [String.toList_ofList]
  decide +kernel
example : jsonIndentWriterRaw false [] " ".toList fB ⟨"old:".toList⟩
    = (⟨"old:{\n \"r\": {\n  \"#text\": \"t<\",\n  \"-k\": \"v\"\n }\n}".toList⟩,
        "{\n \"r\": {\n  \"#text\": \"t<\",\n  \"-k\": \"v\"\n }\n}".toList, none) := by
  repeat rw [String.toList_ofList]
  decide +kernel

-- `JsonIndent`: prefix and indent, empty object / array, nested arrays, safe encoding
example : mapJsonIndent false ">".toList "\t".toList (.map fC)
    = "{\n>\t\"l\": [\n>\t\t1,\n>\t\t\"s\",\n>\t\t[],\n>\t\t{},\n>\t\t[\n>\t\t\t{\n>\t\t\t\t\"q\": \"<&>\"\n>\t\t\t}\n>\t\t]\n>\t]\n>}".toList := by
  repeat rw [String.toList_ofList]
  decide +kernel
example : mapJsonIndent false "P".toList [] (.map fA)
    = "{\nP\"a\": {\nP\"x\": true,\nP\"y\": null\nP},\nP\"b\": 2\nP}".toList := by
  repeat rw [String.toList_ofList]
  decide +kernel
/-- `JsonIndent("", "")` is the compact encoding (the encoder indents only when prefix or indent
    is non-empty) -/
example : mapJsonIndent false [] [] (.map fA) = "{\"a\":{\"x\":true,\"y\":null},\"b\":2}".toList
    ∧ mapJsonIndent false [] [] (.map fA) = Json.mapJson false (.map fA) := by
  repeat rw [String.toList_ofList]
  decide +kernel
example : mapJsonIndent true [] "  ".toList (.map []) = "{}".toList := by decide +kernel

-- (c) the string forms on `Maps{a, b, c, {}}`
example : mapsXmlString {} [fA, fB, fC, []]
    = ("<doc><a><x>true</x><y/></a><b>2</b></doc><r k=\"v\">t<</r><doc><l>1</l><l>s</l><l/><l/><l><q><&></q></l></doc><doc/>".toList,
        none) := by
  repeat rw [String.toList_ofList]
  decide +kernel
example : mapsXmlStringIndent {} " ".toList "  ".toList [fA, fB, fC, []]
    = (" <doc>\n   <a>\n     <x>true</x>\n     <y/>\n   </a>\n   <b>2</b>\n </doc> <r k=\"v\">t<</r> <doc>\n   <l>1</l>\n   <l>s</l>\n     <l   />\n   <l/>\n     <l>\n       <q><&></q>\n     </l>\n </doc> <doc/>".toList,
        none) := by
  repeat rw [String.toList_ofList]
  decide +kernel
example : mapsJsonString true [fA, fB, fC, []]
    = ("{\"a\":{\"x\":true,\"y\":null},\"b\":2}{\"r\":{\"#text\":\"t<\",\"-k\":\"v\"}}{\"l\":[1,\"s\",[],{},[{\"q\":\"<&>\"}]]}{}".toList,
        none) := by
  repeat rw [String.toList_ofList]
  decide +kernel
example : mapsJsonStringIndent [] " ".toList true [fA, fB, []]
    = ("{\n \"a\": {\n  \"x\": true,\n  \"y\": null\n },\n \"b\": 2\n}\n{\n \"r\": {\n  \"#text\": \"t<\",\n  \"-k\": \"v\"\n }\n}\n{}".toList,
        none) := by
  repeat rw [String.toList_ofList]
  decide +kernel
/-- no member: the empty string; one member: no "\n" at all -/
example : mapsJsonStringIndent [] " ".toList false [] = ([], none)
    ∧ mapsJsonStringIndent [] " ".toList false [fA]
      = ("{\n \"a\": {\n  \"x\": true,\n  \"y\": null\n },\n \"b\": 2\n}".toList, none) := by
  repeat rw [String.toList_ofList]
  decide +kernel

-- (d) `Maps{a, bad, b}`: the encoding of `a` and the error of `bad`; `b` is not looked at
example : mapsXmlString {} [fA, fBad, fB]
    = ("<doc><a><x>true</x><y/></a><b>2</b></doc>".toList, some .other) := by
  repeat rw [String.toList_ofList]
  decide +kernel
example : mapsXmlStringIndent {} [] " ".toList [fA, fBad, fB]
    = ("<doc>\n <a>\n  <x>true</x>\n  <y/>\n </a>\n <b>2</b>\n</doc>".toList, some .other) := by
  repeat rw [String.toList_ofList]
  decide +kernel
example : mapsXmlString {} [fA, fBad, fB] = mapsXmlString {} [fA, fBad, fBad, fC, fC] := by
  decide +kernel

example : SameMaps [fA, fB] [fA', fB] :=
  .cons (by decide +kernel) (.cons (by decide +kernel) .nil)
example : mapsXmlString {} [fA', fB] = mapsXmlString {} [fA, fB]
    ∧ mapsJsonStringIndent [] " ".toList false [fA', fB]
        = mapsJsonStringIndent [] " ".toList false [fA, fB] := by decide +kernel

-- (f) the file forms over a file that held something longer
example : mapsXmlFile {} [fA, fB] ⟨"previous content, much longer than what comes next ....................................".toList⟩
    = (⟨"<doc><a><x>true</x><y/></a><b>2</b></doc><r k=\"v\">t<</r>".toList⟩, none) := by
  repeat rw [String.toList_ofList]
  decide +kernel
/-- a failing member: `XmlFile` returns the error and the file keeps its old content -/
example : mapsXmlFile {} [fA, fBad, fB] ⟨"<doc/>".toList⟩ = (⟨"<doc/>".toList⟩, some .other) := by
  decide +kernel
example : mapsXmlFileIndent {} [] " ".toList [fA, fB] ⟨"zzz".toList⟩
    = (⟨"<doc>\n <a>\n  <x>true</x>\n  <y/>\n </a>\n <b>2</b>\n</doc><r k=\"v\">t<</r>".toList⟩,
        none) := by
  repeat rw [String.toList_ofList]
  decide +kernel
/-- (g) `JsonFile(file, true)`: `<` is NOT escaped in the file -/
example : mapsJsonFile true [fA, fB] ⟨"zzz".toList⟩
    = (⟨"{\"a\":{\"x\":true,\"y\":null},\"b\":2}{\"r\":{\"#text\":\"t<\",\"-k\":\"v\"}}".toList⟩,
        none) := by
  repeat rw [String.toList_ofList]
  decide +kernel
example : mapsJsonFileIndent [] " ".toList true [fA, fB] ⟨"zzz".toList⟩
    = (⟨"{\n \"a\": {\n  \"x\": true,\n  \"y\": null\n },\n \"b\": 2\n}\n{\n \"r\": {\n  \"#text\": \"t<\",\n  \"-k\": \"v\"\n }\n}".toList⟩,
        none) := by
  repeat rw [String.toList_ofList]
  decide +kernel

-- (+) two `XmlWriter` calls on one Writer
example : writeAll (fun m => xmlWriter {} m none) [fA, fB] ⟨"old:".toList⟩
    = (⟨"old:<doc><a><x>true</x><y/></a><b>2</b></doc><r k=\"v\">t<</r>".toList⟩, none) := by
  repeat rw [String.toList_ofList]
  decide +kernel

end Examples

end Mxj.C16
