/-
  Mxj.Props.C02ExtEscDec — C02 "decode → encode → decode is a fixed point" under
  DECODER-SIDE ESCAPING (`XMLEscapeCharsDecoder`), the one symmetric option combination
  `Props/C02ExtSym.lean` excludes (`Sym.esc`).

  mxj has two mutually exclusive switches.  Encoder-side (`XMLEscapeChars`): the Map holds plain
  values and the ENCODER writes `escapeChars v`.  Decoder-side (`XMLEscapeCharsDecoder`): the
  DECODER stores `escapeChars v` in the Map for every text / attribute value `v` it reads, and
  the encoder — its own escaping off — writes the stored strings as they are.

  Option coverage (`SymEsc d e` / `EscPair d d0`): decoder-side escaping on, the encoder's
  escaping off, the cast flag off (`d.cast.r = false`; then the cast sub-flags and the
  `checkTagToSkip` set are inert and may be anything), and ANY attribute prefix, text key (not
  itself an attribute key, same on both sides), lower-case / snake-case key folding, keep-spaces
  and simple-values-as-map.  Part 1 additionally allows tag sequence numbers; the fixed point
  (as for every symmetric pair, `Sym.seq`) does not.  With the cast flag ON the statement of
  part 1 is false in general (`cast` sees the escaped text) and is not attempted.

  Part 1  `C02_escdec_stored_escaped…` — the Map under decoder-side escaping is the Map of the
          plain decoding with `escapeChars` applied to every string leaf (`EscDec.mapLeaves`),
          for EVERY tree; also through the stream decoder (`…_tokens`).
  Part 2  `C02_escdec_fixed_point…` — XML → Map → XML → Map is a fixed point.  The encoder
          writes the stored strings raw; the tokenizer reads raw text `r` as `unesc r`
          (`EscDec.rawView`, the tree the second decoding sees); on the encoder's tree for the
          decoded Map this view is defined and decodes to an equivalent Map.  Proof: part 1, the
          encoder's tree commutes with `mapLeaves`, `unesc ∘ escapeChars = id` (C05), and the
          plain fixed point (`fixed_point_valueG`, the value-level form of `C02_sym_fixed_point_tree`).
          `TokLawRaw` is the tokenizer law for raw text (it implies `TokLaw`; a hypothesis here,
          proved for the tokenizer model in Props/C02ExtTok), and `C02_escdec_fixed_point_bytes`
          the statement through bytes.
  Part 3  `C02_escdec_values_reproduced` — the raw strings the encoder writes are exactly
          `escapeChars` of the values of the plain Map, the bytes are the bytes encoder-side
          escaping would have written, and (C05) they contain no raw `<`, `>`, `"`, `'` and
          every `&` opens an entity.
  Part 4  a concrete document and the both-switches-on witness (double escaping).
-/
import Mxj.Lemmas.EscDec2
import Mxj.Props.C02ExtSym
import Mxj.Props.C05
namespace Mxj.C02
open Mxj Mxj.Enc Mxj.EncSym Mxj.EscDec

/-! ### Part 1: what the decoder stores -/

/-- decoder-side escaping stores the escaped values: for every tree, the conventions under `d`
    (escaping on) give the Map of the conventions under `d0` (the same options, escaping off)
    with `escapeChars` applied to every string leaf — text and attribute values alike; keys are
    untouched.  `EscPair d d0`: cast flag off on both sides; every other option (prefix, text
    key, key folding, keep-spaces, as-map, sequence numbers) arbitrary but equal. -/
theorem C02_escdec_stored_escaped (d d0 : DecCfg) (S : Strconv) (h : EscPair d d0) (t : Node) :
    Conv.doc d S t = mapLeaves escapeChars (Conv.doc d0 S t) :=
  doc_pair h S t

/-- the same for an element's value -/
theorem C02_escdec_stored_escaped_value (d d0 : DecCfg) (S : Strconv) (h : EscPair d d0)
    (t : Node) : Conv.value d S t = mapLeaves escapeChars (Conv.value d0 S t) :=
  value_pair h S t

/-- the instance "the same configuration with the switch turned off" -/
theorem C02_escdec_stored_escaped_switch (d : DecCfg) (S : Strconv) (hesc : d.escDec = true)
    (hc : d.cast.r = false) (t : Node) :
    Conv.doc d S t = mapLeaves escapeChars (Conv.doc { d with escDec := false } S t) :=
  doc_pair (EscPair_switch d hesc hc) S t

/-- default conventions: `{ escDec := true }` against the default decoder `dc` -/
theorem C02_escdec_stored_escaped_default (S : Strconv) (t : Node) :
    Conv.doc { escDec := true } S t = mapLeaves escapeChars (Conv.doc dc S t) :=
  C02_escdec_stored_escaped_switch { escDec := true } S rfl rfl t

/-- hence every string the decoder stores is an escaped string: the string leaves of the Map
    are `escapeChars` of the string leaves of the plain Map, in the same order -/
theorem C02_escdec_stored_leaves (d d0 : DecCfg) (S : Strconv) (h : EscPair d d0) (t : Node) :
    leaves (Conv.doc d S t) = (leaves (Conv.doc d0 S t)).map escapeChars := by
  rw [doc_pair h S t, leaves_mapLeaves]

/-- the C01 domain does not depend on the switch -/
theorem C02_escdec_domain (d d0 : DecCfg) (S : Strconv) (h : EscPair d d0) (t : Node) :
    Conv.inDomain d S t = Conv.inDomain d0 S t :=
  inDomain_pair h S t

/-- through the stream decoder (`newMapXml`, C01): decoding the token stream of an in-domain
    tree with the switch on and with it off both succeed, and the first Map is the second with
    every string leaf escaped (up to the order of map entries) -/
theorem C02_escdec_stored_escaped_tokens (d d0 : DecCfg) (S : Strconv) (h : EscPair d d0)
    (fin : StreamEnd) (pre post : List Tok) (hpre : ∀ t ∈ pre, ¬ isStart t)
    (sp name : Str) (attrs : List Attr) (kids : List Node)
    (hd : Conv.inDomain d S (.elem sp name attrs kids) = true)
    (hadj : noAdjText (.elem sp name attrs kids) = true) :
    ∃ m m0,
      newMapXml d S (pre ++ flatten (.elem sp name attrs kids) ++ post) fin = .ok m
      ∧ newMapXml d0 S (pre ++ flatten (.elem sp name attrs kids) ++ post) fin = .ok m0
      ∧ m ≈ᵥ mapLeaves escapeChars m0 := by
  obtain ⟨m, hm, hme⟩ := C01.C01_decode_conventions d S fin pre post hpre sp name attrs kids hd hadj
  obtain ⟨m0, hm0, hme0⟩ := C01.C01_decode_conventions d0 S fin pre post hpre sp name attrs kids
    ((inDomain_pair h S _).symm.trans hd) hadj
  rw [doc_pair h S] at hme
  exact ⟨m, m0, hm, hm0, Val.equiv_trans hme (Val.equiv_symm (equiv_mapLeaves escapeChars hme0))⟩

/-! ### Part 2: the fixed point -/

/-- a symmetric decoder / encoder pair under decoder-side escaping: same attribute prefix; same
    text key, which is not itself an attribute key; no tag sequence numbers; decoder-side
    escaping ON and the encoder's own escaping OFF (the two switches are mutually exclusive);
    cast flag off -/
structure SymEsc (d : DecCfg) (e : EncCfg) : Prop where
  pfx : e.attrPrefix = d.attrPrefix
  txt : e.textK = d.textK
  txt_not_attr : isAttrK e e.textK = false
  seq : d.seqNum = false
  esc : d.escDec = true
  enc_off : e.escape = false
  cast : d.cast.r = false

theorem C02_escdec_sym_pair {d : DecCfg} {e : EncCfg} (hs : SymEsc d e) : EscPair d (plainOf d) :=
  EscPair_plainOf d hs.esc hs.cast

/-- the plain counterpart `(plainOf d, e)` is a symmetric pair in the sense of `C02ExtSym` -/
theorem C02_escdec_sym_plain {d : DecCfg} {e : EncCfg} (hs : SymEsc d e) : Sym (plainOf d) e :=
  ⟨hs.pfx, hs.txt, hs.txt_not_attr, hs.seq, rfl, rfl⟩

theorem C02_escdec_foldLaw_plain {d : DecCfg} {S : Strconv} (hF : FoldLaw d S) : FoldLaw (plainOf d) S :=
  ⟨hF.elem_idem, hF.attr_idem⟩

/-- the tree-level core, with everything the later theorems need: for an in-domain tree `t`
    there is the tree `n0` the encoder builds for the PLAIN Map, the encoder's tree for the
    decoder-escaped Map is `mapNode escapeChars n0`, and the conventions under `d` applied to
    `n0` give a Map equivalent to the one of `t` -/
theorem C02_escdec_core (d : DecCfg) (S : Strconv) (e : EncCfg) (hs : SymEsc d e) (hF : FoldLaw d S)
    (sp name : Str) (attrs : List Attr) (kids : List Node)
    (hd : Conv.inDomain d S (.elem sp name attrs kids) = true)
    (hnames : NamesOkG d S e (.elem sp name attrs kids) = true) :
    ∃ n0,
      encTree e (elemKey d S name) (Conv.value (plainOf d) S (.elem sp name attrs kids)).norm
        = .ok [n0]
      ∧ encTree e (elemKey d S name) (Conv.value d S (.elem sp name attrs kids)).norm
        = .ok [mapNode escapeChars n0]
      ∧ Conv.doc d S n0 ≈ᵥ Conv.doc d S (.elem sp name attrs kids)
      ∧ Conv.inDomain d S n0 = true
      ∧ (∃ a' k', n0 = .elem [] (elemKey d S name) a' k')
      ∧ StrOnly (Conv.value d S (.elem sp name attrs kids)) = true
      ∧ (Conv.value d S (.elem sp name attrs kids)).isList = false := by
  have hp := C02_escdec_sym_pair hs
  have hs0 := C02_escdec_sym_plain hs
  have hF0 := C02_escdec_foldLaw_plain hF
  have hL0 : LeafLaw (plainOf d) S := LeafLaw_of_noCast (plainOf d) S rfl
  have hd0 := (inDomain_pair hp S _).symm.trans hd
  have hn0 := (NamesOkG_pair hp S e _).symm.trans hnames
  -- the plain fixed point; the plain value has the decoded shape, hence only string leaves
  obtain ⟨n0, hn0e, hel, hdom0, hdoc, hfp⟩ :=
    fixed_point_valueG hs0 hF0 hL0 sp name attrs kids hd0 hn0
  have hD := C02_sym_decoded (plainOf d) S e hs0 hF0 hL0 sp name attrs kids hd0 hn0
  -- everything about `d` is `mapLeaves escapeChars` of the same about `plainOf d`
  refine ⟨n0, hn0e, ?_⟩
  rw [value_pair hp S, doc_pair hp S n0, doc_pair hp S (.elem sp name attrs kids), hdoc,
    inDomain_pair hp S, norm_mapLeaves, StrOnly_mapLeaves, isList_mapLeaves]
  exact ⟨encTree_mapLeaves_single e escapeChars escapeChars_isEmpty _ _ n0
      (DecodedG_StrOnly (plainOf d) S e rfl _ (DecodedG_norm hD)) hn0e,
    equiv_mapLeaves escapeChars (equiv_singleton_map hfp), hdom0, hel,
    DecodedG_StrOnly (plainOf d) S e rfl _ hD, (DecodedG_iff.1 hD).1⟩

/-- XML → Map → XML → Map is a fixed point under decoder-side escaping (tree level).
    For an in-domain tree `t` (C01 domain) whose names survive (`NamesOkG`), `Conv.doc d S t` —
    the Map with ESCAPED leaves — is a one-entry Map `{root}`; the encoder (own escaping off,
    `SymEsc.enc_off`) builds a single tree `n` whose text and attribute values are the stored
    strings, written raw; the tokenizer's view of that raw text (`rawView`: each value `r` read
    as `unesc r`) is defined — no bare '&', unknown entity or raw '<' — and decoding it again
    under `d` gives an equivalent Map. -/
theorem C02_escdec_fixed_point (d : DecCfg) (S : Strconv) (e : EncCfg) (hs : SymEsc d e)
    (hF : FoldLaw d S) (sp name : Str) (attrs : List Attr) (kids : List Node)
    (hd : Conv.inDomain d S (.elem sp name attrs kids) = true)
    (hnames : NamesOkG d S e (.elem sp name attrs kids) = true) :
    ∃ root, Conv.doc d S (.elem sp name attrs kids) = .map [root] ∧
      ∃ n, encTree e root.1 root.2.norm = .ok [n] ∧
        ∃ n', rawView n = some n'
          ∧ Conv.doc d S n' ≈ᵥ Conv.doc d S (.elem sp name attrs kids) := by
  obtain ⟨n0, _, hn, hfp, _⟩ := C02_escdec_core d S e hs hF sp name attrs kids hd hnames
  exact ⟨(elemKey d S name, Conv.value d S (.elem sp name attrs kids)), rfl,
    mapNode escapeChars n0, hn, n0, rawView_mapNode_escape n0, hfp⟩

/-- the same from the trusted-base law about `strings.ToLower` (needed only when keys are
    lower-cased) -/
theorem C02_escdec_fixed_point_tb (d : DecCfg) (S : Strconv) (e : EncCfg) (hs : SymEsc d e)
    (hlow : d.lowerCase = true → LowerLaw S)
    (sp name : Str) (attrs : List Attr) (kids : List Node)
    (hd : Conv.inDomain d S (.elem sp name attrs kids) = true)
    (hnames : NamesOkG d S e (.elem sp name attrs kids) = true) :
    ∃ root, Conv.doc d S (.elem sp name attrs kids) = .map [root] ∧
      ∃ n, encTree e root.1 root.2.norm = .ok [n] ∧
        ∃ n', rawView n = some n'
          ∧ Conv.doc d S n' ≈ᵥ Conv.doc d S (.elem sp name attrs kids) :=
  C02_escdec_fixed_point d S e hs (FoldLaw_of d S hlow) sp name attrs kids hd hnames

/-- default conventions: decoder `{ escDec := true }`, encoder `{}` (escaping off) -/
theorem C02_escdec_fixed_point_default (S : Strconv) (sp name : Str) (attrs : List Attr)
    (kids : List Node)
    (hd : Conv.inDomain { escDec := true } S (.elem sp name attrs kids) = true)
    (hnames : NamesOkG { escDec := true } S {} (.elem sp name attrs kids) = true) :
    ∃ root, Conv.doc { escDec := true } S (.elem sp name attrs kids) = .map [root] ∧
      ∃ n, encTree {} root.1 root.2.norm = .ok [n] ∧
        ∃ n', rawView n = some n'
          ∧ Conv.doc { escDec := true } S n'
              ≈ᵥ Conv.doc { escDec := true } S (.elem sp name attrs kids) :=
  -- `textK_not_attr` speaks of `ec`; `isAttrK` reads the prefix only, which `{}` shares
  C02_escdec_fixed_point_tb { escDec := true } S {} ⟨rfl, rfl, textK_not_attr, rfl, rfl, rfl, rfl⟩
    nofun sp name attrs kids hd hnames

/-! ### the tokenizer law for raw text, and the fixed point through bytes -/

/-- The law of the XML tokenizer (`xml.Decoder.RawToken` on the bytes, collected until EOF) for
    the canonical rendering, with the encoder's escaping OFF, of a tree
    `n` whose text nodes and attribute values are RAW strings.  If every value `r` of `n` is
    well-formed character data — `unesc r = some v`: no bare '&', no unknown entity, no raw '<'
    (`rawView n = some n'`, `n'` the tree of the `v`s) — and contains no raw '>' or '"'
    (`rawSafe`: no "]]>", no attribute delimiter), and `n'` is a canonical well-named tree
    (`WellNamed`, as in `TokLaw`), then the tokens are the token sequence of `n'`: the tokenizer
    hands over `v` for the raw text `r`.  `TokLaw` (escaping on) is the special case
    `r = escapeChars v` (`C02_escdec_raw_law_implies_law`).  A hypothesis of the byte-level theorem
    below; `C02_tok_law_raw` (Props/C02ExtTok) proves it for the tokenizer model `Tokz.tokens`, and
    what is trusted is that the model agrees with `encoding/xml` (DESIGN §6). -/
structure TokLawRaw (tokens : Str → List Tok) : Prop where
  render_raw : ∀ (cfg : EncCfg) (n n' : Node), cfg.escape = false → rawView n = some n' →
    rawSafe n = true → WellNamed n' = true → tokens (render cfg n) = flatten n'

/-- the raw law implies the law `C02_fixed_point_bytes` uses: writing `escapeChars v` raw is
    what the encoder with escaping on does -/
theorem C02_escdec_raw_law_implies_law {tokens : Str → List Tok} (law : TokLawRaw tokens) : TokLaw tokens := by
  constructor
  intro cfg n hesc hW
  rw [render_escaped cfg hesc]
  exact law.render_raw (escOff cfg) _ n rfl (rawView_mapNode_escape n)
    (rawSafe_mapNode_escape n) hW

/-- XML → Map → XML → Map through bytes under decoder-side escaping: decode the token stream of
    an in-domain tree `t` with `d` (`newMapXml`; the Map holds escaped strings), encode the Map
    with `mv.Xml()` under `e` (`mapXml`, the encoder's escaping off: the strings are written
    raw), tokenize the bytes (`tokens`, TB-XML-RAW) and decode again with `d`: the second Map is
    equivalent to the first.  `hwn`, as in `C02_fixed_point_bytes`: the tree the tokenizer sees
    — the encoder's tree for the PLAIN Map — is well-named (executable predicate). -/
theorem C02_escdec_fixed_point_bytes (tokens : Str → List Tok) (law : TokLawRaw tokens)
    (d : DecCfg) (S : Strconv) (e : EncCfg) (hs : SymEsc d e) (hF : FoldLaw d S)
    (fin : StreamEnd) (pre post : List Tok) (hpre : ∀ t ∈ pre, ¬ isStart t)
    (sp name : Str) (attrs : List Attr) (kids : List Node)
    (hd : Conv.inDomain d S (.elem sp name attrs kids) = true)
    (hadj : noAdjText (.elem sp name attrs kids) = true)
    (hnames : NamesOkG d S e (.elem sp name attrs kids) = true)
    (hwn : ∀ n0, encTree e (elemKey d S name)
        (Conv.value (plainOf d) S (.elem sp name attrs kids)).norm = .ok [n0] →
        WellNamed n0 = true) :
    ∃ m out m',
      newMapXml d S (pre ++ flatten (.elem sp name attrs kids) ++ post) fin = .ok (.map m)
      ∧ mapXml e m none = .ok out
      ∧ newMapXml d S (tokens out) fin = .ok m'
      ∧ m' ≈ᵥ .map m := by
  obtain ⟨n0, hn0e, hn, hfp, hdom, ⟨a', k', rfl⟩, hSO, hnl⟩ :=
    C02_escdec_core d S e hs hF sp name attrs kids hd hnames
  -- first decode, and encode: the bytes are the rendering of the encoder's tree
  obtain ⟨x, hx, hxe, hbytes⟩ := decode_encode_bytes e fin pre post hpre sp name attrs kids hd hadj
    hnl (StrOnly_Plain e _ hSO) hn
  -- tokenize and decode again
  have hW := hwn _ hn0e
  obtain ⟨m', hm', hme⟩ := C01.C01_decode_conventions d S fin [] [] (by simp) []
    (elemKey d S name) a' k' hdom (noAdjText_of_wellNamed hW)
  refine ⟨_, _, m', hx, hbytes, ?_, ?_⟩
  · rw [law.render_raw e _ _ hs.enc_off (rawView_mapNode_escape _) (rawSafe_mapNode_escape _) hW]
    simpa using hm'
  · exact Val.equiv_trans hme (Val.equiv_trans hfp (Val.equiv_symm (equiv_singleton_map hxe)))

/-! ### Part 3: decode followed by encode reproduces the original escaped values -/

/-- the raw strings the encoder writes for the decoder-escaped Map are exactly `escapeChars` of
    the values of the plain Map: with `n0` the tree the encoder builds for the plain Map (values
    unescaped) and `n` the tree it builds for the decoder-escaped Map (values written raw),
    `n = mapNode escapeChars n0`; the bytes written for `n` with the encoder's escaping off are
    the bytes encoder-side escaping would have written for the plain Map; and every raw string
    `r` is `escapeChars v` for a value `v` of `n0`, is read back as `v`, contains no raw
    `<`, `>`, `"`, `'`, and each of its `&` opens one of the five predefined entities. -/
theorem C02_escdec_values_reproduced (d : DecCfg) (S : Strconv) (e : EncCfg) (hs : SymEsc d e)
    (hF : FoldLaw d S) (sp name : Str) (attrs : List Attr) (kids : List Node)
    (hd : Conv.inDomain d S (.elem sp name attrs kids) = true)
    (hnames : NamesOkG d S e (.elem sp name attrs kids) = true) :
    ∃ n0 n,
      encTree e (elemKey d S name) (Conv.value (plainOf d) S (.elem sp name attrs kids)).norm
        = .ok [n0]
      ∧ encTree e (elemKey d S name) (Conv.value d S (.elem sp name attrs kids)).norm = .ok [n]
      ∧ n = mapNode escapeChars n0
      ∧ nodeVals n = (nodeVals n0).map escapeChars
      ∧ render e n = render (escOn e) n0
      ∧ ∀ r ∈ nodeVals n,
          (∃ v ∈ nodeVals n0, r = escapeChars v ∧ unesc r = some v)
          ∧ (∀ c ∈ r, c ≠ '<' ∧ c ≠ '>' ∧ c ≠ '"' ∧ c ≠ '\'')
          ∧ (∀ t, ('&' :: t) <:+ r → ∃ ent ∈ entityTexts, ent <+: ('&' :: t)) := by
  obtain ⟨n0, hn0e, hn, _⟩ := C02_escdec_core d S e hs hF sp name attrs kids hd hnames
  refine ⟨n0, mapNode escapeChars n0, hn0e, hn, rfl, nodeVals_mapNode escapeChars n0,
    render_mapNode_escape e hs.enc_off n0, ?_⟩
  intro r hr
  rw [nodeVals_mapNode] at hr
  obtain ⟨v, hv, rfl⟩ := List.mem_map.1 hr
  exact ⟨⟨v, hv, rfl, C05.C05_unescape_escape v⟩, C05.C05_escaped_no_specials v,
    fun t ht => C05.C05_escaped_amp_is_entity v t ht⟩

/-- the values alone, without reference to the trees: whatever single string the encoder writes
    raw for the decoder-escaped Map is well-formed character data free of raw specials -/
theorem C02_escdec_values_wellformed (d : DecCfg) (S : Strconv) (e : EncCfg) (hs : SymEsc d e)
    (hF : FoldLaw d S) (sp name : Str) (attrs : List Attr) (kids : List Node)
    (hd : Conv.inDomain d S (.elem sp name attrs kids) = true)
    (hnames : NamesOkG d S e (.elem sp name attrs kids) = true)
    (n : Node)
    (hn : encTree e (elemKey d S name) (Conv.value d S (.elem sp name attrs kids)).norm = .ok [n]) :
    rawSafe n = true ∧ (rawView n).isSome = true := by
  obtain ⟨n0, _, hn', _⟩ := C02_escdec_core d S e hs hF sp name attrs kids hd hnames
  cases hn'.symm.trans hn
  exact ⟨rawSafe_mapNode_escape n0, by rw [rawView_mapNode_escape]; rfl⟩

/-! ### Part 4: non-vacuity, and why both switches on breaks the fixed point -/

/-- decoder-side escaping on, everything else default; encoder with its own escaping off -/
def dE : DecCfg := { escDec := true }
def eE : EncCfg := {}

theorem C02_escdec_example_sym : SymEsc dE eE := ⟨rfl, rfl, textK_not_attr, rfl, rfl, rfl, rfl⟩
theorem C02_escdec_example_fold : FoldLaw dE S0 := FoldLaw_of dE S0 nofun

/-- the document `<r k="&quot;q&quot;"> a&amp;b&lt;c <i/></r>` as the tokenizer hands it over:
    attribute value `"q"`, text ` a&b<c ` -/
def escTree : Node :=
  .elem [] "r".toList [⟨[], "k".toList, "\"q\"".toList⟩]
    [.text " a&b<c ".toList, .elem [] "i".toList [] []]

example : Conv.inDomain dE S0 escTree = true := by decide +kernel
example : NamesOkG dE S0 eE escTree = true := by decide +kernel

/-- the plain Map … -/
example : Conv.doc (plainOf dE) S0 escTree = .map [("r".toList, .map
    [("-k".toList, .str "\"q\"".toList), ("i".toList, .str []),
     ("#text".toList, .str "a&b<c".toList)])] := by decide +kernel

/-- … and the Map under decoder-side escaping: the same with every string leaf escaped -/
def escMap : Val := .map
    [("-k".toList, .str "&quot;q&quot;".toList), ("i".toList, .str []),
     ("#text".toList, .str "a&amp;b&lt;c".toList)]

example : Conv.doc dE S0 escTree = .map [("r".toList, escMap)] := by decide +kernel
example : Conv.doc dE S0 escTree = mapLeaves escapeChars (Conv.doc (plainOf dE) S0 escTree) :=
  C02_escdec_stored_escaped dE (plainOf dE) S0 (C02_escdec_sym_pair C02_escdec_example_sym) escTree

/-- the tree the encoder builds for it (values raw), its bytes with the encoder's escaping off … -/
def escEncTree : Node :=
  .elem [] "r".toList [⟨[], "k".toList, "&quot;q&quot;".toList⟩]
    [.text "a&amp;b&lt;c".toList, .elem [] "i".toList [] []]

theorem encTree_escMap : encTree eE "r".toList escMap.norm = .ok [escEncTree] := by decide +kernel

example : encTree eE "r".toList escMap.norm = .ok [escEncTree] := encTree_escMap
example : render eE escEncTree = "<r k=\"&quot;q&quot;\">a&amp;b&lt;c<i/></r>".toList := by
  -- the kernel unfolds `String.toList` of a literal through the UTF-8 decoding of its bytes, at a
  -- cost quadratic in its length: a long literal is first turned into its list of characters
  repeat rw [String.toList_ofList]
  decide +kernel
example : mapXml eE [("r".toList, escMap)] none
    = .ok "<r k=\"&quot;q&quot;\">a&amp;b&lt;c<i/></r>".toList := by
  repeat rw [String.toList_ofList]
  decide +kernel

/-- … what the tokenizer reads back: the original values (text now trimmed) … -/
def escBackTree : Node :=
  .elem [] "r".toList [⟨[], "k".toList, "\"q\"".toList⟩]
    [.text "a&b<c".toList, .elem [] "i".toList [] []]

theorem rawView_escEncTree : rawView escEncTree = some escBackTree := by decide +kernel

example : rawView escEncTree = some escBackTree := rawView_escEncTree
example : rawSafe escEncTree = true := by decide +kernel
example : WellNamed escBackTree = true := by decide +kernel

/-- … and the second decoding gives the same Map: the fixed point, computed -/
example : Conv.doc dE S0 escBackTree = .map [("r".toList, escMap)] := by decide +kernel

/-- the theorems apply to the document -/
example : ∃ root, Conv.doc dE S0 escTree = .map [root] ∧
    ∃ n, encTree eE root.1 root.2.norm = .ok [n] ∧
      ∃ n', rawView n = some n' ∧ Conv.doc dE S0 n' ≈ᵥ Conv.doc dE S0 escTree :=
  C02_escdec_fixed_point dE S0 eE C02_escdec_example_sym C02_escdec_example_fold _ _ _ _
    (by decide +kernel) (by decide +kernel)

example : ∃ root, Conv.doc dE S0 escTree = .map [root] ∧
    ∃ n, encTree eE root.1 root.2.norm = .ok [n] ∧
      ∃ n', rawView n = some n' ∧ Conv.doc dE S0 n' ≈ᵥ Conv.doc dE S0 escTree :=
  ⟨("r".toList, escMap), by decide +kernel, escEncTree, encTree_escMap, escBackTree,
    rawView_escEncTree, by decide +kernel⟩

/-- the first decoding through the stream decoder, computed (entries in parser order) -/
example : newMapXml dE S0 (flatten escTree) .eof = .ok (.map [("r".toList, .map
    [("-k".toList, .str "&quot;q&quot;".toList), ("#text".toList, .str "a&amp;b&lt;c".toList),
     ("i".toList, .str [])])]) := by
  repeat rw [String.toList_ofList]
  decide +kernel

/-- the premises of `C02_escdec_fixed_point_bytes` other than the tokenizer law hold for the
    document: under `TokLawRaw` the round trip through bytes is a fixed point -/
example (tokens : Str → List Tok) (law : TokLawRaw tokens) :
    ∃ m out m', newMapXml dE S0 ([] ++ flatten escTree ++ []) .eof = .ok (.map m)
      ∧ mapXml eE m none = .ok out ∧ newMapXml dE S0 (tokens out) .eof = .ok m'
      ∧ m' ≈ᵥ .map m :=
  C02_escdec_fixed_point_bytes tokens law dE S0 eE C02_escdec_example_sym C02_escdec_example_fold
    .eof [] [] (by simp) _ _ _ _ (by decide +kernel) (by decide +kernel) (by decide +kernel) (by
      intro n0 (h : encTree eE (elemKey dE S0 "r".toList)
        (Conv.value (plainOf dE) S0 escTree).norm = .ok [n0])
      have h' : (match encTree eE (elemKey dE S0 "r".toList)
          (Conv.value (plainOf dE) S0 escTree).norm with
        | .ok [m] => WellNamed m
        | _ => true) = true := by decide +kernel
      rw [h] at h'
      exact h')

/-- both switches on: the encoder escapes the already escaped strings, the tokenizer undoes one
    level only, and the decoder escapes again — the stored "&amp;" comes back as "&amp;amp;".
    At tree level (`TokLaw`: with the encoder's escaping on, the second decoding sees the
    encoder's tree itself) this is `¬ FixedPointAt` for the decoder `dE` and the escaping encoder
    `ec`; the root cause is that `escapeChars` is not idempotent. -/
theorem C02_escdec_double_escape_witness :
    escapeChars (escapeChars "&".toList) ≠ escapeChars "&".toList :=
  C05.C05_double_escape_witness

theorem C02_escdec_both_switches_witness :
    Conv.inDomain dE S0 escTree = true ∧ NamesOkG dE S0 ec escTree = true
      ∧ ¬ FixedPointAt dE S0 ec escTree := by
  refine ⟨by decide +kernel, by decide +kernel, ?_⟩
  rw [← fpCheck_iff]; decide +kernel

/-- what comes back with both switches on, computed: the leaves are escaped twice -/
example : ∃ n, encTree ec "r".toList escMap.norm = .ok [n]
    ∧ Conv.doc dE S0 n = .map [("r".toList, .map
        [("-k".toList, .str "&amp;quot;q&amp;quot;".toList), ("i".toList, .str []),
         ("#text".toList, .str "a&amp;amp;b&amp;lt;c".toList)])] := by
  repeat rw [String.toList_ofList]
  exact ⟨_, rfl, by decide +kernel⟩

/-- and with NEITHER switch on the stored strings are written raw unescaped: the bytes of the
    plain Map are not well-formed (`rawView` fails on the raw '&' / '<') -/
example : ∃ n, encTree eE "r".toList
      (.map [("-k".toList, .str "\"q\"".toList), ("#text".toList, .str "a&b<c".toList)]) = .ok [n]
    ∧ rawView n = none := ⟨_, rfl, by decide +kernel⟩

end Mxj.C02
