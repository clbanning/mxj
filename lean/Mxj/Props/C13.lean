/-
  Mxj.Props.C13 — stream decoding is independent of how the reader delivers bytes.

  Model: Mxj.Model.Stream — delivery schedules (`Rd`, `Sched`, `bytesOf`), the repaired byte
  adaptors (`readByte`, `drain`, `teeReadByte`) and the `getJson` scanner.  Helper lemmas and the
  vocabulary used below live in Mxj.Lemmas.Stream (namespace `Mxj.Stream`):
    `upToEnd s`   the prefix of `s` before its first (0,EOF)/(0,error) entry
    `endErr s`    the error that entry carries (EOF when the schedule just runs out)
    `NoFail s`    no (0,error) entry
    `WF s`        nothing but (0,EOF)/(0,error) follows a byte delivered together with io.EOF
    `EndsOnce s`  no byte is delivered after a (0,EOF)/(0,error) read
    `Tame s`      no (0,error) entry is reached, no byte after a (0,EOF) entry
    `Item`, `StrCh`, `flat`, `flatNoWs`   generator of object texts, independent of the scanner
    `readAll`     iterate `getJson` until it returns something else than a document
  Property theorems and non-vacuity examples only.
-/
import Mxj.Lemmas.Stream
namespace Mxj.C13
open Mxj Mxj.Stream

/-- the adaptor is transparent: the bytes ReadByte delivers, until its first error, are exactly
    the data bytes the schedule carries before the first (0,EOF)/(0,error) entry, in order, each
    once — whatever zero-length reads are interspersed and whether or not the last byte came
    with io.EOF.  Holds for EVERY schedule. -/
theorem C13_adaptor_transparent (s : Sched) :
    (drain (s.length + 1) s).1 = bytesOf (upToEnd s) := by
  rw [drain_eq s _ (Nat.lt_succ_self _)]

/-- the same for every sufficient fuel, together with the error that ended the run -/
theorem C13_adaptor_transparent_fuel (s : Sched) (n : Nat) (hn : s.length < n) :
    drain n s = (bytesOf (upToEnd s), endErr s) :=
  drain_eq s n hn

/-- without (0, error) entries the run ends with io.EOF — also right after a last byte that
    was delivered together with io.EOF, and also when the schedule just runs out -/
theorem C13_adaptor_eof_after_last (s : Sched) (h : NoFail s) :
    (drain (s.length + 1) s).2 = .eof := by
  rw [drain_eq s _ (Nat.lt_succ_self _)]; exact endErr_noFail s h

/-- no byte is lost: when nothing is delivered after a (0,EOF)/(0,error) read, ReadByte
    delivers ALL data bytes of the schedule -/
theorem C13_adaptor_lossless (s : Sched) (h : EndsOnce s = true) :
    (drain (s.length + 1) s).1 = bytesOf s := by
  rw [C13_adaptor_transparent, bytesOf_upToEnd s h]

/-- the historically dropped byte: in a well-formed schedule whose last data byte `b` arrives
    together with io.EOF (after any mixture `a` of bytes and zero-length reads), `b` is
    delivered, as the last byte -/
theorem C13_adaptor_last_byte_with_eof (a : Sched) (b : Char) (r : Sched)
    (ha : ∀ x ∈ a, x.isEnd = false) (hwf : WF (a ++ .byte b true :: r) = true) :
    (drain ((a ++ .byte b true :: r).length + 1) (a ++ .byte b true :: r)).1
      = bytesOf a ++ [b] := by
  rw [C13_adaptor_transparent, upToEnd_append_noEnd a _ ha, bytesOf_append]
  simp [upToEnd, bytesOf, upToEnd_allEnd r (wf_after_eof_byte a b r hwf)]

/-- the tee adaptor delivers the same byte and the same remaining schedule as `readByte`, and
    appends exactly that byte to `w` (and nothing on error) -/
theorem C13_tee_same (w : Str) (s : Sched) :
    (teeReadByte w s).1 = (readByte s).1 ∧ (teeReadByte w s).2.1 = (readByte s).2 ∧
    (teeReadByte w s).2.2 = (match (readByte s).1 with
                              | .ok b => w ++ [b]
                              | .error _ => w) := by
  unfold teeReadByte
  cases h : readByte s with
  | mk r rest => cases r <;> simp

/-- the side condition in words: no (0,error) entry, and no byte after a (0,EOF) entry -/
theorem C13_tame_of (s : Sched) (h1 : NoFail s)
    (h2 : ∀ a b, s = a ++ Rd.zeroEof :: b → bytesOf b = []) : Tame s = true :=
  tame_of_noFail s h1 h2

/-- the scanner does not depend on the schedule, only on the bytes (from every scanner state) -/
theorem C13_getjson_schedule_free (s : Sched) (st : JState) (hs : Tame s = true) :
    (getJson s st).1 = (getJson (plain (bytesOf s)) st).1 := by
  rw [(getJson_tame s st hs).1]

/-- … and it consumes exactly the reads up to and including the one that delivered the closing
    brace: the bytes left unread are the same as with the plain one-byte-per-read schedule -/
theorem C13_getjson_no_overread (s : Sched) (st : JState) (hs : Tame s = true) :
    bytesOf (getJson s st).2 = bytesOf (getJson (plain (bytesOf s)) st).2 := by
  rw [(getJson_tame s st hs).1, bytesOf_plain]

/-- what is left unread is a suffix of the schedule (nothing is re-ordered or invented) -/
theorem C13_getjson_rest_suffix (s : Sched) (st : JState) : (getJson s st).2 <:+ s :=
  getJson_suffix s st

/-- `Tame` cannot be dropped: a (0,error) read before the object changes the result -/
example : (getJson [.fail, .byte '{' false, .byte '}' false] {}).1
        ≠ (getJson (plain (bytesOf [.fail, .byte '{' false, .byte '}' false])) {}).1 := by
  decide +kernel

/-- for the generative grammar of object texts (`Item`; strings may contain anything, escaped
    quotes and backslashes included) the scanner returns exactly the object, minus white space
    outside strings, and leaves the rest unread.  `lead` may contain anything except braces and
    quotes (a '"' before the first '{' would open a "string" outside any object, a '}' is the
    stray-brace error). -/
theorem C13_getjson_extent (lead : Str) (hlead : ∀ c ∈ lead, c ≠ '{' ∧ c ≠ '}' ∧ c ≠ '"')
    (items : List Item) (rest : Str) :
    getJson (plain (lead ++ flat (.obj items) ++ rest)) {}
      = (.doc (flatNoWs (.obj items)), plain rest) :=
  getJson_obj lead hlead items rest

/-- the same through any tame schedule carrying those bytes -/
theorem C13_getjson_extent_sched (s : Sched) (hs : Tame s = true) (lead : Str)
    (hlead : ∀ c ∈ lead, c ≠ '{' ∧ c ≠ '}' ∧ c ≠ '"') (items : List Item) (rest : Str)
    (hb : bytesOf s = lead ++ flat (.obj items) ++ rest) :
    (getJson s {}).1 = .doc (flatNoWs (.obj items)) ∧ bytesOf (getJson s {}).2 = rest := by
  rw [C13_getjson_schedule_free s {} hs, C13_getjson_no_overread s {} hs, hb,
    getJson_obj lead hlead items rest]
  exact ⟨rfl, bytesOf_plain rest⟩

/-- the `lead` condition cannot be dropped: a quote before the object hides its braces -/
example : (getJson (plain "\"{}".toList) {}).1 = .eof [] := by decide +kernel
example : (getJson (plain "}{}".toList) {}).1 = .stray [] := by decide +kernel

/-- hence several documents one after another come out one by one, in order, then EOF -/
theorem C13_docs_in_order (docs : List (Str × List Item))
    (hlead : ∀ d ∈ docs, ∀ c ∈ d.1, c ≠ '{' ∧ c ≠ '}' ∧ c ≠ '"')
    (trail : Str) (htrail : ∀ c ∈ trail, c ≠ '{' ∧ c ≠ '}' ∧ c ≠ '"')
    (n : Nat) (hn : docs.length < n) :
    readAll n (plain (docsText docs ++ trail))
      = (docs.map (fun d => flatNoWs (.obj d.2)), some (.eof [])) :=
  readAll_docs docs hlead trail htrail n hn

/-- … through every tame schedule that carries those bytes -/
theorem C13_docs_in_order_sched (s : Sched) (hs : Tame s = true) (docs : List (Str × List Item))
    (hlead : ∀ d ∈ docs, ∀ c ∈ d.1, c ≠ '{' ∧ c ≠ '}' ∧ c ≠ '"')
    (trail : Str) (htrail : ∀ c ∈ trail, c ≠ '{' ∧ c ≠ '}' ∧ c ≠ '"')
    (hb : bytesOf s = docsText docs ++ trail) (n : Nat) (hn : docs.length < n) :
    readAll n s = (docs.map (fun d => flatNoWs (.obj d.2)), some (.eof [])) := by
  rw [readAll_sched_free n s hs, hb]
  exact readAll_docs docs hlead trail htrail n hn

/-- a schedule with zero-length reads and a last byte delivered with io.EOF -/
def exSched : Sched := [.zero, .byte 'a' false, .zero, .zero, .byte 'b' true, .zeroEof]

example : WF exSched = true ∧ EndsOnce exSched = true ∧ Tame exSched = true := by decide +kernel
example : drain (exSched.length + 1) exSched = ("ab".toList, .eof) := by decide +kernel
example : NoFail exSched := by intro r hr; revert r; decide
/-- the pre-repair behaviour would have lost 'b' (it arrived with io.EOF) -/
example : (drain 7 exSched).1 = bytesOf exSched := by decide +kernel

/-- a stream of two objects, the first holds a string ending in an escaped backslash:
    `{"a": "x\\"} {"b":1}` -/
def exText : Str := "{\"a\": \"x\\\\\"} {\"b\":1}\n".toList

example : readAll 3 (plain exText)
    = (["{\"a\":\"x\\\\\"}".toList, "{\"b\":1}".toList], some (.eof [])) := by
  -- the kernel unfolds `String.toList` of a literal through the UTF-8 decoding of its bytes, at a
  -- cost quadratic in its length: a long literal is first turned into its list of characters
  unfold exText
  repeat rw [String.toList_ofList]
  decide +kernel

/-- the same text is generated by the grammar -/
def exDocs : List (Str × List Item) :=
  [ ([], [.str [.plain 'a' (by decide)], .ch ':' (by decide), .ws ' ' (by decide),
          .str [.plain 'x' (by decide), .esc '\\']]),
    ([' '], [.str [.plain 'b' (by decide)], .ch ':' (by decide), .ch '1' (by decide)]) ]

example : docsText exDocs ++ ['\n'] = exText := by
  unfold exText
  repeat rw [String.toList_ofList]
  decide +kernel
example : exDocs.map (fun d => flatNoWs (.obj d.2))
    = ["{\"a\":\"x\\\\\"}".toList, "{\"b\":1}".toList] := by
  repeat rw [String.toList_ofList]
  decide +kernel

/-- the same text delivered with zero-length reads in between and its last byte with io.EOF -/
def exTextSched : Sched :=
  (exText.dropLast.flatMap fun c => [.zero, .byte c false]) ++ [.byte '\n' true, .zeroEof]

example : bytesOf exTextSched = exText ∧ Tame exTextSched = true := by
  unfold exTextSched exText
  repeat rw [String.toList_ofList]
  decide +kernel
example : readAll 3 exTextSched
    = (["{\"a\":\"x\\\\\"}".toList, "{\"b\":1}".toList], some (.eof [])) := by
  unfold exTextSched exText
  repeat rw [String.toList_ofList]
  decide +kernel

/-- braces, quotes and white space inside strings do not count -/
example : getJson (plain "{\"k\":\"} \\\" {\"}tail".toList) {}
    = (.doc "{\"k\":\"} \\\" {\"}".toList, plain "tail".toList) := by
  repeat rw [String.toList_ofList]
  decide +kernel

end Mxj.C13
