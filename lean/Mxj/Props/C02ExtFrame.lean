/-
  Mxj.Props.C02ExtFrame — frame of C02's API over the package-level state, on facts regenerated from
  /repo's current source on every run: the Map decoder and the Map XML encoders read the documented
  decoder and encoder options (with the text key, the escape table and the length of the attribute
  prefix), nothing else - in particular no variable added later;
  and none of them (nor any function they can reach) assigns a package-level variable, so what they
  return is a function of their arguments and of exactly those variables - no hidden state carried
  from one call to the next.
-/
import Mxj.Lemmas.Facts
namespace Mxj.C02
open Mxj

/-- the package-level variables C02's functions may read -/
def frameAllowed : List String := ["CustomDecoder", "XmlCharsetReader", "attrPrefix", "castNanInf", "castToBool", "castToFloat", "castToInt", "checkTagToSkip", "decodeSimpleValuesAsMap", "escapechars", "handleXMPPStreamTag", "includeTagSeqNum", "lenAttrPrefix", "lowerCase", "snakeCaseKeys", "textK", "trimRunes", "useGoXmlEmptyElemSyntax", "xmlCheckIsValid", "xmlEscapeChars", "xmlEscapeCharsDecoder"]

theorem frame_cert :
    Facts.cert Generated.c02FrameRoots Generated.c02FrameRootsClosure (Facts.frameOk frameAllowed)
      = true := by decide +kernel

theorem C02_frame_reads (root g v : String) (hr : root ∈ Generated.c02FrameRoots)
    (h : Facts.Reach root g) (hv : v ∈ Facts.readsOf g) : v ∈ frameAllowed :=
  Facts.reads_of_frame frame_cert hr h hv

theorem C02_frame_no_hidden_state (root g : String) (hr : root ∈ Generated.c02FrameRoots)
    (h : Facts.Reach root g) : Facts.writesOf g = [] :=
  Facts.writes_of_frame frame_cert hr h

/-- the statements are not vacuous: the API group is present in the source -/
theorem C02_frame_roots_present : Generated.c02FrameRoots.length ≥ 1 := by decide +kernel

end Mxj.C02
