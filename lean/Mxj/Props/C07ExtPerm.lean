/-
  Mxj.Props.C07ExtPerm — C07 quantifies over every hash-iteration order of every Go map.  In the
  model a map is an association list and the iteration order is the entry order; `ValPerm m m'`
  says m' is m with the entries of EVERY map (at every depth) permuted.  Answers are compared up to
  `ValPerm` too, since an answer is a sub-tree and its own maps are permuted as well.
-/
import Mxj.Lemmas.PermQuery
namespace Mxj.C07
open Mxj

/-- ValuesForPath's walker: on well-formed values the answers do not depend on map iteration
    order, up to a permutation of the answer list — for every key list and sub-key condition -/
theorem C07_perm_walk (subs : Option SubKeys) (ks : List Str) (m m' : Val)
    (hw : m.wf = true) (h : ValPerm m m') : PermR (walk subs m ks) (walk subs m' ks) :=
  walk_valperm subs ks hw h

/-- "in list order where no wildcard is involved": no wildcard key => position by position the
    same answers -/
theorem C07_perm_walk_ordered (subs : Option SubKeys) (ks : List Str) (m m' : Val)
    (hk : ∀ k ∈ ks, k ≠ ['*']) (hw : m.wf = true) (h : ValPerm m m') :
    All2 ValPerm (walk subs m ks) (walk subs m' ks) :=
  walk_valperm_ordered subs ks hk hw h

/-- the number of answers never depends on the iteration order -/
theorem C07_perm_walk_length (subs : Option SubKeys) (ks : List Str) (m m' : Val)
    (hw : m.wf = true) (h : ValPerm m m') :
    (walk subs m ks).length = (walk subs m' ks).length :=
  (walk_valperm subs ks hw h).length

/-- `oldValuesForPath` (the bracket-free branch of ValuesForPath) -/
theorem C07_perm_oldValues (subs : Option SubKeys) (path : Str) (m m' : Val)
    (hw : m.wf = true) (h : ValPerm m m') : PermR (oldValues subs m path) (oldValues subs m' path) :=
  walk_valperm subs _ hw h

/-- scalar answers are literally equal: a permuted scalar is the scalar -/
theorem C07_perm_scalar (v w : Val) (h : ValPerm v w) (hs : v.isMap = false ∧ v.isList = false) :
    w = v := by
  cases h with
  | refl => rfl
  | list _ => simp [Val.isList] at hs
  | map _ _ => simp [Val.isMap] at hs

private def s (x : String) : Str := x.toList
private def mA : Val := .map [(s "a", .map [(s "x", .str (s "1")), (s "y", .str (s "2"))]),
                              (s "b", .list [.map [(s "p", .num (s "i:1")), (s "q", .null)]])]
/-- the same Go value ranged over in another order, at both depths -/
private def mB : Val := .map [(s "b", .list [.map [(s "q", .null), (s "p", .num (s "i:1"))]]),
                              (s "a", .map [(s "y", .str (s "2")), (s "x", .str (s "1"))])]

example : mA.wf = true := by decide +kernel

example : ValPerm mA mB :=
  .map (mid := [(s "b", .list [.map [(s "p", .num (s "i:1")), (s "q", .null)]]),
                (s "a", .map [(s "x", .str (s "1")), (s "y", .str (s "2"))])])
    (List.Perm.swap _ _ _)
    (.cons _ (.list (.cons (.map (List.Perm.swap _ _ _)
        (.cons _ (.refl _) (.cons _ (.refl _) .nil))) .nil))
      (.cons _ (.map (List.Perm.swap _ _ _) (.cons _ (.refl _) (.cons _ (.refl _) .nil))) .nil))

/-- with a wildcard the ORDER does change: equality would be false -/
example : walk none mA [s "a", ['*']] = [.str (s "1"), .str (s "2")]
    ∧ walk none mB [s "a", ['*']] = [.str (s "2"), .str (s "1")] := by
  decide +kernel

/-- without a wildcard the order is kept -/
example : walk none mA [s "a", s "x"] = walk none mB [s "a", s "x"] := by
  decide +kernel

/-- well-formedness is needed: with a duplicate key, a permutation changes the look-up -/
example : lookup (s "k") [(s "k", Val.null), (s "k", Val.bool true)]
    ≠ lookup (s "k") [(s "k", Val.bool true), (s "k", Val.null)] := by
  decide +kernel

end Mxj.C07
