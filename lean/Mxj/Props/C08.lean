/-
  Mxj.Props.C08 — ValuesForKey / PathsForKey / PathForKeyShortest and the sub-key predicate
  against their specifications.

  Model: Mxj.Model.Path (hasSubKeys, hasKey, hasKeyPath, pathsForKey, shortestOf).
  Specification: Mxj.Model.KeySpec (subPred, valuesForKey, pathsForKey), written
  independently of the model.
-/
import Mxj.Lemmas.Key
namespace Mxj.C08
open Mxj

/-- the implementation's sub-key test is the documented predicate -/
theorem C08_subpred_doc (v : Val) (subs : SubKeys) :
    hasSubKeys v subs = KeySpec.subPred subs v := by
  unfold hasSubKeys KeySpec.subPred
  cases subs.isEmpty
  · cases v with
    | map mv => exact congrArg subs.all (funext fun (k, sv) => subCond_eq_condHolds mv k sv)
    | _ => rfl
  · rfl

/-- sub-keys only filter: the result with conditions is the unfiltered result, filtered -/
theorem C08_filter (key : Str) (subs : SubKeys) (m : Val) :
    hasKey key subs m = (hasKey key [] m).filter (fun v => hasSubKeys v subs) :=
  hasKey_filter key subs m

/-- ValuesForKey returns exactly the values stored under the key at any depth — in this
    model even in the same order (the model iterates a map in association-list order, the
    specification in pre-order over the same association lists). -/
theorem C08_values_spec_eq (key : Str) (subs : SubKeys) (m : Val) (hwf : m.wf = true)
    (hstar : key = ['*'] → KeySpec.noStarKey m = true) :
    hasKey key subs m = KeySpec.valuesForKey key subs m := by
  rw [C08_filter, hasKey_eq_nodes key m hwf hstar]
  unfold KeySpec.valuesForKey KeySpec.allUnder
  congr 1
  funext v
  exact C08_subpred_doc v subs

/-- ValuesForKey returns exactly (as a multiset) the values stored under the key at any depth -/
theorem C08_values_spec (key : Str) (subs : SubKeys) (m : Val) (hwf : m.wf = true)
    (hstar : key = ['*'] → KeySpec.noStarKey m = true) :
    List.Perm (hasKey key subs m) (KeySpec.valuesForKey key subs m) := by
  rw [C08_values_spec_eq key subs m hwf hstar]

/-- PathsForKey returns exactly the distinct dot-paths ending in the key (as a set; both sides
    duplicate-free) -/
theorem C08_paths_spec (m : Val) (key : Str) (hs : KeySpec.pathSafe m = true) :
    (∀ p, p ∈ pathsForKey m key ↔ p ∈ KeySpec.pathsForKey m key)
    ∧ (pathsForKey m key).Nodup ∧ (KeySpec.pathsForKey m key).Nodup := by
  refine ⟨?_, nodup_eraseDups _, nodup_eraseDups _⟩
  intro p
  rw [mem_pathsForKey m key hs p, KeySpec.pathsForKey]
  simp only [List.mem_eraseDups, List.mem_map, List.mem_filter, decide_eq_true_eq, and_assoc,
    eq_comm (a := p)]

/-- PathForKeyShortest's scan returns a member of minimal segment count, whatever the order -/
theorem C08_shortest (ps : List Str) (h : ps ≠ []) :
    shortestOf ps ∈ ps ∧ ∀ q ∈ ps, segCount (shortestOf ps) ≤ segCount q :=
  ⟨shortestOf_mem ps h, shortestOf_le ps⟩

/-- the values found through the paths are exactly the values ValuesForKey returns -/
theorem C08_paths_values (m : Val) (key : Str) (hwf : m.wf = true) (hs : KeySpec.pathSafe m = true)
    (hn : Denote.noListInList m = true) (hk : KeySpec.keySafe key = true) :
    List.Perm ((pathsForKey m key).flatMap fun p => oldValues none m p) (hasKey key [] m) := by
  have hP := mem_pathsForKey m key hs
  have hpk : ∀ q ∈ KeySpec.keyPaths m, pathKeys (joinDot q) = q := fun q hq =>
    pathKeys_joinDot q (fun k hk => nameOk_of_keySafe k (keyPaths_safe m hs q hq k hk))
  have h1 : ((Mxj.pathsForKey m key).flatMap fun p => oldValues none m p)
      = ((Mxj.pathsForKey m key).map pathKeys).flatMap (walk none m) := by
    rw [List.flatMap_map]; rfl
  rw [h1]
  apply walk_paths_perm key (keySafe_ne_star key hk) m
  · apply nodup_map_on pathKeys _ _ (nodup_eraseDups _)
    intro a ha b hb hab
    obtain ⟨qa, hqa, _, rfl⟩ := (hP a).1 ha
    obtain ⟨qb, hqb, _, rfl⟩ := (hP b).1 hb
    rw [hpk qa hqa, hpk qb hqb] at hab
    rw [hab]
  · intro q hq
    obtain ⟨p, hp, rfl⟩ := List.mem_map.1 hq
    obtain ⟨q', hq', hl, rfl⟩ := (hP p).1 hp
    rw [hpk q' hq']
    exact ⟨keyPaths_ne_nil m q' hq', hl,
      fun k hk' => keySafe_ne_star k (keyPaths_safe m hs q' hq' k hk')⟩
  · intro q hq hl
    apply List.mem_map.2
    exact ⟨joinDot q, (hP (joinDot q)).2 ⟨q, hq, hl, rfl⟩, hpk q hq⟩
  · exact hwf
  · exact hn

/-! ### the hypotheses are satisfiable on a non-trivial Map -/

/-- `{"a": [ {"k": 1}, {"k": 2, "b": "x"} ], "k": "top"}` -/
def sample : Val :=
  .map [(['a'], .list [.map [(['k'], .num ['1'])],
                       .map [(['k'], .num ['2']), (['b'], .str ['x'])]]),
        (['k'], .str ['t', 'o', 'p'])]

example : sample.wf = true ∧ KeySpec.pathSafe sample = true ∧ KeySpec.noStarKey sample = true
    ∧ Denote.noListInList sample = true ∧ KeySpec.keySafe ['k'] = true := by decide +kernel

example : hasKey ['k'] [] sample = [.str ['t', 'o', 'p'], .num ['1'], .num ['2']] := by
  decide +kernel

example : pathsForKey sample ['k'] = [['k'], ['a', '.', 'k']] := by decide +kernel

example : List.Perm ((pathsForKey sample ['k']).flatMap fun p => oldValues none sample p)
    [.str ['t', 'o', 'p'], .num ['1'], .num ['2']] :=
  C08_paths_values sample ['k'] (by decide +kernel) (by decide +kernel) (by decide +kernel)
    (by decide +kernel)

example : List.Perm (hasKey ['*'] [] sample) (KeySpec.valuesForKey ['*'] [] sample) :=
  C08_values_spec ['*'] [] sample (by decide +kernel) (fun _ => by decide +kernel)

example : ∀ p, p ∈ pathsForKey sample ['k'] ↔ p ∈ KeySpec.pathsForKey sample ['k'] :=
  (C08_paths_spec sample ['k'] (by decide +kernel)).1

end Mxj.C08
