/-
  Mxj.Props.C19ExtXml — file round trip, the XML-file part: `NewMapsFromXmlFile` (and the loop
  of `HandleXmlReader`) on a file of several XML documents reads the same number of Maps, in
  order, each equal to the Map its own document decodes to (hence, on C01's domain, the Map the
  documented conventions prescribe); a truncated or malformed file yields an error together
  with the Maps read so far.

  Model: Mxj.Model.FilesXml — `readMapsXml cfg S fin fuel toks acc`: `decodeTop` applied again
  and again to the tokens the previous call left unread, until io.EOF — over Mxj.Model.Decode
  (`decodeTop`, `newMapXml`) and Mxj.Model.Conv (`flatten`, `Fold.doc`, `Conv.doc`).
  (That the tokens of the concatenated bytes are the concatenated tokens, and that the decoder
  reads no byte beyond the root's end tag, is the tokenizer law TB-XML-stop: trusted here;
  Mxj.Props.C19ExtTok proves it for the tokenizer model and says what stays trusted.)
  Lemmas: Mxj.Lemmas.FilesXml (namespace `Mxj.Files`), over the results of C01 (`decodeTop` on the
  tokens of a tree is `Fold.doc`, `Fold.doc ≈ᵥ Conv.doc` on the domain).  A separator is any list
  of non-start tokens; the model's first call skips them all (for a stray end tag Go's tokenizer
  would report a syntax error instead: that case is `fin = .bad` with the tokens before it).
-/
import Mxj.Lemmas.FilesXml
namespace Mxj.C19
open Mxj Mxj.Dec Mxj.Files

/-! ### one round -/

/-- one call of `NewMapXmlReader` on the file: the separator is skipped, the first document's
    Map is returned, and exactly the tokens after its root's end tag are left unread (with the
    fuel the loop passes: number of tokens + 1) -/
theorem C19_xml_one_round (cfg : DecCfg) (S : Strconv) (fin : StreamEnd) (sep : List Tok)
    (hsep : ∀ t ∈ sep, ¬ isStart t) (sp name : Str) (attrs : List Attr) (kids : List Node)
    (rest : List Tok) :
    decodeTop cfg S fin ((sep ++ flatten (.elem sp name attrs kids) ++ rest).length + 1)
        (sep ++ flatten (.elem sp name attrs kids) ++ rest)
      = .ok (Fold.doc cfg S (.elem sp name attrs kids), rest) :=
  decodeTop_doc cfg S fin sep hsep _ rfl rest

/-! ### the file loop -/

/-- the general form: the loop over a well-formed file followed by ANY tokens `trail` reads every
    document — exactly `Fold.doc` of it, in order — and goes on with `trail` -/
theorem C19_xml_file_then (cfg : DecCfg) (S : Strconv) (fin : StreamEnd)
    (docs : List (List Tok × Node))
    (hsep : ∀ d ∈ docs, ∀ t ∈ d.1, ¬ isStart t) (helem : ∀ d ∈ docs, isElem d.2 = true)
    (f : Nat) (trail : List Tok) (acc : List Val) :
    readMapsXml cfg S fin (docs.length + f) (fileToks docs trail) acc
      = readMapsXml cfg S fin f trail ((docs.map (fun d => Fold.doc cfg S d.2)).reverse ++ acc) :=
  readMapsXml_file cfg S fin docs hsep helem f trail acc

/-- the file loop for either end of the stream: every document's Map, in order; an error exactly
    when the tokenizer reports something other than io.EOF after the last separator -/
theorem C19_xml_file_any_end (cfg : DecCfg) (S : Strconv) (fin : StreamEnd)
    (docs : List (List Tok × Node))
    (hsep : ∀ d ∈ docs, ∀ t ∈ d.1, ¬ isStart t) (helem : ∀ d ∈ docs, isElem d.2 = true)
    (trail : List Tok) (htrail : ∀ t ∈ trail, ¬ isStart t) (f : Nat) (hf : docs.length < f) :
    readMapsXml cfg S fin f (fileToks docs trail) []
      = ⟨docs.map (fun d => Fold.doc cfg S d.2), decide (fin = .bad)⟩ :=
  readMapsXml_file_end cfg S fin docs hsep helem trail
    (decodeTop_sep cfg S fin trail htrail) f hf

/-- headline: a file `sep₀ t₁ sep₁ t₂ … tₙ sepₙ` ending with io.EOF is read Map by Map — same
    number, same order, the i-th Map is `Fold.doc` of the i-th document — and no error -/
theorem C19_xml_file (cfg : DecCfg) (S : Strconv) (docs : List (List Tok × Node))
    (hsep : ∀ d ∈ docs, ∀ t ∈ d.1, ¬ isStart t) (helem : ∀ d ∈ docs, isElem d.2 = true)
    (trail : List Tok) (htrail : ∀ t ∈ trail, ¬ isStart t) (f : Nat) (hf : docs.length < f) :
    readMapsXml cfg S .eof f (fileToks docs trail) []
      = ⟨docs.map (fun d => Fold.doc cfg S d.2), false⟩ :=
  C19_xml_file_any_end cfg S .eof docs hsep helem trail htrail f hf

/-- … and when the tokenizer reports a syntax error instead of io.EOF after the last document
    (trailing garbage that is not a start tag: Go's tokenizer hands over what it could tokenize
    and then the error): all the Maps read so far, together with the error -/
theorem C19_xml_file_bad_end (cfg : DecCfg) (S : Strconv) (docs : List (List Tok × Node))
    (hsep : ∀ d ∈ docs, ∀ t ∈ d.1, ¬ isStart t) (helem : ∀ d ∈ docs, isElem d.2 = true)
    (trail : List Tok) (htrail : ∀ t ∈ trail, ¬ isStart t) (f : Nat) (hf : docs.length < f) :
    readMapsXml cfg S .bad f (fileToks docs trail) []
      = ⟨docs.map (fun d => Fold.doc cfg S d.2), true⟩ :=
  C19_xml_file_any_end cfg S .bad docs hsep helem trail htrail f hf

/-- "each equal to the Map its own encoding decodes to": no error, the same number of Maps, and
    the i-th Map read is what `NewMapXml` returns for the i-th document alone (with or without
    its separator in front, whatever the end of that stream) -/
theorem C19_xml_file_same_as_single (cfg : DecCfg) (S : Strconv) (docs : List (List Tok × Node))
    (hsep : ∀ d ∈ docs, ∀ t ∈ d.1, ¬ isStart t) (helem : ∀ d ∈ docs, isElem d.2 = true)
    (trail : List Tok) (htrail : ∀ t ∈ trail, ¬ isStart t) (f : Nat) (hf : docs.length < f) :
    ∃ rs, readMapsXml cfg S .eof f (fileToks docs trail) [] = ⟨rs, false⟩ ∧
      rs.length = docs.length ∧
      ∀ (i : Nat) (h1 : i < rs.length) (h2 : i < docs.length) (fin : StreamEnd),
        newMapXml cfg S (flatten docs[i].2) fin = .ok rs[i] ∧
        newMapXml cfg S (docs[i].1 ++ flatten docs[i].2) fin = .ok rs[i] := by
  refine ⟨_, C19_xml_file cfg S docs hsep helem trail htrail f hf, by simp, ?_⟩
  intro i h1 h2 fin
  rw [List.getElem_map]
  have hm := List.getElem_mem h2
  exact ⟨newMapXml_doc cfg S fin [] nofun _ (helem _ hm),
    newMapXml_doc cfg S fin _ (hsep _ hm) _ (helem _ hm)⟩

/-- on C01's domain the Maps read are the Maps the documented conventions prescribe: no error,
    the same number, and the i-th Map read is `Conv.doc` of the i-th document up to the order of
    entries -/
theorem C19_xml_file_conventions (cfg : DecCfg) (S : Strconv) (docs : List (List Tok × Node))
    (hsep : ∀ d ∈ docs, ∀ t ∈ d.1, ¬ isStart t) (helem : ∀ d ∈ docs, isElem d.2 = true)
    (hdom : ∀ d ∈ docs, Conv.inDomain cfg S d.2 = true) (hadj : ∀ d ∈ docs, noAdjText d.2 = true)
    (trail : List Tok) (htrail : ∀ t ∈ trail, ¬ isStart t) (f : Nat) (hf : docs.length < f) :
    ∃ rs, readMapsXml cfg S .eof f (fileToks docs trail) [] = ⟨rs, false⟩ ∧
      rs.length = docs.length ∧
      ∀ (i : Nat) (h1 : i < rs.length) (h2 : i < docs.length),
        rs[i] ≈ᵥ Conv.doc cfg S docs[i].2 := by
  refine ⟨_, C19_xml_file cfg S docs hsep helem trail htrail f hf, by simp, ?_⟩
  intro i h1 h2
  rw [List.getElem_map]
  have hm := List.getElem_mem h2
  exact doc_equiv cfg S _ (fold_equiv_conv cfg S _ (hdom _ hm) (hadj _ hm))

/-- an empty file — no start tag at all: white space, a lone XML declaration, comments — is an
    empty list of Maps and no error -/
theorem C19_xml_empty_file (cfg : DecCfg) (S : Strconv) (toks : List Tok)
    (h : ∀ t ∈ toks, ¬ isStart t) (f : Nat) (hf : 0 < f) :
    readMapsXml cfg S .eof f toks [] = ⟨[], false⟩ :=
  C19_xml_file cfg S [] (by simp) (by simp) toks h f hf

/-! ### errors: the Maps read so far are returned -/

/-- after the documents of a well-formed prefix, whatever makes one more round fail — the
    tokenizer's error, a decoder error — ends the loop with an error and exactly the Maps read
    so far -/
theorem C19_xml_error_keeps_maps (cfg : DecCfg) (S : Strconv) (fin : StreamEnd)
    (docs : List (List Tok × Node))
    (hsep : ∀ d ∈ docs, ∀ t ∈ d.1, ¬ isStart t) (helem : ∀ d ∈ docs, isElem d.2 = true)
    (rest : List Tok)
    (hbad : match decodeTop cfg S fin (rest.length + 1) rest with
      | .ok _ => False
      | .eof => False
      | _ => True)
    (f : Nat) (hf : docs.length < f) :
    readMapsXml cfg S fin f (fileToks docs rest) []
      = ⟨docs.map (fun d => Fold.doc cfg S d.2), true⟩ := by
  obtain ⟨g, rfl⟩ := Nat.exists_eq_add_of_lt hf
  rw [Nat.add_assoc, C19_xml_file_then cfg S fin docs hsep helem, readMapsXml]
  generalize decodeTop cfg S fin (rest.length + 1) rest = x at hbad
  cases x with
  | ok a | eof => exact absurd hbad id
  | «syntax» | err k | panic s => simp

/-- a token stream that ends inside an element never closes it: on a proper prefix of an
    element's tokens (if non-empty it holds the start tag, since the tokens begin with it) the
    decoder runs off the end of the stream — io.EOF or the tokenizer's error, according to `fin`.
    (Go's tokenizer reports `unexpected EOF`, a syntax error, when the input ends inside an
    element: the real stream has `fin = .bad`.) -/
theorem C19_xml_cut_never_closes (cfg : DecCfg) (S : Strconv) (fin : StreamEnd) (sp name : Str)
    (attrs : List Attr) (kids : List Node) (cut : List Tok)
    (hpre : cut <+: flatten (.elem sp name attrs kids))
    (hproper : cut ≠ flatten (.elem sp name attrs kids)) (f : Nat) (hf : cut.length < f) :
    decodeTop cfg S fin f cut = (match fin with | .eof => .eof | .bad => .syntax) :=
  decodeTop_sep_prefix cfg S fin [] nofun _ rfl cut hpre hproper f hf

/-- truncation: the token stream is cut inside (or right before) document `k` — after the first
    `k` documents and the `k`-th separator comes a proper prefix `cut` of the `k`-th document's
    tokens.  The loop returns the first `k` Maps; it fails exactly when the stream's end is the
    tokenizer's error.  Go's tokenizer reports `unexpected EOF` (a syntax error, `fin = .bad`)
    when the input ends inside an element, so the real reader returns an error together with
    the Maps read so far (`C19_xml_truncated_error`); only for `cut = []` (the file ends in a
    separator) does it report io.EOF, and then there is no error. -/
theorem C19_xml_truncated (cfg : DecCfg) (S : Strconv) (fin : StreamEnd)
    (docs : List (List Tok × Node))
    (hsep : ∀ d ∈ docs, ∀ t ∈ d.1, ¬ isStart t) (helem : ∀ d ∈ docs, isElem d.2 = true)
    (k : Nat) (hk : k < docs.length) (cut : List Tok)
    (hpre : cut <+: flatten docs[k].2) (hproper : cut ≠ flatten docs[k].2)
    (f : Nat) (hf : k < f) :
    readMapsXml cfg S fin f (fileToks (docs.take k) (docs[k].1 ++ cut)) []
      = ⟨(docs.take k).map (fun d => Fold.doc cfg S d.2), decide (fin = .bad)⟩ := by
  have hm := List.getElem_mem hk
  exact readMapsXml_file_end cfg S fin (docs.take k)
    (fun d hd => hsep d (List.mem_of_mem_take hd)) (fun d hd => helem d (List.mem_of_mem_take hd)) _
    (decodeTop_sep_prefix cfg S fin docs[k].1 (hsep _ hm) docs[k].2 (helem _ hm) cut hpre hproper _
      (Nat.lt_succ_self _)) f (Nat.lt_of_le_of_lt (List.length_take_le ..) hf)

/-- truncation as Go reports it (unexpected EOF inside an element): the first `k` Maps and an
    error -/
theorem C19_xml_truncated_error (cfg : DecCfg) (S : Strconv) (docs : List (List Tok × Node))
    (hsep : ∀ d ∈ docs, ∀ t ∈ d.1, ¬ isStart t) (helem : ∀ d ∈ docs, isElem d.2 = true)
    (k : Nat) (hk : k < docs.length) (cut : List Tok)
    (hpre : cut <+: flatten docs[k].2) (hproper : cut ≠ flatten docs[k].2)
    (f : Nat) (hf : k < f) :
    readMapsXml cfg S .bad f (fileToks (docs.take k) (docs[k].1 ++ cut)) []
      = ⟨(docs.take k).map (fun d => Fold.doc cfg S d.2), true⟩ :=
  C19_xml_truncated cfg S .bad docs hsep helem k hk cut hpre hproper f hf

/-- … cut exactly at a document boundary (inside a separator) with io.EOF: the first `k` Maps
    and no error -/
theorem C19_xml_truncated_at_boundary (cfg : DecCfg) (S : Strconv) (docs : List (List Tok × Node))
    (hsep : ∀ d ∈ docs, ∀ t ∈ d.1, ¬ isStart t) (helem : ∀ d ∈ docs, isElem d.2 = true)
    (k : Nat) (sepcut : List Tok) (hcut : ∀ t ∈ sepcut, ¬ isStart t) (f : Nat) (hf : k < f) :
    readMapsXml cfg S .eof f (fileToks (docs.take k) sepcut) []
      = ⟨(docs.take k).map (fun d => Fold.doc cfg S d.2), false⟩ :=
  C19_xml_file cfg S (docs.take k) (fun d hd => hsep d (List.mem_of_mem_take hd))
    (fun d hd => helem d (List.mem_of_mem_take hd)) sepcut hcut f
    (Nat.lt_of_le_of_lt (List.length_take_le ..) hf)

/-! ### the handler form -/

/-- `HandleXmlReader` with a Map handler that returns `false` on the `b`-th Map (`b` at most the
    number of documents): exactly the first `b` Maps are handed over, no error — and what follows
    the `b`-th document is never read (no condition on `trail`, none on `fin`) -/
theorem C19_xml_handler_stops (cfg : DecCfg) (S : Strconv) (fin : StreamEnd)
    (docs : List (List Tok × Node))
    (hsep : ∀ d ∈ docs, ∀ t ∈ d.1, ¬ isStart t) (helem : ∀ d ∈ docs, isElem d.2 = true)
    (b : Nat) (hb : b ≤ docs.length) (trail : List Tok) (f : Nat) (hf : b < f) :
    handleXml cfg S fin f b (fileToks docs trail) []
      = ⟨(docs.take b).map (fun d => Fold.doc cfg S d.2), false⟩ := by
  obtain ⟨g, rfl⟩ := Nat.exists_eq_add_of_lt hf
  -- the file split after its first `b` documents: they use up the budget (`handleXml_file`), and
  -- with budget 0 the loop returns without another read
  have h := handleXml_file cfg S fin (docs.take b) (fun d hd => hsep d (List.mem_of_mem_take hd))
    (fun d hd => helem d (List.mem_of_mem_take hd)) (g + 1) 0 (fileToks (docs.drop b) trail) []
  rw [← fileToks_append, List.take_append_drop, List.length_take, Nat.min_eq_left hb] at h
  exact h.trans (by simp [handleXml])

/-- … with a handler that never stops within the file (`b` beyond the number of documents) the
    loop is the file loop: every Map, and the stream's end decides about the error -/
theorem C19_xml_handler_all (cfg : DecCfg) (S : Strconv) (fin : StreamEnd)
    (docs : List (List Tok × Node))
    (hsep : ∀ d ∈ docs, ∀ t ∈ d.1, ¬ isStart t) (helem : ∀ d ∈ docs, isElem d.2 = true)
    (b : Nat) (hb : docs.length < b) (trail : List Tok) (htrail : ∀ t ∈ trail, ¬ isStart t)
    (f : Nat) (hf : docs.length < f) :
    handleXml cfg S fin f b (fileToks docs trail) []
      = readMapsXml cfg S fin f (fileToks docs trail) [] := by
  rw [C19_xml_file_any_end cfg S fin docs hsep helem trail htrail f hf]
  exact handleXml_file_end cfg S fin docs hsep helem trail (decodeTop_sep cfg S fin trail htrail) f b hf hb

/-- in one statement: the handler receives the first `min n b` Maps -/
theorem C19_xml_handler_count (cfg : DecCfg) (S : Strconv) (fin : StreamEnd)
    (docs : List (List Tok × Node))
    (hsep : ∀ d ∈ docs, ∀ t ∈ d.1, ¬ isStart t) (helem : ∀ d ∈ docs, isElem d.2 = true)
    (b : Nat) (trail : List Tok) (htrail : ∀ t ∈ trail, ¬ isStart t)
    (f : Nat) (hf : docs.length < f) :
    (handleXml cfg S fin f b (fileToks docs trail) []).maps
        = (docs.take b).map (fun d => Fold.doc cfg S d.2) ∧
      (handleXml cfg S fin f b (fileToks docs trail) []).maps.length = min b docs.length := by
  -- the count is the length of the list
  rw [and_iff_left_of_imp fun h => by rw [h, List.length_map, List.length_take]]
  by_cases hb : b ≤ docs.length
  · rw [C19_xml_handler_stops cfg S fin docs hsep helem b hb trail f (by omega)]
  · rw [C19_xml_handler_all cfg S fin docs hsep helem b (by omega) trail htrail f hf,
      C19_xml_file_any_end cfg S fin docs hsep helem trail htrail f hf,
      List.take_of_length_le (by omega)]

/-! ### non-vacuity -/

/-- the sample file: `<?xml …?>␤ <r …>…</r> ␤<!--second-->␤ <s>…</s><r …>…</r> ␤<!DOCTYPE x>` —
    three documents (the last two directly adjacent), 43 tokens -/
example : (fileToks exDocs exTrail).length = 43 := by decide +kernel

example : (∀ d ∈ exDocs, ∀ t ∈ d.1, ¬ isStart t) ∧ (∀ d ∈ exDocs, isElem d.2 = true) ∧
    (∀ t ∈ exTrail, ¬ isStart t) := by decide +kernel

/-- read: by the theorem … -/
example : readMapsXml {} S0 .eof 4 (fileToks exDocs exTrail) []
    = ⟨exDocs.map (fun d => Fold.doc {} S0 d.2), false⟩ :=
  C19_xml_file {} S0 exDocs (by decide +kernel) (by decide +kernel) exTrail (by decide +kernel) 4 (by decide +kernel)

/-- … and by evaluating the model: three Maps, the second one
    `{"s": {"k": [{"-a":"b"}, "2"], "#text": "tail"}}` -/
example : (readMapsXml {} S0 .eof 4 (fileToks exDocs exTrail) []).maps
      = [Fold.doc {} S0 sampleTree,
         .map [("s".toList, .map [("k".toList, .list [.map [("-a".toList, .str "b".toList)],
                                                       .str "2".toList]),
                                  ("#text".toList, .str "tail".toList)])],
         Fold.doc {} S0 sampleTreeTextFirst] ∧
    (readMapsXml {} S0 .eof 4 (fileToks exDocs exTrail) []).failed = false := by
  decide +kernel

/-- under other options (numbering, as-map) and with more fuel than needed -/
example : (readMapsXml { seqNum := true, asMap := true } S0 .eof 9 (fileToks exDocs exTrail) []).maps
      = exDocs.map (fun d => Fold.doc { seqNum := true, asMap := true } S0 d.2) ∧
    (readMapsXml { seqNum := true, asMap := true } S0 .eof 9 (fileToks exDocs exTrail) []).failed
      = false := by
  decide +kernel

/-- the sample documents are in C01's domain: the Maps read are the conventions' Maps -/
example : (∀ d ∈ exDocs, Conv.inDomain {} S0 d.2 = true) ∧ (∀ d ∈ exDocs, noAdjText d.2 = true) := by
  decide +kernel

example : ∃ rs, readMapsXml {} S0 .eof 4 (fileToks exDocs exTrail) [] = ⟨rs, false⟩ ∧
    rs.length = exDocs.length ∧
    ∀ (i : Nat) (h1 : i < rs.length) (h2 : i < exDocs.length), rs[i] ≈ᵥ Conv.doc {} S0 exDocs[i].2 :=
  C19_xml_file_conventions {} S0 exDocs (by decide +kernel) (by decide +kernel) (by decide +kernel) (by decide +kernel) exTrail
    (by decide +kernel) 4 (by decide +kernel)

/-- … only up to the order of entries: the third document has its text before its children -/
example : (readMapsXml {} S0 .eof 4 (fileToks exDocs exTrail) []).maps[2]?
      ≠ some (Conv.doc {} S0 sampleTreeTextFirst) := by
  decide +kernel

/-- a syntax error after the last document: the three Maps and the error -/
example : readMapsXml {} S0 .bad 4 (fileToks exDocs exTrail) []
    = ⟨exDocs.map (fun d => Fold.doc {} S0 d.2), true⟩ :=
  C19_xml_file_bad_end {} S0 exDocs (by decide +kernel) (by decide +kernel) exTrail (by decide +kernel) 4 (by decide +kernel)

/-- an "empty" file: only a declaration and white space -/
example : readMapsXml {} S0 .eof 1 exSep0 [] = ⟨[], false⟩ :=
  C19_xml_empty_file {} S0 exSep0 (by decide +kernel) 1 (by decide +kernel)

/-- truncation inside the second document, 5 tokens in (right after the start tag of `<k>2</k>`, depth 2): the first
    Map, and the error when the tokenizer reports one -/
example : (flatten exDoc2).take 5 <+: flatten exDocs[1].2 ∧ (flatten exDoc2).take 5 ≠ flatten exDocs[1].2 := by
  decide +kernel

example : readMapsXml {} S0 .bad 3
      (fileToks (exDocs.take 1) (exDocs[1].1 ++ (flatten exDoc2).take 5)) []
    = ⟨(exDocs.take 1).map (fun d => Fold.doc {} S0 d.2), true⟩ :=
  C19_xml_truncated_error {} S0 exDocs (by decide +kernel) (by decide +kernel) 1 (by decide +kernel) _ (by decide +kernel)
    (by decide +kernel) 3 (by decide +kernel)

example : (readMapsXml {} S0 .bad 3 (fileToks [(exSep0, sampleTree)]
        (exSep1 ++ (flatten exDoc2).take 5)) []).maps = [Fold.doc {} S0 sampleTree] ∧
    (readMapsXml {} S0 .bad 3 (fileToks [(exSep0, sampleTree)]
        (exSep1 ++ (flatten exDoc2).take 5)) []).failed = true := by
  decide +kernel

example : decodeTop {} S0 .bad 8 ((flatten exDoc2).take 5) = .syntax :=
  C19_xml_cut_never_closes {} S0 .bad [] "s".toList []
    [ .elem [] "k".toList [⟨[], "a".toList, "b".toList⟩] [], .text "tail".toList,
      .elem [] "k".toList [] [.text "2".toList] ] _ (by decide +kernel) (by decide +kernel) 8 (by decide +kernel)

/-- cut right after the second document's start tag; cut just before its root's end tag -/
example : (readMapsXml {} S0 .bad 3 (fileToks [(exSep0, sampleTree)]
        (exSep1 ++ (flatten exDoc2).take 1)) []).failed = true ∧
    (readMapsXml {} S0 .bad 3 (fileToks [(exSep0, sampleTree)]
        (exSep1 ++ (flatten exDoc2).dropLast)) []).maps = [Fold.doc {} S0 sampleTree] := by
  decide +kernel

/-- "proper" cannot be dropped: with the whole document there is one Map more -/
example : (readMapsXml {} S0 .bad 3 (fileToks (exDocs.take 1) (exDocs[1].1 ++ flatten exDoc2))
      []).maps.length = 2 := by
  decide +kernel

/-- the handler stops after two Maps: the third document is not read, no error even with `.bad` -/
example : handleXml {} S0 .bad 3 2 (fileToks exDocs exTrail) []
    = ⟨(exDocs.take 2).map (fun d => Fold.doc {} S0 d.2), false⟩ :=
  C19_xml_handler_stops {} S0 .bad exDocs (by decide +kernel) (by decide +kernel) 2 (by decide +kernel) exTrail 3 (by decide +kernel)

example : (handleXml {} S0 .bad 3 2 (fileToks exDocs exTrail) []).maps.length = 2 := by
  decide +kernel

/-! ### the hypotheses are needed -/

/-- a "document" that is not an element (a lone text node) is skipped: no Map for it -/
example : (readMapsXml {} S0 .eof 3 (fileToks [([], Node.text "x".toList)] []) []).maps = [] ∧
    ([([], Node.text "x".toList)] : List (List Tok × Node)).map (fun d => Fold.doc {} S0 d.2)
      = [Val.null] := by
  decide +kernel

/-- a separator with a start tag in it is a document of its own (here: an unclosed one that
    swallows the real document) -/
example : (readMapsXml {} S0 .eof 3
      (fileToks [([Tok.start [] "x".toList []], Node.elem [] "a".toList [] [])] []) []).maps = [] ∧
    ([([Tok.start [] "x".toList []], Node.elem [] "a".toList [] [])] : List (List Tok × Node)).map
      (fun d => Fold.doc {} S0 d.2) = [.map [("a".toList, .str [])]] := by
  decide +kernel

/-- a start tag in the trailer likewise: the loop does not end with io.EOF after the documents
    but decodes (here: fails inside) one more -/
example : (readMapsXml {} S0 .eof 3
      (fileToks [([], Node.elem [] "a".toList [] [])] [Tok.start [] "x".toList []]) []).maps
        = [.map [("a".toList, .str [])]] ∧
    (readMapsXml {} S0 .bad 3
      (fileToks [([], Node.elem [] "a".toList [] [])] [Tok.start [] "x".toList [],
        Tok.stop [] "x".toList]) []).maps.length = 2 := by
  decide +kernel

/-- the fuel bound is needed only to let the loop see the end of the file: with exactly
    `docs.length` rounds the model runs out of fuel (reported as an error) -/
example : (readMapsXml {} S0 .eof 3 (fileToks exDocs exTrail) []).failed = true := by
  decide +kernel

/-- outside C01's domain the Map read is still the document's own Map (`C19_xml_file_same_as_single`)
    but not the conventions' Map: two non-blank text runs -/
example : (readMapsXml {} S0 .eof 2 (fileToks [([], twoRunsTree)] []) []).maps
      = [Fold.doc {} S0 twoRunsTree] ∧
    ¬ (Fold.doc {} S0 twoRunsTree ≈ᵥ Conv.doc {} S0 twoRunsTree) := by
  decide +kernel

end Mxj.C19
