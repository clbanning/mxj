/-
  Mxj.Props.C19ExtFrame — frame of C19's API over the package-level state, on facts regenerated from
  /repo's current source on every run: Gob / NewMapGob read no package-level variable;
  and none of them (nor any function they can reach) assigns a package-level variable, so what they
  return is a function of their arguments and of exactly those variables - no hidden state carried
  from one call to the next.
-/
import Mxj.Lemmas.Facts
namespace Mxj.C19
open Mxj

/-- the package-level variables C19's functions may read -/
def frameAllowed : List String := []

theorem frame_cert :
    Facts.cert Generated.c19FrameRoots Generated.c19FrameRootsClosure (Facts.frameOk frameAllowed)
      = true := by decide +kernel

theorem C19_frame_reads (root g v : String) (hr : root ∈ Generated.c19FrameRoots)
    (h : Facts.Reach root g) (hv : v ∈ Facts.readsOf g) : v ∈ frameAllowed :=
  Facts.reads_of_frame frame_cert hr h hv

theorem C19_frame_no_hidden_state (root g : String) (hr : root ∈ Generated.c19FrameRoots)
    (h : Facts.Reach root g) : Facts.writesOf g = [] :=
  Facts.writes_of_frame frame_cert hr h

/-- the statements are not vacuous: the API group is present in the source -/
theorem C19_frame_roots_present : Generated.c19FrameRoots.length ≥ 1 := by decide +kernel

end Mxj.C19
