/-
  Mxj.Props.C17ExtFrame — frame of C17's API over the package-level state, on facts regenerated from
  /repo's current source on every run: every read-only operation, decoder and encoder (and whatever
  they reach) reads only the package-level variables that exist today - the documented options, the
  reserved key names, the error values and the escape table; a buffer, cache, counter or table added
  at package level and used by any of them is a new name in a regenerated read set;
  and none of them (nor any function they can reach) assigns a package-level variable, so what they
  return is a function of their arguments and of exactly those variables - no hidden state carried
  from one call to the next.
-/
import Mxj.Lemmas.QueryFrame
namespace Mxj.C17
open Mxj

/-- the package-level variables C17's functions may read: `Facts.queryAllowed` word for word
    (`frame_cert` below is `Facts.query_cert`, which type-checks only while the two lists agree) -/
def frameAllowed : List String := ["CustomDecoder", "JsonUseNumber", "KeyNotExistError", "NoRoot", "PathNotExistError", "XmlCharsetReader", "attrK", "attrPrefix", "castNanInf", "castToBool", "castToFloat", "castToInt", "checkTagToSkip", "commentK", "decodeSimpleValuesAsMap", "defaultArraySize", "directiveK", "escapechars", "fieldSep", "handleXMPPStreamTag", "includeTagSeqNum", "instK", "jhandlerPollInterval", "lenAttrPrefix", "lowerCase", "procinstK", "seqK", "snakeCaseKeys", "targetK", "textK", "trimRunes", "useDotNotation", "useGoXmlEmptyElemSyntax", "xhandlerPollInterval", "xmlCheckIsValid", "xmlEscapeChars", "xmlEscapeCharsDecoder"]

theorem frame_cert :
    Facts.cert Generated.queryRoots Generated.queryRootsClosure (Facts.frameOk frameAllowed) = true :=
  Facts.query_cert

theorem C17_frame_reads (root g v : String) (hr : root ∈ Generated.queryRoots)
    (h : Facts.Reach root g) (hv : v ∈ Facts.readsOf g) : v ∈ frameAllowed :=
  Facts.reads_of_frame frame_cert hr h hv

theorem C17_frame_no_hidden_state (root g : String) (hr : root ∈ Generated.queryRoots)
    (h : Facts.Reach root g) : Facts.writesOf g = [] :=
  Facts.writes_of_frame frame_cert hr h

/-- the statements are not vacuous: the API group is present in the source -/
theorem C17_frame_roots_present : Generated.queryRoots.length ≥ 1 := by decide +kernel

end Mxj.C17
