/-
  "Special characters survive encoding", the ENCODER-level clause at model level: with value
  escaping on (`cfg.escape = true`, XMLEscapeChars(true)) every text and every attribute value
  the Map encoder writes is `escapeChars v` of the value `v` the encoder's tree holds at that
  place, so the tokenizer's entity expansion (`unesc`, C05_unescape_escape) gives `v` back and
  the written value contains no raw `<`, `>`, `"`, `'` and no `&` that does not start one of the
  five predefined entities.

  `escNode n` (Mxj.Lemmas.IndentCor) is the tree `n` with every text node and every attribute
  value replaced by its `escapeChars`; `render { cfg with escape := false }` writes a tree RAW.
  Numbers, booleans and `nil` are written with `%v`, unescaped: that is the hypothesis `Plain`
  of the byte-level theorems (counterexample below).
-/
import Mxj.Lemmas.IndentCor
import Mxj.Props.C05
import Mxj.Props.C02
import Mxj.Props.C02ExtIndent
import Mxj.Props.C03
namespace Mxj.C05
open Mxj Mxj.Enc

/-- a text node is written as its escaped text -/
theorem C05_enc_text_written (cfg : EncCfg) (he : cfg.escape = true) (s : Str) :
    render cfg (.text s) = escapeChars s := by
  simp only [render, escIf, he, if_true]

/-- an attribute is written as ` name="escaped value"` -/
theorem C05_enc_attr_written (cfg : EncCfg) (he : cfg.escape = true) (a : Attr) (as : List Attr) :
    renderAttrs cfg (a :: as)
      = " ".toList ++ a.name ++ "=\"".toList ++ escapeChars a.value ++ "\"".toList
          ++ renderAttrs cfg as := by
  simp only [renderAttrs, escIf, he, if_true]

/-- "raw": with the escape flag off a text node is written as it stands … -/
theorem C05_enc_raw_text (cfg : EncCfg) (s : Str) :
    render { cfg with escape := false } (.text s) = s := by
  simp only [render, escIf, Bool.false_eq_true, if_false]

/-- … and so is an attribute value -/
theorem C05_enc_raw_attr (cfg : EncCfg) (a : Attr) (as : List Attr) :
    renderAttrs { cfg with escape := false } (a :: as)
      = " ".toList ++ a.name ++ "=\"".toList ++ a.value ++ "\"".toList
          ++ renderAttrs { cfg with escape := false } as := by
  simp only [renderAttrs, escIf, Bool.false_eq_true, if_false]

/-- every tree: with escaping on, the bytes are the raw rendering of the tree whose every text
    and attribute value has been replaced by its `escapeChars` — "for every node of the tree,
    the bytes written for its value are the escaped value"; markup (names, brackets, quotes,
    the empty-element syntax) is the same -/
theorem C05_enc_render_escaped (cfg : EncCfg) (he : cfg.escape = true) (n : Node) :
    render cfg n = render { cfg with escape := false } (escNode n) :=
  render_escNode cfg he n

/-- the values on the wire are, in document order, the escaped values of the tree -/
theorem C05_enc_values_escaped (n : Node) :
    nodeValues (escNode n) = (nodeValues n).map escapeChars :=
  nodeValues_map escapeChars n

/-- the tokenizer's entity expansion, applied to every attribute value and every text of the
    escaped tree, gives the original tree back: exact value recovery at every node -/
theorem C05_enc_unescape_tree (n : Node) : unescNode (escNode n) = some n := unescNode_esc n

/-- value by value: every written value is `escapeChars v` of a value `v` of the tree, and
    `unesc` of it is `v` -/
theorem C05_enc_unescape_values (n : Node) :
    ∀ w ∈ nodeValues (escNode n), ∃ v ∈ nodeValues n, w = escapeChars v ∧ unesc w = some v := by
  intro w hw
  rw [C05_enc_values_escaped, List.mem_map] at hw
  obtain ⟨v, hv, rfl⟩ := hw
  exact ⟨v, hv, rfl, C05_unescape_escape v⟩

/-- … by position: the i-th written value is the escaped i-th value -/
theorem C05_enc_value_at (n : Node) (i : Nat) (v : Str) (h : (nodeValues n)[i]? = some v) :
    (nodeValues (escNode n))[i]? = some (escapeChars v)
      ∧ unesc (escapeChars v) = some v := by
  refine ⟨?_, C05_unescape_escape v⟩
  rw [C05_enc_values_escaped, List.getElem?_map, h]
  rfl

/-- no written value contains a raw '<', '>', '"' or '\'', and every '&' in it starts one of
    the five predefined entities: the value ends where the markup says it ends -/
theorem C05_enc_no_raw_specials (n : Node) :
    ∀ w ∈ nodeValues (escNode n),
      (∀ c ∈ w, c ≠ '<' ∧ c ≠ '>' ∧ c ≠ '"' ∧ c ≠ '\'')
      ∧ (∀ t, ('&' :: t) <:+ w → ∃ e ∈ entityTexts, e <+: ('&' :: t))
      ∧ ¬ ("]]>".toList <:+: w) := by
  intro w hw
  obtain ⟨v, _, rfl, _⟩ := C05_enc_unescape_values n w hw
  exact ⟨C05_escaped_no_specials v, C05_escaped_amp_is_entity v, C05_escaped_no_cdata_end v⟩

/-- `marshalMapToXmlIndent(false, …)` with escaping on: the bytes are the raw rendering of the
    escaped trees of `encTree`, and entity expansion gives those trees back.
    `Plain cfg v`: numbers / `nil` under the text key are written with `%v`, unescaped — the
    hypothesis says their text needs no escaping (counterexample below). -/
theorem C05_enc_marshal_escaped (cfg : EncCfg) (key : Str) (v : Val) (out : Str)
    (he : cfg.escape = true) (hp : Plain cfg v = true) (h : marshal cfg key v = .ok out) :
    ∃ ns, encTree cfg key v.norm = .ok ns
      ∧ out = ns.flatMap (fun n => render { cfg with escape := false } (escNode n))
      ∧ ∀ n ∈ ns, unescNode (escNode n) = some n := by
  obtain ⟨ns, hns, ho⟩ := C02.C02_bytes_eq_render cfg key v out hp h
  refine ⟨ns, hns, ?_, fun n _ => C05_enc_unescape_tree n⟩
  rw [ho]
  congr 1
  funext n
  exact C05_enc_render_escaped cfg he n

/-- the same for `mv.Xml()` when it encodes the whole Map under a root tag -/
theorem C05_enc_mapXml_escaped (cfg : EncCfg) (m : Entries) (rt : Str) (out : Str)
    (he : cfg.escape = true) (hp : Plain cfg (.map m) = true)
    (h : mapXml cfg m (some rt) = .ok out) :
    ∃ ns, encTree cfg rt (Val.map m).norm = .ok ns
      ∧ out = ns.flatMap (fun n => render { cfg with escape := false } (escNode n))
      ∧ ∀ n ∈ ns, unescNode (escNode n) = some n :=
  C05_enc_marshal_escaped cfg rt (.map m) out he hp h

/-- a non-empty string stored under an element key: `<key>` escaped string `</key>`; the tree
    holds the string itself -/
theorem C05_enc_string_leaf (cfg : EncCfg) (he : cfg.escape = true) (key s : Str) (hs : s ≠ []) :
    marshal cfg key (.str s)
        = .ok ("<".toList ++ key ++ ">".toList ++ escapeChars s ++ closeTag key)
      ∧ encTree cfg key (.str s) = .ok [.elem [] key [] [.text s]]
      ∧ unesc (escapeChars s) = some s := by
  have h1 : s.isEmpty = false := List.isEmpty_eq_false_iff.2 hs
  have ht : encTree cfg key (.str s) = .ok [.elem [] key [] [.text s]] := by
    simp only [encTree, h1, Bool.false_eq_true, if_false]
  refine ⟨?_, ht, C05_unescape_escape s⟩
  -- the bytes are the rendering of that tree, whose one text is written escaped
  rw [C02.C02_render_eq_bytes cfg key (.str s) _ rfl ht, List.flatMap_singleton,
    render_nonempty cfg [] key [] (List.cons_ne_nil _ _), List.flatMap_singleton,
    C05_enc_text_written cfg he, renderAttrs, List.append_nil]

/-- a string stored under an attribute key: ` name="` escaped string `"`; the tree holds the
    string itself -/
theorem C05_enc_string_attr (cfg : EncCfg) (he : cfg.escape = true) (k s : Str) :
    attrText cfg k (.str s)
        = .ok (" ".toList ++ k.drop cfg.attrPrefix.length ++ "=\"".toList ++ escapeChars s
                ++ "\"".toList)
      ∧ encAttr cfg k (.str s) = .ok ⟨[], k.drop cfg.attrPrefix.length, s⟩
      ∧ unesc (escapeChars s) = some s := by
  refine ⟨?_, rfl, C05_unescape_escape s⟩
  simp only [attrText, escIf, he, if_true]

/-- a string stored under the text key: written escaped; the tree holds the string itself -/
theorem C05_enc_string_textkey (cfg : EncCfg) (he : cfg.escape = true) (s : Str) :
    textValue cfg (.str s) = some (escapeChars s) ∧ fmtV (.str s) = some s
      ∧ unesc (escapeChars s) = some s := by
  refine ⟨?_, rfl, C05_unescape_escape s⟩
  simp only [textValue, escIf, he, if_true]

/-- a text-only element — a map with attribute entries and a string under the text key, nothing
    else: `<key` attributes `>` escaped string `</key>` -/
theorem C05_enc_text_only_element (cfg : EncCfg) (he : cfg.escape = true) (key s atext : Str)
    (vv : Entries) (ha : attrsText cfg vv = .ok atext)
    (hn : countAttrs cfg vv + 1 = vv.length) (hl : lookup cfg.textK vv = some (.str s)) :
    marshalN cfg key (.map vv)
      = .ok ("<".toList ++ key ++ atext ++ ">".toList ++ escapeChars s ++ closeTag key) := by
  have hne : ¬ countAttrs cfg vv = vv.length := by omega
  simp only [marshalN, ha, hne, if_false, hl, textValue, escIf, he, if_true, hn,
    endOf_pos cfg key Nat.one_pos, List.append_assoc]

/-- `Map.XmlIndent` with escaping on (blank / tab prefix and indent): the bytes are the prefix
    and the raw rendering of the ESCAPED layout tree of the one tree `n` the encoder builds;
    entity expansion gives the layout tree back, and the values of the layout tree are the
    values of `n` plus white-space texts (`C02_indent_tokens`) -/
theorem C05_enc_indent_escaped (cfg : EncCfg) (pfx indent : Str) (m : Entries)
    (rootTag : Option Str) (out : Str) (he : cfg.escape = true)
    (hpfx : ∀ c ∈ pfx, c = ' ' ∨ c = '\t') (hind : ∀ c ∈ indent, c = ' ' ∨ c = '\t')
    (hp : Plain cfg (.map m) = true) (hr : Regular cfg (.map m) = true)
    (h : mapXmlIndent cfg pfx indent m rootTag = .ok out) :
    ∃ n, encTree cfg (mapXmlIndentRoot m rootTag).1 (mapXmlIndentRoot m rootTag).2.norm = .ok [n]
      ∧ out = pfx ++ render { cfg with escape := false } (escNode (layI indent 0 pfx n))
      ∧ unescNode (escNode (layI indent 0 pfx n)) = some (layI indent 0 pfx n)
      ∧ (flatten n).Sublist (docToksI pfx indent n) := by
  obtain ⟨n, hn, hel, ho, _⟩ := C02.C02_indent_bytes_single cfg pfx indent m rootTag out hp hr h
  refine ⟨n, hn, ?_, C05_enc_unescape_tree _, C02.C02_indent_tokens_sublist pfx indent n⟩
  rw [ho, C02.C02_indent_renderI_eq_render cfg indent 0 pfx (plainText_of_blank cfg indent hind)
    (plainText_of_blank cfg pfx hpfx) n hel, C05_enc_render_escaped cfg he]
  simp [nlOf]

/-- the C05 sample string as an attribute value and as element text -/
example :
    marshal ec "e".toList (.map [("-q".toList, .str "a<b & \"c\" 'd' >".toList),
                                  ("#text".toList, .str "a<b & \"c\" 'd' >".toList)])
      = .ok ("<e q=\"a&lt;b &amp; &quot;c&quot; &apos;d&apos; &gt;\">"
              ++ "a&lt;b &amp; &quot;c&quot; &apos;d&apos; &gt;</e>").toList := by
  rw [String.toList_append]
  -- the kernel unfolds `String.toList` of a literal through the UTF-8 decoding of its bytes, at a
  -- cost quadratic in its length: a long literal is first turned into its list of characters
  repeat rw [String.toList_ofList]
  decide +kernel

/-- its tree holds the unescaped strings; the escaped tree, written raw, is those bytes -/
example :
    encTree ec "e".toList (Val.map [("-q".toList, .str "a<b & \"c\" 'd' >".toList),
                                    ("#text".toList, .str "a<b & \"c\" 'd' >".toList)]).norm
      = .ok [.elem [] "e".toList [⟨[], "q".toList, "a<b & \"c\" 'd' >".toList⟩]
                [.text "a<b & \"c\" 'd' >".toList]] := by
  repeat rw [String.toList_ofList]
  decide +kernel
example :
    render { ec with escape := false }
        (escNode (.elem [] "e".toList [⟨[], "q".toList, "a<b & \"c\" 'd' >".toList⟩]
                [.text "a<b & \"c\" 'd' >".toList]))
      = ("<e q=\"a&lt;b &amp; &quot;c&quot; &apos;d&apos; &gt;\">"
              ++ "a&lt;b &amp; &quot;c&quot; &apos;d&apos; &gt;</e>").toList := by
  rw [String.toList_append]
  repeat rw [String.toList_ofList]
  decide +kernel
example :
    nodeValues (.elem [] "e".toList [⟨[], "q".toList, "a<b".toList⟩] [.text "c&d".toList])
      = ["a<b".toList, "c&d".toList] := by decide +kernel

/-- the C03 sample (`note` has an attribute and the text ` a<b `) is in the domain of
    `C05_enc_marshal_escaped` -/
example : ∃ ns, encTree ec "doc".toList C03.sample.norm = .ok ns
    ∧ (ns.flatMap fun n => render { ec with escape := false } (escNode n))
        = "<doc><item><n>1.5</n></item><item><n>true</n></item><none/><note id=\"7\"> a&lt;b </note><z/></doc>".toList
    ∧ ∀ n ∈ ns, unescNode (escNode n) = some n := by
  refine (C05_enc_marshal_escaped ec "doc".toList C03.sample _ rfl (by decide +kernel) ?_).imp
    fun ns h => ⟨h.1, h.2.1.symm, h.2.2⟩
  repeat rw [String.toList_ofList]
  decide +kernel

example : mapXmlIndent ec [] "  ".toList [("note".toList,
      .map [("-id".toList, .str "\"7\"".toList), ("#text".toList, .str " a<b ".toList),
            ("x".toList, .str "&".toList)])] none
    = .ok "<note id=\"&quot;7&quot;\"> a&lt;b \n  <x>&amp;</x>\n</note>".toList := by
  repeat rw [String.toList_ofList]
  decide +kernel

/-- `cfg.escape = true` is needed: with the default (off) nothing is escaped -/
example : marshal {} "a".toList (.str "x<y".toList) = .ok "<a>x<y</a>".toList := by
  repeat rw [String.toList_ofList]
  decide +kernel

/-- `Plain` is needed: a number's `%v` text is written raw even with escaping on (real numbers
    never contain a special character; the model's `Val.num` carries an arbitrary text), and so
    is a `nil` under the text key (`<nil>`) -/
example : marshal ec "a".toList (.num "f:1<2".toList) = .ok "<a>1<2</a>".toList := by
  repeat rw [String.toList_ofList]
  decide +kernel
example : marshal ec "a".toList (.map [("#text".toList, .null), ("b".toList, .str "x".toList)])
    = .ok "<a><nil><b>x</b></a>".toList := by
  repeat rw [String.toList_ofList]
  decide +kernel
example : Plain ec (.num "f:1<2".toList) = false ∧
    Plain ec (.map [("#text".toList, .null), ("b".toList, .str "x".toList)]) = false := by
  decide +kernel

end Mxj.C05
