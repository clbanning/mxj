/-
  Mxj.Props.C05ExtTok — "special characters survive encoding" at BYTE level, through the
  executable tokenizer model (`Mxj.Tokz.tokenize`, Model/Tokenizer.lean).

  `Props/C05.lean` / `C05ExtEnc.lean` speak about strings and trees (`unesc (escapeChars v) =
  some v`, no raw specials in the written values).  Here the reader is the tokenizer itself, and
  "XML characters" is its own predicate `Tokz.charsOk` (every character in Go's
  `isInCharacterRange`) without '\r': '\r' is an XML character, but the tokenizer rewrites it to
  '\n'.
-/
import Mxj.Lemmas.EncTok
import Mxj.Props.C02ExtTok
import Mxj.Props.C05ExtEnc
namespace Mxj.C05
open Mxj Mxj.Enc Mxj.Tokz Mxj.EncTok

/-- what "XML characters" means, in the tokenizer's own terms: `xmlCharsOk v` iff every
    character passes the tokenizer's character check `charsOk` and none is '\r' -/
theorem C05_tok_xmlChars (v : Str) :
    xmlCharsOk v = (charsOk v && v.all (fun c => c != '\r')) := by
  induction v with
  | nil => rfl
  | cons c r ih =>
    simp only [xmlCharsOk, charsOk, List.all_cons] at ih ⊢
    rw [ih]
    cases xmlCharOk c.toNat <;> cases (c != '\r') <;> simp

/-- the character data (or attribute value) `escapeChars v` is lexed back as exactly `v`, for
    every string `v` of XML characters without '\r' -/
theorem C05_tok_chars_read_back (v : Str) (hv : xmlCharsOk v = true) :
    lexChars (escapeChars v) = some v := C02.C02_tok_text_unescapes v hv

/-- a text `v` in an element: the tokenizer reads exactly `v` back, whatever specials it holds -/
theorem C05_tok_text_element (cfg : EncCfg) (hesc : cfg.escape = true) (name v : Str)
    (hn : xmlNameOk name = true) (hv : xmlCharsOk v = true) (hne : v.isEmpty = false) :
    tokenize (render cfg (.elem [] name [] [.text v]))
      = some [.start [] name [], .text v, .stop [] name] :=
  -- the right side is `flatten` of the tree; the tree is well-named by the three hypotheses
  C02.C02_tok_escaped cfg (.elem [] name [] [.text v]) hesc
    (by simp [WellNamed, wellNamedNode, wellNamedKids, noAdjText, noAdjTextKids, hn, hv, hne])

/-- an attribute value `v` (possibly empty): the tokenizer reads exactly `v` back -/
theorem C05_tok_attr_element (cfg : EncCfg) (hesc : cfg.escape = true) (name k v : Str)
    (hn : xmlNameOk name = true) (hk : xmlNameOk k = true) (hv : xmlCharsOk v = true) :
    tokenize (render cfg (.elem [] name [⟨[], k, v⟩] []))
      = some [.start [] name [⟨[], k, v⟩], .stop [] name] :=
  C02.C02_tok_escaped cfg (.elem [] name [⟨[], k, v⟩] []) hesc
    (by simp [WellNamed, wellNamedNode, wellNamedKids, noAdjText, noAdjTextKids, hn, hk, hv])

/-- every well-named tree, every configuration with escaping on: the tokenizer accepts the
    bytes, and the values it hands over — attribute values and character data, in document
    order — are exactly the values of the tree (not their escaped forms, nothing split, merged
    or lost) -/
theorem C05_tok_values_read_back (cfg : EncCfg) (hesc : cfg.escape = true) (n : Node)
    (hW : WellNamed n = true) :
    ∃ toks, tokenize (render cfg n) = some toks ∧ tokValues toks = nodeValues n :=
  ⟨flatten n, C02.C02_tok_escaped cfg n hesc hW, tokValues_flatten n⟩

/-- … while the bytes hold the ESCAPED values (`C05_enc_values_escaped`): the tokenizer undoes
    the escaping value by value -/
theorem C05_tok_values_unescaped (cfg : EncCfg) (hesc : cfg.escape = true) (n : Node)
    (hW : WellNamed n = true) :
    ∃ toks, tokenize (render { cfg with escape := false } (escNode n)) = some toks
      ∧ (tokValues toks).map escapeChars = nodeValues (escNode n) := by
  rw [← C05_enc_render_escaped cfg hesc n, C05_enc_values_escaped]
  obtain ⟨toks, h1, h2⟩ := C05_tok_values_read_back cfg hesc n hW
  exact ⟨toks, h1, by rw [h2]⟩

/-- from the encoder to tokens: for a `Plain` value whose encoder tree is one well-named
    element, the bytes `marshal` writes are accepted and carry exactly the values of the tree -/
theorem C05_tok_marshal_values (key : Str) (v : Val) (n : Node)
    (hp : Plain ec v = true) (hn : encTree ec key v.norm = .ok [n]) (hW : WellNamed n = true) :
    ∃ out toks, marshal ec key v = .ok out ∧ tokenize out = some toks
      ∧ tokValues toks = nodeValues n := by
  refine ⟨_, _, C02.C02_render_eq_bytes ec key v _ hp hn, ?_, tokValues_flatten n⟩
  rw [List.flatMap_singleton]
  exact C02.C02_tok_escaped ec n rfl hW

/-- … with executable hypotheses on the key and the VALUE only (`ValNamed`, Lemmas/EncTok.lean;
    `EncDomain`, `Plain`, not a list: C03's domain): the encoder builds one tree `n`, writes
    bytes the tokenizer accepts, and the values read back are exactly the values of `n` -/
theorem C05_tok_marshal_values_named (key : Str) (v : Val)
    (hdom : EncDomain v = true) (hp : Plain ec v = true) (hnl : v.isList = false)
    (hk : xmlNameOk key = true) (hv : ValNamed v = true) :
    ∃ n out toks, encTree ec key v.norm = .ok [n] ∧ marshal ec key v = .ok out
      ∧ tokenize out = some toks ∧ tokValues toks = nodeValues n := by
  obtain ⟨as, ks, hns⟩ := encTree_root key hdom hnl
  have hW := encTree_wellNamed key v.norm _ hk (ValNamed_norm v hv) hns _ (List.mem_singleton.2 rfl)
  obtain ⟨out, toks, h1, h2, h3⟩ := C05_tok_marshal_values key v _ hp hns hW
  exact ⟨_, out, toks, hns, h1, h2, h3⟩

/-- a string under an element key: bytes to tokens, the text is the string itself -/
theorem C05_tok_string_leaf (key s : Str) (hk : xmlNameOk key = true)
    (hs : xmlCharsOk s = true) (hne : s ≠ []) :
    ∃ out, marshal ec key (.str s) = .ok out
      ∧ tokenize out = some [.start [] key [], .text s, .stop [] key] := by
  -- the bytes `marshal` writes are `render ec` of the one-leaf tree
  refine ⟨_, C02.C02_render_eq_bytes ec key (.str s) _ rfl (C05_enc_string_leaf ec rfl key s hne).2.1,
    ?_⟩
  rw [List.flatMap_singleton]
  exact C05_tok_text_element ec rfl key s hk hs (List.isEmpty_eq_false_iff.2 hne)

/-! ### non-vacuity and necessity (all `decide`d on the tokenizer model) -/

/-- all five specials, a tab and a newline, in text and in an attribute -/
example : xmlCharsOk "<&>\"'\t\n ü".toList = true := by decide +kernel
example : tokenize (render ec (.elem [] "a".toList [⟨[], "k".toList, "<&>\"'".toList⟩]
      [.text "x<y&&amp;z>\"'".toList]))
    = some [.start [] "a".toList [⟨[], "k".toList, "<&>\"'".toList⟩],
            .text "x<y&&amp;z>\"'".toList, .stop [] "a".toList] := by
  repeat rw [String.toList_ofList]
  decide +kernel

/-- escaping OFF, a value containing '<': the tokenizer fails, in text and in an attribute value -/
example : render {} (.elem [] "a".toList [] [.text "x<y".toList]) = "<a>x<y</a>".toList := by
  decide +kernel
example : tokenize (render {} (.elem [] "a".toList [] [.text "x<y".toList])) = none := by
  decide +kernel
example : tokenize (render {} (.elem [] "a".toList [⟨[], "k".toList, "x<y".toList⟩] [])) = none := by
  decide +kernel
/-- escaping OFF, '<' followed by a name: the tokens CHANGE (an element appears) -/
example : tokenize (render {} (.elem [] "a".toList [] [.text "x<b/>y".toList]))
    = some [.start [] "a".toList [], .text "x".toList, .start [] "b".toList [],
            .stop [] "b".toList, .text "y".toList, .stop [] "a".toList] := by decide +kernel
/-- escaping OFF, a bare '&': failure; an entity text: the value comes back changed -/
example : tokenize (render {} (.elem [] "a".toList [] [.text "x&y".toList])) = none := by
  decide +kernel
example : tokenize (render {} (.elem [] "a".toList [] [.text "&lt;".toList]))
    = some [.start [] "a".toList [], .text "<".toList, .stop [] "a".toList] := by decide +kernel
/-- escaping OFF, '"' in an attribute value: failure -/
example : tokenize (render {} (.elem [] "a".toList [⟨[], "k".toList, "x\"y".toList⟩] [])) = none := by
  decide +kernel

/-- the character hypothesis is needed, escaping ON: '\r' comes back as '\n'; U+0001 and
    U+FFFE are not XML characters and the tokenizer rejects the bytes -/
example : xmlCharsOk "x\ry".toList = false ∧ charsOk "x\ry".toList = true := by decide +kernel
example : tokenize (render ec (.elem [] "a".toList [] [.text "x\ry".toList]))
    = some [.start [] "a".toList [], .text "x\ny".toList, .stop [] "a".toList] := by
  repeat rw [String.toList_ofList]
  decide +kernel
example : charsOk [Char.ofNat 1] = false := by decide +kernel
example : tokenize (render ec (.elem [] "a".toList [] [.text [Char.ofNat 1]])) = none := by
  decide +kernel
example : tokenize (render ec (.elem [] "a".toList [] [.text [Char.ofNat 0xFFFE]])) = none := by
  decide +kernel

end Mxj.C05
