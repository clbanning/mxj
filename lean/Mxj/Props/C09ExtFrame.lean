/-
  Mxj.Props.C09ExtFrame — frame of C09's API over the package-level state, on facts regenerated from
  /repo's current source on every run: the leaf functions read the attribute prefix, the text key
  and the notation switch only;
  and none of them (nor any function they can reach) assigns a package-level variable, so what they
  return is a function of their arguments and of exactly those variables - no hidden state carried
  from one call to the next.
-/
import Mxj.Lemmas.Facts
namespace Mxj.C09
open Mxj

/-- the package-level variables C09's functions may read -/
def frameAllowed : List String := ["attrPrefix", "textK", "useDotNotation"]

theorem frame_cert :
    Facts.cert Generated.c09FrameRoots Generated.c09FrameRootsClosure (Facts.frameOk frameAllowed)
      = true := by decide +kernel

theorem C09_frame_reads (root g v : String) (hr : root ∈ Generated.c09FrameRoots)
    (h : Facts.Reach root g) (hv : v ∈ Facts.readsOf g) : v ∈ frameAllowed :=
  Facts.reads_of_frame frame_cert hr h hv

theorem C09_frame_no_hidden_state (root g : String) (hr : root ∈ Generated.c09FrameRoots)
    (h : Facts.Reach root g) : Facts.writesOf g = [] :=
  Facts.writes_of_frame frame_cert hr h

/-- the statements are not vacuous: the API group is present in the source -/
theorem C09_frame_roots_present : Generated.c09FrameRoots.length ≥ 1 := by decide +kernel

end Mxj.C09
