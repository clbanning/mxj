/-
  Mxj.Props.C06ExtTail — "what follows the first value is not looked at", for EVERY text.

  PREFIX STABILITY of the model parser of Mxj.Model.Json (`value`/`elements`/`members`, the string
  reader `strBody`, the number reader `numberLit`, white space, `hex4`; induction on the fuel in
  Mxj.Lemmas.JsonTail) discharges the hypothesis `firstValue (s ++ t) = firstValue s` of
  `C06_trailing_ignored_partial` (Props/C06.lean): `C06_trailing_ignored` has no hypothesis on the
  tail.

  Vocabulary (Mxj.Lemmas.JsonTail and Mxj.Lemmas.Json, namespace `Mxj.Json`):
    `numEnd t`        `t` is empty or starts with no digit, '.', 'e', 'E'
    `tailOk r t`      the rest `r` of a number is not empty, or `numEnd t`
    `numTail v r t`   `tailOk r t` when `v` is a number, nothing otherwise
    `isNumVal v`      `v` is a number
  The one token a tail can extend is a number literal that ends exactly where the text ends
  ("12" ++ "3", "1" ++ "e5"); a number followed by anything (white space, ',', ']', '}' — every
  number inside an array or object) is shielded by what follows it.  `true`/`false`/`null`,
  strings, arrays and objects end with their own last character.
-/
import Mxj.Lemmas.JsonTail
import Mxj.Props.C06
namespace Mxj.C06
open Mxj Mxj.Json

/-- white space: once a non-white-space character is found, the tail is appended to the rest -/
theorem C06_skipWs_prefix_stable (s t : Str) (h : skipWs s ≠ []) :
    skipWs (s ++ t) = skipWs s ++ t := skipWs_append s t h

theorem C06_hex4_prefix_stable (s t : Str) (n : Nat) (r : Str) (h : hex4 s = some (n, r)) :
    hex4 (s ++ t) = some (n, r ++ t) := hex4_append h t

/-- the string-literal reader: a literal closed inside `s` is read unchanged from `s ++ t`, with
    every fuel from the one that sufficed on (escapes, \u sequences and surrogate pairs
    included) -/
theorem C06_string_prefix_stable (n : Nat) (s acc k r : Str) (h : strBody n s acc = some (k, r))
    (m : Nat) (hm : n ≤ m) (t : Str) : strBody m (s ++ t) acc = some (k, r ++ t) :=
  strBody_append h m hm t

/-- the number reader: unchanged when the rest is not empty, or the tail cannot extend it -/
theorem C06_number_prefix_stable (x t lit r : Str) (h : tailOk r t = true)
    (hx : numberLit x = some (lit, r)) : numberLit (x ++ t) = some (lit, r ++ t) :=
  numberLit_tail hx t h

/-- the side condition is needed: a digit, an exponent -/
theorem C06_number_tail_needed_witness :
    numberLit "12".toList = some ("12".toList, []) ∧
    numberLit ("12".toList ++ "3".toList) = some ("123".toList, []) ∧
    numberLit ("1".toList ++ "e5".toList) = some ("1e5".toList, []) ∧
    numberLit ("1".toList ++ "e".toList) = none ∧
    numberLit ("1".toList ++ ".".toList) = none := by decide +kernel

/-- PREFIX STABILITY of `value`: if `value f s` reads `v` and leaves `r`, then for every tail
    `t` and every fuel `m ≥ f`, `value m (s ++ t)` reads the same `v` and leaves `r ++ t` —
    provided `v` is not a number that ends where `s` ends and that `t` could extend -/
theorem C06_value_prefix_stable (f : Nat) (s : Str) (v : Val) (r : Str)
    (h : value f s = some (v, r)) (m : Nat) (hm : f ≤ m) (t : Str)
    (ht : numTail v r t = true) : value m (s ++ t) = some (v, r ++ t) :=
  value_append f s v r h hm t ht

/-- … of `elements` (the inside of an array): no side condition -/
theorem C06_elements_prefix_stable (f : Nat) (s : Str) (acc : List Val) (v : Val) (r : Str)
    (h : elements f s acc = some (v, r)) (m : Nat) (hm : f ≤ m) (t : Str) :
    elements m (s ++ t) acc = some (v, r ++ t) := elements_append f s acc v r h hm t

/-- … of `members` (the inside of an object): no side condition -/
theorem C06_members_prefix_stable (f : Nat) (s : Str) (acc : Entries) (v : Val) (r : Str)
    (h : members f s acc = some (v, r)) (m : Nat) (hm : f ≤ m) (t : Str) :
    members m (s ++ t) acc = some (v, r ++ t) := members_append f s acc v r h hm t

/-- fuel monotonicity: more fuel never changes a result -/
theorem C06_value_fuel_mono (f : Nat) (s : Str) (v : Val) (r : Str)
    (h : value f s = some (v, r)) (m : Nat) (hm : f ≤ m) : value m s = some (v, r) :=
  value_mono f s v r h m hm

/-- a first value that is not a number (object, array, string, `true`, `false`, `null`) is the
    first value of EVERY extension of the text -/
theorem C06_first_value_prefix_stable (s t : Str) (v : Val) (h : firstValue s = some v)
    (hv : isNumVal v = false) : firstValue (s ++ t) = firstValue s := by
  rw [h]
  exact firstValue_append s t v h (by rintro lit rfl; cases hv)

/-- any first value, a number included, when the tail cannot extend a number -/
theorem C06_first_value_prefix_stable_numEnd (s t : Str) (h : (firstValue s).isSome = true)
    (ht : numEnd t = true) : firstValue (s ++ t) = firstValue s := by
  obtain ⟨v, hv⟩ := Option.isSome_iff_exists.1 h
  rw [hv]
  exact firstValue_append_of hv t fun r => numTail_of_numEnd v r t ht

/-- both conditions are needed together: a number at the end of the text is extended by a digit
    or an exponent, and a text without a first value can get one from the tail -/
theorem C06_first_value_tail_needed_witness :
    firstValue "12".toList = some (.num "jn:12".toList) ∧
    firstValue ("12".toList ++ "3".toList) = some (.num "jn:123".toList) ∧
    firstValue (" 1".toList ++ "e5".toList) = some (.num "jn:1e5".toList) ∧
    firstValue ("1".toList ++ "e".toList) = none ∧
    firstValue "[1,2".toList = none ∧
    firstValue ("[1,2".toList ++ "]".toList)
      = some (.list [.num "jn:1".toList, .num "jn:2".toList]) ∧
    firstValue "tru".toList = none ∧
    firstValue ("tru".toList ++ "e".toList) = some (.bool true) := by decide +kernel

/-- a text whose first value is not a number, accepted or refused, behaves under EVERY tail as it
    does alone: a string or a boolean in front is refused whatever follows -/
theorem C06_trailing_ignored_first_value (s t : Str) (hs : s ≠ []) (v : Val)
    (hv : firstValue s = some v) (hn : isNumVal v = false) :
    newMapJson (s ++ t) = newMapJson s :=
  C06_trailing_ignored_partial s t hs (C06_first_value_prefix_stable s t v hv hn)

/-- TRAILING BYTES ARE IGNORED: for every non-empty text `s` that `NewMapJson` accepts (its first
    value is an object, an array or `null` — F-JSON-NULL) and EVERY tail `t`,
    `NewMapJson (s ++ t) = NewMapJson s`.  Leading white space, nested numbers, escapes: nothing
    is excluded. -/
theorem C06_trailing_ignored (s t : Str) (hs : s ≠ []) (h : (newMapJson s).isSome = true) :
    newMapJson (s ++ t) = newMapJson s := by
  -- the first value of an accepted text is an object, `null` or an array: not a number
  rcases (C06_accepts_iff_first_value s hs).1 h with ⟨_, hv⟩ | hv | ⟨_, hv⟩ <;>
    exact C06_trailing_ignored_first_value s t hs _ hv rfl

/-- a number in front stays refused under every tail that cannot extend it (`numEnd t`: empty, or
    no digit, '.', 'e', 'E' first); a tail that extends the literal is not covered here -/
theorem C06_number_refused_any_tail (s t : Str) (hs : s ≠ []) (lit : Str)
    (hv : firstValue s = some (.num lit)) (ht : numEnd t = true) :
    newMapJson (s ++ t) = none := by
  rw [C06_trailing_ignored_partial s t hs
    (C06_first_value_prefix_stable_numEnd s t (by rw [hv]; rfl) ht), newMapJson_spec s hs, hv]

/-- an accepted text stays accepted under every tail (with the same result:
    `C06_trailing_ignored`) -/
theorem C06_accepted_stays_accepted (s t : Str) (hs : s ≠ [])
    (h : (newMapJson s).isSome = true) : (newMapJson (s ++ t)).isSome = true := by
  rw [C06_trailing_ignored s t hs h]; exact h

/-- both hypotheses of `C06_trailing_ignored` are needed: the empty text is the empty Map and a
    tail is then the whole input; a refused text (unclosed array, white space only) can be
    completed by the tail -/
theorem C06_trailing_hyps_needed_witness :
    newMapJson [] = some (.map []) ∧
    newMapJson ([] ++ "[1]".toList) = some (.map [(objKey, .list [.num "jn:1".toList])]) ∧
    newMapJson "[1,2".toList = none ∧
    newMapJson ("[1,2".toList ++ "]".toList)
      = some (.map [(objKey, .list [.num "jn:1".toList, .num "jn:2".toList])]) ∧
    newMapJson " ".toList = none ∧
    newMapJson (" ".toList ++ "{}".toList) = some (.map []) := by decide +kernel

/-! ### non-vacuity: the hypotheses hold on non-trivial texts, and the conclusions compute -/

/-- leading white space, a nested object with escapes and numbers right before the brackets,
    followed by bytes that would extend the last number if it were exposed -/
example : (newMapJson " {\"a\\u00e9\":[1,2.5e3,{\"b\":null}],\"c\":-0}".toList).isSome = true := by
  -- the kernel unfolds `String.toList` of a literal through the UTF-8 decoding of its bytes, at a
  -- cost quadratic in its length: a long literal is first turned into its list of characters
  repeat rw [String.toList_ofList]
  decide +kernel
example : newMapJson (" {\"a\":[1,2]}".toList ++ "345e1 ]}".toList)
    = some (.map [("a".toList, .list [.num "jn:1".toList, .num "jn:2".toList])]) := by
  repeat rw [String.toList_ofList]
  decide +kernel
example : newMapJson ("\n[1,2]".toList ++ "3".toList)
    = some (.map [(objKey, .list [.num "jn:1".toList, .num "jn:2".toList])]) := by
  decide +kernel
/-- F-JSON-NULL with a tail: `null` is accepted (a nil Map), whatever follows -/
example : (newMapJson "null".toList).isSome = true ∧
    newMapJson ("null".toList ++ "x".toList) = some .null := by decide +kernel
/-- a number inside is shielded by the bracket, a number in front is not -/
example : numTail (.num "jn:2".toList) "]".toList "3".toList = true ∧
    numTail (.num "jn:2".toList) [] "3".toList = false ∧
    numTail (.list []) [] "3".toList = true := by decide +kernel
example : value 3 " [ ]".toList = some (.list [], []) ∧
    value 9 (" [ ]".toList ++ "]".toList) = some (.list [], "]".toList) := by decide +kernel

end Mxj.C06
