/-
  "JSON-shaped data survives encoding" (tree level, default options).

  Encoding a JSON-shaped value (maps, lists, strings, numbers, booleans, null) with the compact
  encoder and reading the result back with the documented decoding conventions returns the
  same keys and nesting with every scalar rendered as its (trimmed) text, every list as
  repeated elements in list order, "-"-prefixed scalar entries as attributes and the text key
  as element content; nothing is dropped, reordered within a list or attached to a different
  parent; null, empty string, empty list and empty map all become an empty element.  That
  target is `image` (Model/EncTree.lean), and the theorems say that `Conv.value` on the
  encoder's tree `encTree` IS `image` — exactly (`=`) for the value the encoder walks
  (`v.norm`), and up to map-entry order (`≈ᵥ`) for `v` itself.

  From trees to bytes: `Mxj.C02.C02_marshal_eq_render` (bytes = canonical rendering of the
  tree) and the tokenizer law `Mxj.C02.TokLaw` (proved for the tokenizer model in Props/C02ExtTok;
  Props/C03ExtTok has this file's statement at byte level).
-/
import Mxj.Lemmas.Encode
namespace Mxj.C03
open Mxj Mxj.Enc

/-- the encoder accepts every value of the domain: maps with distinct keys whose attribute
    entries and text-key entries are strings, numbers or booleans -/
theorem C03_encode_succeeds (key : Str) (v : Val) (hdom : EncDomain v = true) :
    ∃ ns, encTree ec key v.norm = .ok ns :=
  ⟨_, encTree_ok key v.norm (EncDomain_norm v hdom)⟩

/-- core statement, for ANY entry order: applying the decoding conventions to the sibling
    trees the encoder builds for `v` under `key` gives exactly `{key: image v}`.
    Only hypothesis: maps have distinct keys (`Val.wf`) — success of the encoder is `h`. -/
theorem C03_tree_preserves (S : Strconv) (key : Str) (v : Val) (hwf : v.wf = true)
    (ns : List Node) (h : encTree ec key v = .ok ns) :
    siblingsValue dc S ns = imageUnder key v :=
  siblingsValue_encTree S key v ns hwf h

/-- the same, sibling by sibling: the sibling elements decode under `key` and their values are,
    in order, the sibling images of `v` (a list contributes its members' images in list order,
    nested lists flattened; everything else exactly one).  That every sibling IS an element
    named `key` is `Enc.encTree_dom`. -/
theorem C03_siblings (S : Strconv) (key : Str) (v : Val) (hwf : v.wf = true)
    (ns : List Node) (h : encTree ec key v = .ok ns) :
    Conv.childVals dc S 0 ns = (imageSibs v).map (key, ·) :=
  childVals_encTree S key v ns hwf h

/-- for the value the encoder actually walks (entries sorted by key) -/
theorem C03_encode_preserves_norm (S : Strconv) (key : Str) (v : Val) (hwf : v.wf = true)
    (ns : List Node) (h : encTree ec key v.norm = .ok ns) :
    siblingsValue dc S ns = imageUnder key v.norm :=
  siblingsValue_encTree S key v.norm ns (wf_norm v hwf) h

theorem C03_encode_preserves' (S : Strconv) (key : Str) (v : Val) (hwf : v.wf = true)
    (ns : List Node) (h : encTree ec key v.norm = .ok ns) :
    siblingsValue dc S ns ≈ᵥ imageUnder key v := by
  rw [C03_encode_preserves_norm S key v hwf ns h]
  exact equiv_singleton_map (image_norm v hwf)

/-- C03: folding the decoder conventions over the produced sibling trees gives the image
    (`EncDomain` is only used through `Val.wf`; see `C03_encode_preserves'`) -/
theorem C03_encode_preserves (S : Strconv) (key : Str) (v : Val) (hdom : EncDomain v = true)
    (ns : List Node) (h : encTree ec key v.norm = .ok ns) :
    siblingsValue dc S ns ≈ᵥ imageUnder key v :=
  C03_encode_preserves' S key v (EncDomain_wf v hdom) ns h

theorem C03_roundtrip (S : Strconv) (key : Str) (v : Val) (hdom : EncDomain v = true) :
    ∃ ns, encTree ec key v.norm = .ok ns ∧ siblingsValue dc S ns ≈ᵥ imageUnder key v := by
  obtain ⟨ns, h⟩ := C03_encode_succeeds key v hdom
  exact ⟨ns, h, C03_encode_preserves S key v hdom ns h⟩

/-- null, the empty string, the empty list and the empty map all become an empty element -/
theorem C03_image_empties :
    image .null = .str [] ∧ image (.str []) = .str [] ∧ image (.list []) = .str []
      ∧ image (.map []) = .str [] := ⟨rfl, rfl, rfl, rfl⟩

/-- a scalar comes back as its `%v` text, trimmed -/
theorem C03_image_str (s : Str) : image (.str s) = .str (trimD s) := rfl
theorem C03_image_num (t : Str) : image (.num t) = .str (trimD (numText t)) := rfl
theorem C03_image_bool (b : Bool) :
    image (.bool b) = .str (if b then "true".toList else "false".toList) := by cases b <;> rfl

/-- a list comes back as its members' images, in list order, nested lists flattened; a single
    resulting sibling is stored directly, several as a list -/
theorem C03_image_list (x : Val) (xs : List Val) :
    image (.list (x :: xs)) = collectV (imageSibs x ++ imageMembers xs) := rfl

/-- a map comes back as: its attribute entries as strings, its other entries imaged under the
    same keys in the same order, and the text-key entry (trimmed; dropped when empty) -/
theorem C03_image_map (kvs : Entries) :
    image (.map kvs) = finishImage (imageAttrs kvs ++ imageElems kvs) (imageText kvs) := rfl

/-- nothing is dropped: every non-attribute, non-text key of a map is a key of the image -/
theorem C03_image_keys (kvs : Entries) :
    keys (imageElems kvs) = (keys kvs).filter isElemK := keys_imageElems kvs

theorem C03_image_attr_keys (kvs : Entries) :
    keys (imageAttrs kvs) = (keys kvs).filter (isAttrK ec) := keys_imageAttrs kvs

/-- a JSON-shaped value with an attribute entry, a text entry, a list of two maps, an empty
    list and a null -/
def sample : Val := .map [
  ("note".toList, .map [("-id".toList, .num "i:7".toList), ("#text".toList, .str " a<b ".toList)]),
  ("item".toList, .list [.map [("n".toList, .num "f:1.5".toList)], .map [("n".toList, .bool true)]]),
  ("none".toList, .list []),
  ("z".toList, .null)]

example : EncDomain sample = true := by decide +kernel
example : Plain ec sample = true := by decide +kernel

example : marshal ec "doc".toList sample = .ok
    "<doc><item><n>1.5</n></item><item><n>true</n></item><none/><note id=\"7\"> a&lt;b </note><z/></doc>".toList := by
  -- the kernel unfolds `String.toList` of a literal through the UTF-8 decoding of its bytes, at a
  -- cost quadratic in its length: a long literal is first turned into its list of characters
  repeat rw [String.toList_ofList]
  decide +kernel

example : ∃ n, encTree ec "doc".toList sample.norm = .ok [n] := ⟨_, rfl⟩

example : image sample = .map [
    ("note".toList, .map [("-id".toList, .str "7".toList), ("#text".toList, .str "a<b".toList)]),
    ("item".toList, .list [.map [("n".toList, .str "1.5".toList)], .map [("n".toList, .str "true".toList)]]),
    ("none".toList, .str []),
    ("z".toList, .str [])] := by decide +kernel

/-- an attribute with a list value is outside the domain, and the encoder rejects it -/
example : EncDomain (.map [("-a".toList, .list [])]) = false := by decide +kernel
example : encTree ec "k".toList (.map [("-a".toList, .list [])]) = .error .other := by
  decide +kernel


/-- the tree `AnyXml(v, rt, et)` builds decodes to `{rt: anyImage v et}`: for a list, every
    member contributes its (normalised) image under its own tag (single-entry map with an
    element key) or under `et`, and repeated tags are grouped in list order by the decoder's
    grouping; for anything else `anyImage v et = image v.norm` -/
theorem C03_anyXml_preserves (S : Strconv) (v : Val) (rt et : Str) (ns : List Node)
    (hwf : v.wf = true) (h : anyTree ec v rt et = .ok ns) :
    siblingsValue dc S ns = .map [(rt, anyImage v et)] :=
  siblingsValue_anyTree S v rt et ns hwf h

/-- `anyPairs` (what the members of `AnyXml`'s top-level list decode to) when the first member is
    unwrapped, i.e. a one-entry map whose key is neither the text key nor an attribute key: the
    sibling images of its value go under its own tag -/
theorem C03_anyPairs_cons_unwrapped (et tag : Str) (val : Val) (rest : List Val)
    (h : (decide (tag = ec.textK) || isAttrK ec tag) = false) :
    anyPairs et (.map [(tag, val)] :: rest)
      = (imageSibs val.norm).map (tag, ·) ++ anyPairs et rest := by
  simp only [anyPairs, h, Bool.false_eq_true, if_false]

example :
    let v := Val.list [.map [("a".toList, .num "i:1".toList)], .str "s".toList,
                       .map [("a".toList, .null)], .list [.bool true, .bool false]]
    anyXml ec v "doc".toList "element".toList = .ok
      "<doc><a>1</a><element>s</element><a/><element>true</element><element>false</element></doc>".toList
    ∧ anyImage v "element".toList = .map [
        ("a".toList, .list [.str "1".toList, .str []]),
        ("element".toList, .list [.str "s".toList, .str "true".toList, .str "false".toList])] := by
  repeat rw [String.toList_ofList]
  decide +kernel

end Mxj.C03
