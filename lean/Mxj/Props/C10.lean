/-
  Mxj.Props.C10 — UpdateValuesForPath.

  Informal property: UpdateValuesForPath({k:v}, path, subkeys...) replaces only values stored
  under key k in nodes the path addresses and only where the sub-key conditions hold; every
  other entry of the Map is left exactly as it was.  The returned count equals the number of
  values replaced, a count of zero leaves the Map untouched, and when the path ends in k and no
  sub-keys are given, ValuesForPath(path) afterwards yields exactly count copies of v.

  Model: Mxj.Model.Update (`updPath`, `updateValuesForPath`).
  Ghost model: `Mxj.Upd.updPathLoci key subs m ks` (Mxj.Lemmas.Update) mirrors `updPath` but
  returns the list of written locations (`List (List Seg)`); it does not depend on the new
  value.  `Mxj.Upd.Upd` lists what one level of `updPath` can do (`upd_updPath`: the model and its
  ghost satisfy it); every theorem below about `updPath` is an induction on it.
  `writeLoc`/`writeAll` write a value at one / at a list of locations, `getLoc`
  (Mxj.Model.Mutate) reads a location, `Incomp a b` says neither location is a prefix of the
  other.
-/
import Mxj.Lemmas.Update
namespace Mxj.C10
open Mxj Mxj.Upd

/-! ### count zero -/

/-- a count of zero leaves the Map untouched (no well-formedness needed) -/
theorem C10_zero_unchanged (key : Str) (value : Val) (subs : SubKeys) (m : Val) (ks : List Str)
    (h : (updPath key value subs m ks).2 = 0) : (updPath key value subs m ks).1 = m :=
  (upd_updPath ks m).zero h

/-- the same at the API: `UpdateValuesForPath` returning count 0 returns the receiver itself -/
theorem C10_api_zero_unchanged (fieldSep : Str) (pf : Str → Option Str) (m newVal : Val)
    (path : Str) (subkeys : List Str) (t : Val)
    (h : updateValuesForPath fieldSep pf m newVal path subkeys = .ok (t, 0)) : t = m := by
  revert h
  fun_cases updateValuesForPath fieldSep pf m newVal path subkeys with
  | case3 sk _ kv k v _ =>
    -- arguments accepted: the answer is that of `updPath`
    intro h
    have h' := Except.ok.inj h
    exact (congrArg Prod.fst h').symm.trans (C10_zero_unchanged k v _ m _ (congrArg Prod.snd h'))
  | case1 | case2 => nofun

/-! ### the count is the number of values replaced; nothing else changes -/

/-- the count is the number of written locations -/
theorem C10_count_is_loci (key : Str) (value : Val) (subs : SubKeys) (m : Val) (ks : List Str)
    (hwf : m.wf = true) :
    (updPath key value subs m ks).2 = (updPathLoci key subs m ks).length :=
  ((upd_updPath ks m).realizes hwf).count

/-- the written locations are pairwise prefix-incomparable … -/
theorem C10_loci_incomparable (key : Str) (subs : SubKeys) (m : Val) (ks : List Str)
    (hwf : m.wf = true) : (updPathLoci key subs m ks).Pairwise Incomp :=
  ((upd_updPath (value := .null) ks m).realizes hwf).incomp

/-- … in particular pairwise distinct -/
theorem C10_loci_distinct (key : Str) (subs : SubKeys) (m : Val) (ks : List Str)
    (hwf : m.wf = true) : (updPathLoci key subs m ks).Nodup := by
  refine List.Pairwise.imp ?_ (C10_loci_incomparable key subs m ks hwf)
  intro a b h e
  subst e
  exact h.1 (List.prefix_refl a)

/-- every written location exists in the receiver -/
theorem C10_loci_valid (key : Str) (subs : SubKeys) (m : Val) (ks : List Str)
    (hwf : m.wf = true) : ∀ l ∈ updPathLoci key subs m ks, (getLoc m l).isSome = true :=
  ((upd_updPath (value := .null) ks m).realizes hwf).valid

/-- the new tree is the old tree with `value` written at exactly the loci -/
theorem C10_tree_is_writes (key : Str) (value : Val) (subs : SubKeys) (m : Val) (ks : List Str)
    (hwf : m.wf = true) :
    (updPath key value subs m ks).1 = writeAll value m (updPathLoci key subs m ks) :=
  ((upd_updPath ks m).realizes hwf).tree

/-- every locus holds `value` afterwards -/
theorem C10_written (key : Str) (value : Val) (subs : SubKeys) (m : Val) (ks : List Str)
    (hwf : m.wf = true) :
    ∀ l ∈ updPathLoci key subs m ks, getLoc (updPath key value subs m ks).1 l = some value := by
  rw [C10_tree_is_writes key value subs m ks hwf]
  exact getLoc_writeAll_mem _ m (C10_loci_incomparable key subs m ks hwf)
    (C10_loci_valid key subs m ks hwf)

/-- frame: every location that is neither below (or at) nor above a written locus reads the
    same before and after.

    "Every location not below a written locus" would be false, because of locations *above*
    a locus: with `m = {a:1}`, `key = a`, `ks = [a]` the root location `[]`
    is not below the locus `[.key a]` but `getLoc` at `[]` is the whole (changed) Map.  For such
    a location `C10_tree_is_writes` says exactly what its new value is. -/
theorem C10_only_loci (key : Str) (value : Val) (subs : SubKeys) (m : Val) (ks : List Str)
    (hwf : m.wf = true) (q : List Seg)
    (hq : ∀ l ∈ updPathLoci key subs m ks, Incomp l q) :
    getLoc (updPath key value subs m ks).1 q = getLoc m q := by
  rw [C10_tree_is_writes key value subs m ks hwf]
  exact getLoc_writeAll_incomp q _ m hq

/-- every written locus is an entry named `key`, or a member of the list stored under `key` -/
theorem C10_loci_under_key (key : Str) (subs : SubKeys) (m : Val) (ks : List Str) :
    ∀ l ∈ updPathLoci key subs m ks,
      (∃ pre, l = pre ++ [Seg.key key]) ∨ (∃ pre i, l = pre ++ [Seg.key key, Seg.idx i]) :=
  (upd_updPath (value := .null) ks m).underKey

/-! ### the query afterwards -/

/-- path ends in k, k is not the wildcard, no sub-keys, new value not a list: the query
    afterwards yields exactly count copies of the value.  Neither well-formedness of `m` nor
    "no wildcard in the path" nor "value is a scalar" is needed: `walk` continues below an
    updated node only with the *remaining* path, and at the last step the remaining path is
    empty, so an updated value is never re-entered. -/
theorem C10_query_agrees (key : Str) (value : Val) (m : Val) (ks : List Str)
    (hlast : ks.getLast? = some key) (hkey : key ≠ ['*']) (hnl : value.isList = false) :
    walk none (updPath key value [] m ks).1 ks
      = List.replicate (updPath key value [] m ks).2 value :=
  (upd_updPath ks m).query hkey hnl hlast

/-- the same through `oldValues` (= `ValuesForPath` without `[`), for a dot path whose
    segments are non-empty -/
theorem C10_query_agrees_path (key : Str) (value : Val) (m : Val) (path : Str)
    (hseg : ∀ s ∈ splitDot path, s ≠ [])
    (hlast : (splitDot path).getLast? = some key) (hkey : key ≠ ['*'])
    (hnl : value.isList = false) :
    oldValues none (updPath key value [] m (splitDot path)).1 path
      = List.replicate (updPath key value [] m (splitDot path)).2 value := by
  unfold oldValues pathKeys
  rw [dropTrailingEmpty_id _ hseg]
  exact C10_query_agrees key value m _ hlast hkey hnl

/-! ### which nodes are updated (path does not end in the new key) -/

/-- when the last path key is a plain key different from `k`, the count is the number of nodes
    the path addresses (`ValuesForPath(path)` on the receiver, lists standing for their
    members) that are maps holding `k` and satisfying the sub-key conditions -/
theorem C10_count_addressed (key : Str) (value : Val) (subs : SubKeys) (m : Val) (ks : List Str)
    (k0 : Str) (hlast : ks.getLast? = some k0) (hk0 : k0 ≠ ['*']) (hne : key ≠ k0) :
    (updPath key value subs m ks).2 = ((walk none m ks).filter (holds key subs)).length :=
  (upd_updPath ks m).count k0 hk0 hne hlast

/-! ### examples: the hypotheses are satisfiable; what the model and its ghost compute -/

/-- `{"a": {"b": 1, "c": 2}, "l": [{"b": 1, "c": 3}, {"b": 1, "c": 4}, 5]}` -/
def exM : Val :=
  .map [(['a'], .map [(['b'], .num ['1']), (['c'], .num ['2'])]),
        (['l'], .list [.map [(['b'], .num ['1']), (['c'], .num ['3'])],
                       .map [(['b'], .num ['1']), (['c'], .num ['4'])], .num ['5']])]

example : exM.wf = true := by decide +kernel

/-- path `a.b`, new value `b:x`: one replacement, at `a.b` -/
example : updPath ['b'] (.str ['x']) [] exM [['a'], ['b']]
    = (.map [(['a'], .map [(['b'], .str ['x']), (['c'], .num ['2'])]),
             (['l'], .list [.map [(['b'], .num ['1']), (['c'], .num ['3'])],
                            .map [(['b'], .num ['1']), (['c'], .num ['4'])], .num ['5']])], 1) := by
  decide +kernel

example : updPathLoci ['b'] [] exM [['a'], ['b']] = [[.key ['a'], .key ['b']]] := by decide +kernel

/-- path `*.b`: the wildcard reaches `a` and the map members of the list `l` -/
example : updPath ['b'] (.str ['x']) [] exM [['*'], ['b']]
    = (.map [(['a'], .map [(['b'], .str ['x']), (['c'], .num ['2'])]),
             (['l'], .list [.map [(['b'], .str ['x']), (['c'], .num ['3'])],
                            .map [(['b'], .str ['x']), (['c'], .num ['4'])], .num ['5']])], 3) := by
  decide +kernel

example : updPathLoci ['b'] [] exM [['*'], ['b']]
    = [[.key ['a'], .key ['b']], [.key ['l'], .idx 0, .key ['b']],
       [.key ['l'], .idx 1, .key ['b']]] := by decide +kernel

/-- path `l` with the sub-key `c:4` (a number): only the member satisfying it gets `b := x` -/
example : updPath ['b'] (.str ['x']) [(['c'], .num ['4'])] exM [['l']]
    = (.map [(['a'], .map [(['b'], .num ['1']), (['c'], .num ['2'])]),
             (['l'], .list [.map [(['b'], .num ['1']), (['c'], .num ['3'])],
                            .map [(['b'], .str ['x']), (['c'], .num ['4'])], .num ['5']])], 1) := by
  decide +kernel

example : updPathLoci ['b'] [(['c'], .num ['4'])] exM [['l']]
    = [[.key ['l'], .idx 1, .key ['b']]] := by decide +kernel

/-- `C10_query_agrees` instantiated: after the `*.b` update the query yields three copies -/
example : walk none (updPath ['b'] (.str ['x']) [] exM [['*'], ['b']]).1 [['*'], ['b']]
    = List.replicate (updPath ['b'] (.str ['x']) [] exM [['*'], ['b']]).2 (.str ['x']) :=
  C10_query_agrees ['b'] (.str ['x']) exM [['*'], ['b']] (by decide +kernel) (by decide +kernel) (by decide +kernel)

/-- `hnl` is needed: a list as the new value is expanded by the query (here: to nothing),
    while the count is 1 -/
example : updPath ['a'] (.list []) [] (.map [(['a'], .num ['1'])]) [['a']]
    = (.map [(['a'], .list [])], 1) := by decide +kernel
example : walk none (.map [(['a'], .list [])]) [['a']] = [] := by decide +kernel

/-- `hkey` is needed: with the wildcard as the new key nothing is replaced, but the query `*`
    yields every value -/
example : updPath ['*'] (.str ['x']) [] (.map [(['a'], .num ['1'])]) [['*']]
    = (.map [(['a'], .num ['1'])], 0) := by decide +kernel
example : walk none (.map [(['a'], .num ['1'])]) [['*']] = [.num ['1']] := by decide +kernel

/-- the frame theorem cannot cover locations above a locus: the root is not below `[a]` -/
example : getLoc (updPath ['a'] (.str ['x']) [] (.map [(['a'], .num ['1'])]) [['a']]).1 []
    ≠ getLoc (.map [(['a'], .num ['1'])]) [] := by decide +kernel

/-- `hwf` is needed for the loci theorems: on an ill-formed "map" with a repeated key the
    wildcard visits both entries (count 2, both changed) while locations can only name the
    first — the ghost loci repeat, and writing at them changes one entry only -/
def exDup : Val := .map [(['a'], .map [(['b'], .num ['1'])]), (['a'], .map [(['b'], .num ['2'])])]
example : exDup.wf = false := by decide +kernel
example : updPath ['b'] (.str ['x']) [] exDup [['*'], ['b']]
    = (.map [(['a'], .map [(['b'], .str ['x'])]), (['a'], .map [(['b'], .str ['x'])])], 2) := by
  decide +kernel
example : updPathLoci ['b'] [] exDup [['*'], ['b']]
    = [[.key ['a'], .key ['b']], [.key ['a'], .key ['b']]] := by decide +kernel
example : writeAll (.str ['x']) exDup [[.key ['a'], .key ['b']], [.key ['a'], .key ['b']]]
    = .map [(['a'], .map [(['b'], .str ['x'])]), (['a'], .map [(['b'], .num ['2'])])] := by
  decide +kernel

end Mxj.C10
