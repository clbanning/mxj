/-
  Mxj.Props.C07 — ValuesForPath returns exactly the values a dot / wildcard / indexed path
  denotes.

  Model: Mxj.Model.Path (walker, look-ahead wrapper).  Specification: Mxj.Model.Denote
  (frontier semantics, written independently of the walker).
-/
import Mxj.Lemmas.Path
import Mxj.Lemmas.PathIdx
namespace Mxj.C07
open Mxj Mxj.Denote

/-- The recursive walker (`valuesForKeyPath`) returns, in order, exactly what the
    plain/wildcard path denotes on the frontier semantics, then the leaf filter — for every
    value, every key list, every sub-key set. -/
theorem C07_walk_is_denotation (subs : Option SubKeys) (m : Val) (ks : List Str) :
    walk subs m ks = (run (ks.map plainStep) [m]).flatMap (loadLeaf subs) :=
  walk_eq_run subs m ks

/-- `ValuesForPath` on a path without `[`: exactly `Denote.valuesForPath` (same values, same
    order, sub-keys only filter), for every Map, every path string, every sub-key list. -/
theorem C07_plain_path_is_denotation (sep : Str) (pf : Str → Option Str) (m : Val) (p : Str)
    (subkeys : List Str) (vs : List Val) (hp : p.contains '[' = false)
    (h : valuesForPath sep pf m p subkeys = .ok vs) :
    Denote.valuesForPath sep pf m p subkeys = some vs := by
  unfold Mxj.valuesForPath at h
  unfold Denote.valuesForPath
  simp only [hp, Bool.not_false, if_true] at h ⊢
  cases hs : subKeyArg sep pf subkeys with
  | error e => simp [hs] at h
  | ok subs =>
    simp only [hs] at h ⊢
    cases h
    rw [oldValues_is_denotation sep pf subkeys subs hs]

/-- never a value from an intermediate step: with no sub-keys the result is the expansion of
    the final frontier only. -/
theorem C07_no_intermediate (m : Val) (ks : List Str) :
    walk none m ks = (run (ks.map plainStep) [m]).flatMap expand :=
  walk_none m ks

/-- `ValueForPath` is the first value of `ValuesForPath`, `PathNotExistError` when none. -/
theorem C07_first (m : Val) (p : Str) :
    valueForPath m p = (match valuesForPath [':'] (fun _ => none) m p [] with
      | .error e => .error e
      | .ok vs => match vs.head? with
        | some v => .ok v
        | none => .error .pathNotExist) := by
  unfold valueForPath
  cases valuesForPath [':'] (fun _ => none) m p [] with
  | error e => rfl
  | ok vs => cases vs <;> rfl

/-- `Exists` is "ValuesForPath is non-empty". -/
theorem C07_exists (sep : Str) (pf : Str → Option Str) (m : Val) (p : Str) (subkeys : List Str) :
    pathExists sep pf m p subkeys = (valuesForPath sep pf m p subkeys).map (fun vs => !vs.isEmpty) := by
  unfold pathExists
  cases valuesForPath sep pf m p subkeys <;> rfl

/-- The look-ahead index wrapper (`valuesForArray`) computes the frontier denotation of an
    indexed path on every Map without a list directly inside a list: `k[i]` selects, for each
    parent, the i-th of the values `k` alone would yield. -/
theorem C07_indexed_is_denotation (keys : List Key) (kvs : Entries) (hne : keys ≠ [])
    (hnames : ∀ k ∈ keys, (k.isArray = false → nameOk k.name = true)
      ∧ (k.isArray = true → nameOk k.name = true ∧ k.name ≠ ['*']))
    (hm : noListInList (.map kvs) = true) :
    valuesForArray keys (.map kvs) = Denote.path (keys.map keyStep) (.map kvs) := by
  refine valuesForArray_is_path keys kvs hne (fun k hk => ?_) hm
  have := hnames k hk
  cases hka : k.isArray with
  | false => exact ⟨this.1 hka, fun h => nomatch h⟩
  | true => exact ⟨(this.2 hka).1, fun _ => (this.2 hka).2⟩

/-- `ValuesForPath` (plain, wildcard and indexed paths, with or without sub-keys): whenever
    the specification applies — the arguments parse, indexes sit on non-empty non-wildcard
    keys, and for indexed paths the Map has no list directly inside a list — the result is
    exactly the denotation, same values in the same order. -/
theorem C07_path_is_denotation (sep : Str) (pf : Str → Option Str) (m : Entries) (p : Str)
    (subkeys : List Str) (vs spec : List Val)
    (h : valuesForPath sep pf (.map m) p subkeys = .ok vs)
    (hs : Denote.valuesForPath sep pf (.map m) p subkeys = some spec) : vs = spec :=
  Except.ok.inj (h.symm.trans (valuesForPath_of_spec sep pf m p subkeys spec hs))

/-- non-vacuity of the indexed theorem: `items[1].sub.list[0]`-style path (index, plain keys,
    index) on a list of maps is inside the specification's domain -/
example :
    Denote.valuesForPath [':'] (fun _ => none)
      (.map [(['d'], .list [.map [(['s'], .map [(['l'], .list [.str ['a'], .str ['b']])])],
                            .map [(['s'], .map [(['l'], .list [.str ['c'], .str ['d']])])]])])
      "d[1].s.l[0]".toList []
    = some [.str ['c']] := by decide +kernel

/-- non-vacuity: a concrete Map with a list of maps, a path that goes through the list -/
example :
    walk none (.map [(['a'], .list [.map [(['b'], .str ['x'])],
                                    .map [(['b'], .list [.num ['1'], .null])]])])
      [['a'], ['b']]
    = [.str ['x'], .num ['1'], .null] := by decide +kernel

end Mxj.C07
