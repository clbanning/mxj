/-
  Mxj.Props.C08ExtPerm — C08 quantifies over every hash-iteration order of every Go map.  In the
  model a map is an association list and the iteration order is the entry order; `ValPerm m m'`
  says m' is m with the entries of EVERY map (at every depth) permuted.  Answers are compared up to
  `ValPerm` too, since an answer is a sub-tree whose own maps are permuted as well.
-/
import Mxj.Lemmas.PermKey
namespace Mxj.C08
open Mxj

/-- ValuesForKey's collector: on well-formed values the answers do not depend on map iteration
    order, up to a permutation of the answer list — for every key and sub-key condition -/
theorem C08_perm_hasKey (key : Str) (subs : SubKeys) (m m' : Val)
    (hw : m.wf = true) (h : ValPerm m m') : PermR (hasKey key subs m) (hasKey key subs m') :=
  hasKey_valperm key subs hw h

/-- the number of values never depends on the iteration order -/
theorem C08_perm_hasKey_length (key : Str) (subs : SubKeys) (m m' : Val)
    (hw : m.wf = true) (h : ValPerm m m') :
    (hasKey key subs m).length = (hasKey key subs m').length :=
  (C08_perm_hasKey key subs m m' hw h).length

/-- `ValuesForKey` itself (sub-key arguments parsed first; the parse does not look at the map) -/
theorem C08_perm_valuesForKey (fieldSep : Str) (pf : Str → Option Str) (key : Str)
    (subkeys : List Str) (m m' : Val) (hw : m.wf = true) (h : ValPerm m m') :
    (∃ e, valuesForKey fieldSep pf m key subkeys = .error e
        ∧ valuesForKey fieldSep pf m' key subkeys = .error e)
    ∨ ∃ vs vs', valuesForKey fieldSep pf m key subkeys = .ok vs
        ∧ valuesForKey fieldSep pf m' key subkeys = .ok vs' ∧ PermR vs vs' := by
  unfold valuesForKey
  cases subKeyArg fieldSep pf subkeys with
  | error e => exact .inl ⟨e, rfl, rfl⟩
  | ok subs => exact .inr ⟨_, _, rfl, rfl, C08_perm_hasKey key _ m m' hw h⟩

/-- PathsForKey: the same set of paths, whatever the iteration order -/
theorem C08_perm_pathsForKey (key : Str) (m m' : Val) (hw : m.wf = true) (h : ValPerm m m') :
    ∀ p, p ∈ pathsForKey m key ↔ p ∈ pathsForKey m' key := by
  intro p
  unfold pathsForKey
  rw [List.mem_eraseDups, List.mem_eraseDups]
  exact (hasKeyPath_valperm key [] hw h).mem_iff

private def s (x : String) : Str := x.toList
private def mA : Val := .map [(s "a", .map [(s "x", .str (s "1")), (s "y", .str (s "2"))]),
                              (s "b", .list [.map [(s "x", .num (s "i:1")), (s "q", .null)]])]
/-- the same Go value ranged over in another order, at both depths -/
private def mB : Val := .map [(s "b", .list [.map [(s "q", .null), (s "x", .num (s "i:1"))]]),
                              (s "a", .map [(s "y", .str (s "2")), (s "x", .str (s "1"))])]

example : mA.wf = true := by decide +kernel

private theorem mAB : ValPerm mA mB :=
  .map (mid := [(s "b", .list [.map [(s "x", .num (s "i:1")), (s "q", .null)]]),
                (s "a", .map [(s "x", .str (s "1")), (s "y", .str (s "2"))])])
    (List.Perm.swap _ _ _)
    (.cons _ (.list (.cons (.map (List.Perm.swap _ _ _)
        (.cons _ (.refl _) (.cons _ (.refl _) .nil))) .nil))
      (.cons _ (.map (List.Perm.swap _ _ _) (.cons _ (.refl _) (.cons _ (.refl _) .nil))) .nil))

/-- the ORDER of the values for key "x" does change: equality would be false -/
example : hasKey (s "x") [] mA = [.str (s "1"), .num (s "i:1")]
    ∧ hasKey (s "x") [] mB = [.num (s "i:1"), .str (s "1")] := by
  decide +kernel

example : PermR (hasKey (s "x") [] mA) (hasKey (s "x") [] mB) :=
  C08_perm_hasKey _ _ _ _ (by decide +kernel) mAB

example : ∀ p, p ∈ pathsForKey mA (s "x") ↔ p ∈ pathsForKey mB (s "x") :=
  C08_perm_pathsForKey _ _ _ (by decide +kernel) mAB

end Mxj.C08
