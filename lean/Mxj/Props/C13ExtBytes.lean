/-
  Mxj.Props.C13ExtBytes — the reader forms at BYTE level, end to end, for every delivery
  schedule: `NewMapXmlReader` / `NewMapXmlReaderRaw` as
      decode (tokenize (bytes pulled through the byte adaptor over the schedule))
  built from model pieces only: `Stream.drain` / `Stream.teeDrain` (the repaired
  `byteReader.ReadByte` / `teeReader.ReadByte` called until the first error), the tokenizer model
  `Tokz.tokenize` and the decoder `newMapXml`.  Composes `C13_adaptor_transparent(_fuel)` with the
  byte-level decoders of `C01ExtBytes` and the byte-level fixed point `C02_tok_fixed_point_bytes`.

  Still trusted (as in C13ExtTok): the model tokenizer agrees with `encoding/xml` (sampled by
  `xtok`), and that the real decoder, which pulls only as far as the root's end tag, sees the
  same tokens as the whole-stream tokenization (`C13_tok_stream_no_overread` for the encoder's
  output); `C13_bytes_raw_is_consumed` states the Raw capture for EVERY number of pulls.
-/
import Mxj.Lemmas.StreamBytes
import Mxj.Props.C13
import Mxj.Props.C13ExtTok
import Mxj.Props.C01ExtBytes
import Mxj.Props.C02ExtTok
namespace Mxj.C13
open Mxj Mxj.Stream Mxj.Enc Mxj.Dec Mxj.Tokz Mxj.Surf

/-! ### the model of the reader forms -/

/-- how the adaptor's final error reaches the decoder: io.EOF, or any other error -/
def finOf : RdErr → StreamEnd
  | .eof => .eof
  | .other => .bad

/-- `NewMapXml(bytes)`: tokenize, decode; bytes the tokenizer rejects are a syntax error -/
def newMapXmlBytes (cfg : DecCfg) (S : Strconv) (bs : Str) (fin : StreamEnd) : Outcome Val :=
  match tokenize bs with
  | some ts => newMapXml cfg S ts fin
  | none => .syntax

/-- the bytes `byteReader.ReadByte` delivers over a schedule until its first error -/
def bytesThroughAdaptor (s : Sched) : Str := (drain (s.length + 1) s).1
/-- … and that error -/
def endThroughAdaptor (s : Sched) : RdErr := (drain (s.length + 1) s).2

/-- `NewMapXmlReader(r)` over a reader with delivery schedule `s` -/
def newMapXmlReader (cfg : DecCfg) (S : Strconv) (s : Sched) : Outcome Val :=
  newMapXmlBytes cfg S (bytesThroughAdaptor s) (finOf (endThroughAdaptor s))

/-- `NewMapXmlReaderRaw(r)`: the same through the tee adaptor, with the captured bytes -/
def newMapXmlReaderRaw (cfg : DecCfg) (S : Strconv) (s : Sched) : Outcome Val × Str :=
  let r := teeDrain (s.length + 1) [] s
  (newMapXmlBytes cfg S r.1 (finOf r.2.1), r.2.2)

/-- a legal complete delivery: no byte after a (0,EOF)/(0,error) read, and the stream ends with
    io.EOF (a (0,EOF) read, a last byte together with io.EOF, or the reader running out) -/
def Legal (s : Sched) : Bool := EndsOnce s && (endErr s == .eof)

/-! ### the adaptors inside the reader forms -/

/-- what the reader forms see of a schedule — EVERY schedule -/
theorem C13_bytes_adaptor (s : Sched) :
    bytesThroughAdaptor s = bytesOf (upToEnd s) ∧ endThroughAdaptor s = endErr s := by
  unfold bytesThroughAdaptor endThroughAdaptor
  rw [C13_adaptor_transparent_fuel s _ (Nat.lt_succ_self _)]
  exact ⟨rfl, rfl⟩

/-- the Raw capture is exactly the bytes consumed, for EVERY number `k` of `ReadByte` calls the
    decoder makes, every schedule and every initial buffer: the tee adaptor delivers what the
    plain adaptor delivers, the capture is the buffer followed by the delivered bytes, and those
    are the first `k` data bytes of the stream -/
theorem C13_bytes_raw_is_consumed (k : Nat) (w : Str) (s : Sched) :
    (teeDrain k w s).1 = (drain k s).1 ∧ (teeDrain k w s).2.1 = (drain k s).2 ∧
    (teeDrain k w s).2.2 = w ++ (teeDrain k w s).1 ∧
    (teeDrain k w s).1 = (bytesOf (upToEnd s)).take k := by
  rw [teeDrain_eq]
  exact ⟨rfl, rfl, rfl, drain_take s k⟩

/-- the Raw form = the plain form paired with the bytes the adaptor delivered — EVERY schedule -/
theorem C13_bytes_raw_eq_plain (cfg : DecCfg) (S : Strconv) (s : Sched) :
    newMapXmlReaderRaw cfg S s = (newMapXmlReader cfg S s, bytesThroughAdaptor s) := by
  unfold newMapXmlReaderRaw newMapXmlReader bytesThroughAdaptor endThroughAdaptor
  simp [teeDrain_eq]

/-! ### reading through any schedule = decoding the byte string -/

/-- EVERY schedule (also with (0,error) entries and bytes after a (0,EOF)): the reader form is
    the byte-level decoder on the data bytes before the first (0,EOF)/(0,error) entry, ended by
    that entry's error -/
theorem C13_bytes_reader_eq_direct_all (cfg : DecCfg) (S : Strconv) (s : Sched) :
    newMapXmlReader cfg S s = newMapXmlBytes cfg S (bytesOf (upToEnd s)) (finOf (endErr s)) := by
  unfold newMapXmlReader
  rw [(C13_bytes_adaptor s).1, (C13_bytes_adaptor s).2]

theorem legal_iff (s : Sched) : Legal s = true ↔ EndsOnce s = true ∧ endErr s = .eof := by
  simp [Legal]

/-- a legal schedule: `NewMapXmlReader` over it = `NewMapXml` on the byte string it carries,
    and the Raw form additionally returns exactly that byte string -/
theorem C13_bytes_reader_eq_direct (cfg : DecCfg) (S : Strconv) (s : Sched)
    (h : Legal s = true) :
    newMapXmlReader cfg S s = newMapXmlBytes cfg S (bytesOf s) .eof ∧
    newMapXmlReaderRaw cfg S s = (newMapXmlBytes cfg S (bytesOf s) .eof, bytesOf s) := by
  obtain ⟨h1, h2⟩ := (legal_iff s).1 h
  rw [C13_bytes_raw_eq_plain, C13_bytes_reader_eq_direct_all, (C13_bytes_adaptor s).1,
    bytesOf_upToEnd s h1, h2]
  exact ⟨rfl, rfl⟩

/-- the side condition in words: no (0,error) entry and no byte after a (0,EOF) entry -/
theorem C13_bytes_legal_of (s : Sched) (h1 : NoFail s) (h2 : EndsOnce s = true) :
    Legal s = true :=
  (legal_iff s).2 ⟨h2, endErr_noFail s h1⟩

/-- one byte per read, no EOF marker: legal, and it carries the string -/
theorem C13_bytes_plain_legal (bs : Str) : Legal (plain bs) = true ∧ bytesOf (plain bs) = bs := by
  refine ⟨?_, bytesOf_plain bs⟩
  induction bs with
  | nil => rfl
  | cons c t ih => simpa [plain, Legal, EndsOnce, endErr] using ih

/-! ### the result does not depend on the schedule -/

/-- two legal schedules of the same byte string give the same Map / error in the plain and in
    the Raw form, and the Raw bytes are exactly the bytes pulled through the adaptor (= the
    byte string) under either schedule -/
theorem C13_bytes_reader_schedule_free (cfg : DecCfg) (S : Strconv) (s₁ s₂ : Sched)
    (h₁ : Legal s₁ = true) (h₂ : Legal s₂ = true) (hb : bytesOf s₁ = bytesOf s₂) :
    newMapXmlReader cfg S s₁ = newMapXmlReader cfg S s₂ ∧
    newMapXmlReaderRaw cfg S s₁ = newMapXmlReaderRaw cfg S s₂ ∧
    (newMapXmlReaderRaw cfg S s₁).2 = bytesThroughAdaptor s₁ ∧
    (newMapXmlReaderRaw cfg S s₂).2 = bytesThroughAdaptor s₂ ∧
    bytesThroughAdaptor s₁ = bytesOf s₁ := by
  obtain ⟨a1, b1⟩ := C13_bytes_reader_eq_direct cfg S s₁ h₁
  obtain ⟨a2, b2⟩ := C13_bytes_reader_eq_direct cfg S s₂ h₂
  refine ⟨by rw [a1, a2, hb], by rw [b1, b2, hb], ?_, ?_, ?_⟩
  · rw [C13_bytes_raw_eq_plain]
  · rw [C13_bytes_raw_eq_plain]
  · exact C13_adaptor_lossless s₁ ((legal_iff s₁).1 h₁).1

/-- in particular: any legal schedule = the one-byte-per-read delivery of the same string -/
theorem C13_bytes_reader_eq_plain (cfg : DecCfg) (S : Strconv) (s : Sched) (h : Legal s = true) :
    newMapXmlReader cfg S s = newMapXmlReader cfg S (plain (bytesOf s)) :=
  (C13_bytes_reader_schedule_free cfg S s (plain (bytesOf s)) h (C13_bytes_plain_legal _).1
    (C13_bytes_plain_legal _).2.symm).1

/-! ### composition with the byte-level decoder of C01ExtBytes -/

/-- every surface form of a document (prolog, root written with any quote style / white space
    in tags / CDATA / comments / references, trailer), delivered under ANY legal schedule, reads
    as `Fold.doc` of its source tree, and the Raw form returns the document's bytes -/
theorem C13_bytes_reader_surface (cfg : DecCfg) (S : Strconv)
    (pre post : Str) (ps qs : List Tok)
    (hpre : tokenize pre = some ps) (hpost : tokenize post = some qs)
    (hps : ∀ t ∈ ps, ¬ isStart t)
    (n : SNode) (hroot : isElemS n = true) (hok : surfOk n = true)
    (s : Sched) (hs : Legal s = true) (hb : bytesOf s = pre ++ renderS n ++ post) :
    newMapXmlReader cfg S s = .ok (Fold.doc cfg S (toNode n)) ∧
    newMapXmlReaderRaw cfg S s = (.ok (Fold.doc cfg S (toNode n)), pre ++ renderS n ++ post) := by
  obtain ⟨ts, ht, hd⟩ := C01.C01_bytes_newMapXml_tree cfg S .eof pre post ps qs hpre hpost hps n
    hroot hok
  have e : newMapXmlBytes cfg S (pre ++ renderS n ++ post) .eof
      = .ok (Fold.doc cfg S (toNode n)) := by
    unfold newMapXmlBytes; rw [ht]; exact hd
  have h := C13_bytes_reader_eq_direct cfg S s hs
  rwa [hb, e] at h

/-! ### the encoder's output under any schedule -/

/-- a successful decode of the model tokens is a successful byte-level decode: bytes the
    tokenizer rejects never decode to a Map -/
theorem C13_bytes_of_tokens_ok (cfg : DecCfg) (S : Strconv) (bs : Str) (fin : StreamEnd) (v : Val)
    (h : newMapXml cfg S (Tokz.tokens bs) fin = .ok v) : newMapXmlBytes cfg S bs fin = .ok v := by
  unfold newMapXmlBytes
  unfold Tokz.tokens at h
  cases ht : tokenize bs with
  | some ts => simpa [ht] using h
  | none =>
    rw [ht] at h
    cases fin <;> simp [newMapXml, decodeTop] at h

/-- decode a document, write the Map with `mv.Xml()` (escaping on), deliver the bytes through a
    Reader under ANY legal schedule and read them with `NewMapXmlReader` / `NewMapXmlReaderRaw`:
    the Map read is the one of the direct byte-level fixed point (`C02_tok_fixed_point_bytes`),
    equivalent to the first Map, the same for every schedule, and the Raw bytes are the bytes
    written.  Hypotheses as in `C02_tok_fixed_point_bytes`. -/
theorem C13_bytes_encoder_any_schedule (S : Strconv)
    (pre post : List Tok) (hpre : ∀ t ∈ pre, ¬ isStart t)
    (sp name : Str) (attrs : List Attr) (kids : List Node)
    (hd : Conv.inDomain dc S (.elem sp name attrs kids) = true)
    (hadj : noAdjText (.elem sp name attrs kids) = true)
    (hnames : NamesOk (.elem sp name attrs kids) = true)
    (hwn : ∀ n, encTree ec name (Conv.value dc S (.elem sp name attrs kids)).norm = .ok [n] →
      WellNamed n = true) :
    ∃ m out m',
      newMapXml dc S (pre ++ flatten (.elem sp name attrs kids) ++ post) .eof = .ok (.map m)
      ∧ mapXml ec m none = .ok out
      ∧ newMapXmlBytes dc S out .eof = .ok m'
      ∧ m' ≈ᵥ .map m
      ∧ ∀ s : Sched, Legal s = true → bytesOf s = out →
          newMapXmlReader dc S s = .ok m' ∧ newMapXmlReaderRaw dc S s = (.ok m', out) := by
  obtain ⟨m, out, m', h1, h2, h3, h4⟩ := C02.C02_tok_fixed_point_bytes S .eof pre post hpre sp name
    attrs kids hd hadj hnames hwn
  have hb := C13_bytes_of_tokens_ok dc S out .eof m' h3
  refine ⟨m, out, m', h1, h2, hb, h4, ?_⟩
  intro s hs hbs
  have h := C13_bytes_reader_eq_direct dc S s hs
  rwa [hbs, hb] at h

/-! ### non-vacuity -/

/-- the bytes `<a x="1">t</a>` with zero-length reads before every byte, the last byte together
    with io.EOF, then a (0,EOF) read -/
def exXml : Str := "<a x=\"1\">t</a>".toList
def exXmlSched : Sched :=
  (exXml.dropLast.flatMap fun c => [.zero, .byte c false]) ++ [.zero, .byte '>' true, .zeroEof]

theorem exXmlSched_ok : Legal exXmlSched = true ∧ WF exXmlSched = true ∧ bytesOf exXmlSched = exXml := by
  -- the kernel unfolds `String.toList` of a literal through the UTF-8 decoding of its bytes, at a
  -- cost quadratic in its length: a long literal is first turned into its list of characters
  unfold exXmlSched exXml
  repeat rw [String.toList_ofList]
  decide +kernel
example : Legal exXmlSched = true ∧ WF exXmlSched = true ∧ bytesOf exXmlSched = exXml := exXmlSched_ok
example : Rd.zero ∈ exXmlSched ∧ Rd.byte '>' true ∈ exXmlSched := by
  unfold exXmlSched exXml
  repeat rw [String.toList_ofList]
  decide +kernel
example : Legal C13.exSched = true := by decide +kernel
example : bytesThroughAdaptor exXmlSched = exXml ∧ endThroughAdaptor exXmlSched = .eof := by
  unfold exXmlSched exXml
  repeat rw [String.toList_ofList]
  decide +kernel
example : (newMapXmlReaderRaw {} S0 exXmlSched).2 = exXml := by
  rw [(C13_bytes_reader_eq_direct {} S0 exXmlSched exXmlSched_ok.1).2]; decide +kernel
example : newMapXmlReader {} S0 exXmlSched = newMapXmlReader {} S0 (plain exXml) :=
  (C13_bytes_reader_schedule_free {} S0 exXmlSched (plain exXml) exXmlSched_ok.1
    (C13_bytes_plain_legal exXml).1
    (by rw [exXmlSched_ok.2.2, (C13_bytes_plain_legal exXml).2])).1

/-- `Legal` is needed: a byte after a (0,EOF) read is never seen … -/
example : bytesThroughAdaptor [.byte 'a' false, .zeroEof, .byte 'b' false] ≠
    bytesOf [.byte 'a' false, .zeroEof, .byte 'b' false] := by decide +kernel
/-- … and a (0,error) read ends the stream with an error, not io.EOF -/
example : endThroughAdaptor [.byte 'a' false, .fail] = .other ∧
    Legal [.byte 'a' false, .fail] = false := by decide +kernel

def exSurfBytes : Str := renderS C01.surfSample
def exSurfSched : Sched :=
  (exSurfBytes.dropLast.flatMap fun c => [.byte c false, .zero]) ++ [.byte '>' true, .zeroEof]

/-- the bytes `mv.Xml()` writes for the sample document of `Props/C02.lean`, then their delivery
    with zero-length reads and byte+EOF; the examples behind them: the hypotheses of
    `C13_bytes_encoder_any_schedule` hold on that document -/
def exEncBytes : Str := "<a x=\" 1 \"><b>t&lt;u</b><b/><c k=\"v\">w<d/></c></a>".toList
def exEncSched : Sched :=
  (exEncBytes.dropLast.flatMap fun c => [.zero, .byte c false]) ++ [.byte '>' true, .zeroEof]
example : Legal exEncSched = true ∧ bytesOf exEncSched = exEncBytes := by
  unfold exEncSched exEncBytes
  rw [String.toList_ofList]
  decide +kernel
example : mapXml ec [("a".toList, C02.sampleMap)] none = .ok exEncBytes := by
  unfold exEncBytes
  repeat rw [String.toList_ofList]
  decide +kernel
example : Conv.inDomain dc C02.S0 C02.sampleTree = true ∧ NamesOk C02.sampleTree = true ∧
    noAdjText C02.sampleTree = true := by decide +kernel
example : ∃ n, encTree ec "a".toList C02.sampleMap.norm = .ok [n] ∧ WellNamed n = true :=
  ⟨_, rfl, by decide +kernel⟩

end Mxj.C13
