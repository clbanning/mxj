/-
  Mxj.Props.C05ExtFrame — frame of C05's API over the package-level state, on facts regenerated from
  /repo's current source on every run: the four XML encoders read the escaping, validity and
  empty-element switches, the escape table, the attribute prefix and the reserved key names, nothing
  else;
  and none of them (nor any function they can reach) assigns a package-level variable, so what they
  return is a function of their arguments and of exactly those variables - no hidden state carried
  from one call to the next.
-/
import Mxj.Lemmas.Facts
namespace Mxj.C05
open Mxj

/-- the package-level variables C05's functions may read -/
def frameAllowed : List String := ["attrK", "attrPrefix", "commentK", "directiveK", "escapechars", "instK", "lenAttrPrefix", "procinstK", "seqK", "targetK", "textK", "useGoXmlEmptyElemSyntax", "xmlCheckIsValid", "xmlEscapeChars"]

theorem frame_cert :
    Facts.cert Generated.c05FrameRoots Generated.c05FrameRootsClosure (Facts.frameOk frameAllowed)
      = true := by decide +kernel

theorem C05_frame_reads (root g v : String) (hr : root ∈ Generated.c05FrameRoots)
    (h : Facts.Reach root g) (hv : v ∈ Facts.readsOf g) : v ∈ frameAllowed :=
  Facts.reads_of_frame frame_cert hr h hv

theorem C05_frame_no_hidden_state (root g : String) (hr : root ∈ Generated.c05FrameRoots)
    (h : Facts.Reach root g) : Facts.writesOf g = [] :=
  Facts.writes_of_frame frame_cert hr h

/-- the statements are not vacuous: the API group is present in the source -/
theorem C05_frame_roots_present : Generated.c05FrameRoots.length ≥ 1 := by decide +kernel

end Mxj.C05
