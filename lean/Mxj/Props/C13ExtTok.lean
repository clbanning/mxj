/-
  Mxj.Props.C13ExtTok — the XML stream statements of C13ExtXml at BYTE level: the tokenizer
  model (`Mxj.Tokz.tokenize`) in place of the law TB-XML-stop, trusted there.  The statements
  are those of Props/C19ExtTok, read as statements about streams (helper lemmas:
  Mxj.Lemmas.TokenizerCat).  Remaining hypotheses: well-named element trees rendered with
  escaping on, white-space separators.  Still trusted: the real decoder's read-ahead through the
  single-byte adaptor (`C13_adaptor_transparent`) loses no byte, and the tokens delivered before
  a syntax error in a truncated stream.
-/
import Mxj.Props.C19ExtTok
namespace Mxj.C13
open Mxj Mxj.Enc Mxj.Files Mxj.Tokz

/-- documents written one after another on a stream (white space between them) and read back
    through the tokenizer model by repeated `NewMapXmlReader` calls: the Maps of decoding each
    document's own bytes, in order, then io.EOF -/
theorem C13_tok_stream_docs (e : EncCfg) (hesc : e.escape = true) (cfg : DecCfg)
    (S : Strconv) (docs : List (Str × Node))
    (hsep : ∀ d ∈ docs, wsOk d.1 = true) (hW : ∀ d ∈ docs, WellNamed d.2 = true)
    (he : ∀ d ∈ docs, Files.isElem d.2 = true) (trail : Str) (htrail : wsOk trail = true)
    (f : Nat) (hf : docs.length < f) :
    ∃ rs, readMapsXml cfg S .eof f (Tokz.tokens (xmlDocsBytes e docs trail)) [] = ⟨rs, false⟩ ∧
      rs.length = docs.length ∧
      ∀ (i : Nat) (h1 : i < rs.length) (h2 : i < docs.length) (fin : StreamEnd),
        newMapXml cfg S (Tokz.tokens (render e docs[i].2)) fin = .ok rs[i] :=
  C19.C19_tok_file_same_as_single e hesc cfg S docs hsep hW he trail htrail f hf

/-- no over-reading, byte level: the tokens of a document followed by ANY tokenizable input are
    the document's tokens followed by the tokens of that input - lexing the document depends on
    no byte behind its root's end tag -/
theorem C13_tok_stream_no_overread (cfg : EncCfg) (hesc : cfg.escape = true) (a : Node)
    (ha : WellNamed a = true) (hea : Files.isElem a = true) (rest : Str) (us : List Tok)
    (hrest : tokenize rest = some us) :
    tokenize (render cfg a ++ rest) = some (flatten a ++ us) :=
  C19.C19_tok_no_overread cfg hesc a ha hea rest us hrest

/-- the bulk handler on bytes: stops after the `b`-th document whatever tokenizable input follows -/
theorem C13_tok_handler_stops (e : EncCfg) (hesc : e.escape = true) (cfg : DecCfg) (S : Strconv)
    (fin : StreamEnd) (docs : List (Str × Node))
    (hsep : ∀ d ∈ docs, wsOk d.1 = true) (hW : ∀ d ∈ docs, WellNamed d.2 = true)
    (he : ∀ d ∈ docs, Files.isElem d.2 = true) (rest : Str) (us : List Tok)
    (hrest : tokenize rest = some us) (b : Nat) (hb : b ≤ docs.length) (f : Nat) (hf : b < f) :
    handleXml cfg S fin f b (Tokz.tokens (xmlDocsBytes e docs rest)) []
      = ⟨(docs.take b).map (fun d => Fold.doc cfg S d.2), false⟩ :=
  C19.C19_tok_handler_stops e hesc cfg S fin docs hsep hW he rest us hrest b hb f hf

/-- non-vacuity: the sample file of C19ExtTok -/
example : ∃ rs, readMapsXml {} Dec.S0 .eof 4 (Tokz.tokens (xmlDocsBytes ec C19.tokDocs "\n".toList)) []
    = ⟨rs, false⟩ ∧ rs.length = 3 := by
  obtain ⟨rs, h, hl, _⟩ := C13_tok_stream_docs ec rfl {} Dec.S0 C19.tokDocs C19.tokDocs_ok.1
    C19.tokDocs_ok.2.1 C19.tokDocs_ok.2.2 "\n".toList (by decide +kernel) 4 (by decide +kernel)
  exact ⟨rs, h, by simpa [C19.tokDocs] using hl⟩

end Mxj.C13
