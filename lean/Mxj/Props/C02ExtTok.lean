/-
  Mxj.Props.C02ExtTok — the tokenizer law of C02, PROVED for an executable tokenizer model
  instead of assumed.

  `C02_fixed_point_bytes`, `C02_sym_fixed_point_bytes` and `C02_escdec_fixed_point_bytes` take
  the XML tokenizer as a parameter `tokens : Str → List Tok` with the assumed law `TokLaw tokens`
  / `TokLawRaw tokens` ("tokenizing the canonical rendering of a well-named tree gives the
  tree's own token sequence").  `Model/Tokenizer.lean` is a small total tokenizer for the XML
  subset the encoders emit and a bit more (both quote styles, white space in tags, `p:l` names,
  CDATA, comments, processing instructions; entity and numeric references expanded by the
  model `unesc`; `\r` normalisation; the syntax errors of strict mode); the laws hold
  for it, and the byte-level round trips are restated with the tokenizer hypothesis discharged.

  The model is tied to `encoding/xml` by the harness: op `xtok` (Driver/OpsTok.lean) prints the
  model's tokens for a byte string, and harness/c02.go compares them with `xml.Decoder.RawToken`
  (and `Token` where no name-space translation applies) for every compact encoder output and for
  the generator's documents inside the supported subset.
-/
import Mxj.Lemmas.Tokenizer
import Mxj.Props.C02ExtEscDec
namespace Mxj.C02
open Mxj Mxj.Enc Mxj.EncSym Mxj.EscDec Mxj.Tokz

/-- Option-aware tokenizer law for raw text: with the encoder's escaping off, if every raw value
    `r` of `n` is well-formed character data (`rawView n = some n'`: `unesc r = some v`), holds
    no raw `<`, `>`, `"` (`rawSafe`), and the tree `n'` of the `v`s is well-named, then the model
    tokenizer accepts `render cfg n` and returns exactly the token sequence of `n'`. -/
theorem C02_tok_raw (cfg : EncCfg) (n n' : Node) (hesc : cfg.escape = false)
    (hv : rawView n = some n') (hs : rawSafe n = true) (hW : WellNamed n' = true) :
    tokenize (render cfg n) = some (flatten n') := by
  simpa using tokenize_render cfg hesc n n' hv hs hW [] [] (fun _ => rfl) rfl

/-- `TokLawRaw` holds for the tokenizer model -/
theorem C02_tok_law_raw : TokLawRaw Tokz.tokens := by
  constructor
  intro cfg n n' hesc hv hs hW
  unfold Tokz.tokens
  rw [C02_tok_raw cfg n n' hesc hv hs hW]
  rfl

/-- `TokLaw` holds for the tokenizer model: for EVERY encoder configuration with escaping on and
    EVERY well-named tree, tokenizing the rendering gives the flattening -/
theorem C02_tok_law : TokLaw Tokz.tokens := C02_escdec_raw_law_implies_law C02_tok_law_raw

/-- … in Option form: the tokenizer does not fail on the encoder's escaped output -/
theorem C02_tok_escaped (cfg : EncCfg) (n : Node) (hesc : cfg.escape = true)
    (hW : WellNamed n = true) : tokenize (render cfg n) = some (flatten n) := by
  rw [render_escaped cfg hesc]
  exact C02_tok_raw (escOff cfg) _ n rfl (rawView_mapNode_escape n) (rawSafe_mapNode_escape n) hW

/-- the run `escapeChars v` of character data (or attribute value) is handed
    back as `v`, for every `v` of XML characters without '\r' -/
theorem C02_tok_text_unescapes (v : Str) (hv : xmlCharsOk v = true) :
    lexChars (escapeChars v) = some v :=
  lexChars_escape v hv

/-- every step consumes input: the fuel `tokenize` uses (input length + 1) is enough for any
    result obtainable with any fuel -/
theorem C02_tok_fuel_enough (g : Nat) (s : Str) (ts : List Tok) (h : tokF g s = some ts) :
    tokenize s = some ts := tokenize_of_tokF h

/-! ### the byte-level fixed points without a tokenizer hypothesis -/

/-- `C02_fixed_point_bytes` with the tokenizer model in place of the assumed tokenizer:
    decode, encode with `mv.Xml()` (escaping on), tokenize the bytes with `Tokz.tokens`, decode
    again — the second Map is equivalent to the first -/
theorem C02_tok_fixed_point_bytes (S : Strconv)
    (fin : StreamEnd) (pre post : List Tok) (hpre : ∀ t ∈ pre, ¬ isStart t)
    (sp name : Str) (attrs : List Attr) (kids : List Node)
    (hd : Conv.inDomain dc S (.elem sp name attrs kids) = true)
    (hadj : noAdjText (.elem sp name attrs kids) = true)
    (hnames : NamesOk (.elem sp name attrs kids) = true)
    (hwn : ∀ n, encTree ec name (Conv.value dc S (.elem sp name attrs kids)).norm = .ok [n] →
      WellNamed n = true) :
    ∃ m out m',
      newMapXml dc S (pre ++ flatten (.elem sp name attrs kids) ++ post) fin = .ok (.map m)
      ∧ mapXml ec m none = .ok out
      ∧ newMapXml dc S (Tokz.tokens out) fin = .ok m'
      ∧ m' ≈ᵥ .map m :=
  C02_fixed_point_bytes Tokz.tokens C02_tok_law S fin pre post hpre sp name attrs kids hd hadj
    hnames hwn

/-- `C02_sym_fixed_point_bytes` for every symmetric option pair, tokenizer model in place -/
theorem C02_tok_sym_fixed_point_bytes
    (d : DecCfg) (S : Strconv) (e : EncCfg) (hs : Sym d e) (hesc : e.escape = true)
    (hF : FoldLaw d S) (hL : LeafLaw d S) (hP : NumPlainLaw d S e)
    (fin : StreamEnd) (pre post : List Tok) (hpre : ∀ t ∈ pre, ¬ isStart t)
    (sp name : Str) (attrs : List Attr) (kids : List Node)
    (hd : Conv.inDomain d S (.elem sp name attrs kids) = true)
    (hadj : noAdjText (.elem sp name attrs kids) = true)
    (hnames : NamesOkG d S e (.elem sp name attrs kids) = true)
    (hwn : ∀ n, encTree e (elemKey d S name)
        (Conv.value d S (.elem sp name attrs kids)).norm = .ok [n] → WellNamed n = true) :
    ∃ m out m',
      newMapXml d S (pre ++ flatten (.elem sp name attrs kids) ++ post) fin = .ok (.map m)
      ∧ mapXml e m none = .ok out
      ∧ newMapXml d S (Tokz.tokens out) fin = .ok m'
      ∧ m' ≈ᵥ .map m :=
  C02_sym_fixed_point_bytes Tokz.tokens C02_tok_law d S e hs hesc hF hL hP fin pre post hpre
    sp name attrs kids hd hadj hnames hwn

/-- … from the library laws (`LowerLaw`, `FloatLaw`, `FloatTextLaw`) -/
theorem C02_tok_sym_fixed_point_bytes_tb
    (d : DecCfg) (S : Strconv) (e : EncCfg) (hs : Sym d e) (hesc : e.escape = true)
    (hlow : d.lowerCase = true → LowerLaw S) (hI : d.cast.toInt = false)
    (hfl : d.cast.r = true → FloatLaw S ∧ FloatTextLaw S)
    (fin : StreamEnd) (pre post : List Tok) (hpre : ∀ t ∈ pre, ¬ isStart t)
    (sp name : Str) (attrs : List Attr) (kids : List Node)
    (hd : Conv.inDomain d S (.elem sp name attrs kids) = true)
    (hadj : noAdjText (.elem sp name attrs kids) = true)
    (hnames : NamesOkG d S e (.elem sp name attrs kids) = true)
    (hwn : ∀ n, encTree e (elemKey d S name)
        (Conv.value d S (.elem sp name attrs kids)).norm = .ok [n] → WellNamed n = true) :
    ∃ m out m',
      newMapXml d S (pre ++ flatten (.elem sp name attrs kids) ++ post) fin = .ok (.map m)
      ∧ mapXml e m none = .ok out
      ∧ newMapXml d S (Tokz.tokens out) fin = .ok m'
      ∧ m' ≈ᵥ .map m :=
  C02_sym_fixed_point_bytes_tb Tokz.tokens C02_tok_law d S e hs hesc hlow hI hfl fin pre post
    hpre sp name attrs kids hd hadj hnames hwn

/-- `C02_escdec_fixed_point_bytes` (decoder-side escaping, values written raw), tokenizer model
    in place -/
theorem C02_tok_escdec_fixed_point_bytes
    (d : DecCfg) (S : Strconv) (e : EncCfg) (hs : SymEsc d e) (hF : FoldLaw d S)
    (fin : StreamEnd) (pre post : List Tok) (hpre : ∀ t ∈ pre, ¬ isStart t)
    (sp name : Str) (attrs : List Attr) (kids : List Node)
    (hd : Conv.inDomain d S (.elem sp name attrs kids) = true)
    (hadj : noAdjText (.elem sp name attrs kids) = true)
    (hnames : NamesOkG d S e (.elem sp name attrs kids) = true)
    (hwn : ∀ n0, encTree e (elemKey d S name)
        (Conv.value (plainOf d) S (.elem sp name attrs kids)).norm = .ok [n0] →
        WellNamed n0 = true) :
    ∃ m out m',
      newMapXml d S (pre ++ flatten (.elem sp name attrs kids) ++ post) fin = .ok (.map m)
      ∧ mapXml e m none = .ok out
      ∧ newMapXml d S (Tokz.tokens out) fin = .ok m'
      ∧ m' ≈ᵥ .map m :=
  C02_escdec_fixed_point_bytes Tokz.tokens C02_tok_law_raw d S e hs hF fin pre post hpre
    sp name attrs kids hd hadj hnames hwn

/-! ### non-vacuity, and witnesses that the hypotheses are needed -/

/-- a variant of `C02.sampleTree` without white-space text nodes and with specials to escape: `"`
    in an attribute value, `<` and `&` in text, a second attribute holding `'` -/
def tokTree : Node :=
  .elem [] "a".toList [⟨[], "x".toList, " 1 \"q\" ".toList⟩]
    [.elem [] "b".toList [] [.text "t<u & v".toList], .elem [] "b".toList [] [],
     .elem [] "c".toList [⟨[], "k".toList, "v".toList⟩, ⟨[], "k-2".toList, "'".toList⟩]
       [.text "w".toList, .elem [] "d".toList [] []]]

theorem tokTree_wellNamed : WellNamed tokTree = true := by decide +kernel
example : WellNamed tokTree = true := tokTree_wellNamed
example : render ec tokTree
    = "<a x=\" 1 &quot;q&quot; \"><b>t&lt;u &amp; v</b><b/><c k=\"v\" k-2=\"&apos;\">w<d/></c></a>".toList := by
  repeat rw [String.toList_ofList]
  decide +kernel
example : tokenize (render ec tokTree) = some (flatten tokTree) :=
  C02_tok_escaped ec tokTree rfl tokTree_wellNamed
example : tokenize (render { escape := true, goEmpty := true } tokTree) = some (flatten tokTree) :=
  C02_tok_escaped _ tokTree rfl tokTree_wellNamed

/-- a raw tree (escaping off): numeric references and entities in the raw values -/
def rawTree : Node :=
  .elem [] "a".toList [⟨[], "x".toList, "&#x41;&amp;".toList⟩] [.text "1 &lt; 2 &#50;".toList]
def rawTreeView : Node :=
  .elem [] "a".toList [⟨[], "x".toList, "A&".toList⟩] [.text "1 < 2 2".toList]
theorem rawTree_view : rawView rawTree = some rawTreeView := by decide +kernel
example : rawView rawTree = some rawTreeView := rawTree_view
example : rawSafe rawTree = true := by decide +kernel
example : WellNamed rawTreeView = true := by decide +kernel
example : tokenize (render {} rawTree) = some (flatten rawTreeView) :=
  C02_tok_raw {} rawTree rawTreeView rfl rawTree_view (by decide +kernel) (by decide +kernel)

/-- the model beyond the encoder's output: single quotes, white space in tags, a prefixed name,
    CDATA, a comment, a processing instruction, `\r\n` -/
example : tokenize "<?p i?><p:a  k = 'v\"' ><!--c--><![CDATA[<&]]>x\r\ny</p:a >".toList
    = some [.procinst "p".toList "i".toList,
            .start "p".toList "a".toList [⟨[], "k".toList, "v\"".toList⟩],
            .comment "c".toList, .text "<&".toList, .text "x\ny".toList,
            .stop "p".toList "a".toList] := by
  repeat rw [String.toList_ofList]
  decide +kernel

/-- syntax errors of strict mode: `]]>` in character data, a raw `<` in an attribute value, a
    bare `&`, an attribute without a value, a character outside the XML range -/
example : tokenize "<a>]]></a>".toList = none := by decide +kernel
example : tokenize "<a k=\"<\"/>".toList = none := by decide +kernel
example : tokenize "<a>&x</a>".toList = none := by decide +kernel
example : tokenize "<a k/>".toList = none := by decide +kernel
example : tokenize "<a>&#1;</a>".toList = none := by decide +kernel

/-- `WellNamed` is needed — adjacent text nodes come back as ONE token … -/
example : Tokz.tokens (render ec (.elem [] "a".toList [] [.text "x".toList, .text "y".toList]))
    ≠ flatten (.elem [] "a".toList [] [.text "x".toList, .text "y".toList]) := by decide +kernel
/-- … a carriage return in a text node comes back as a line feed … -/
example : Tokz.tokens (render ec (.elem [] "a".toList [] [.text "x\ry".toList]))
    ≠ flatten (.elem [] "a".toList [] [.text "x\ry".toList]) := by decide +kernel
/-- … a name with a blank is an element with a (broken) attribute: a syntax error … -/
example : tokenize (render ec (.elem [] "a b".toList [] [])) = none := by decide +kernel
/-- … and a name with a colon comes back with a name space. -/
example : Tokz.tokens (render ec (.elem [] "p:a".toList [] []))
    = [.start "p".toList "a".toList [], .stop "p".toList "a".toList] := by decide +kernel
/-- `rawSafe` is needed: a raw `"` ends the attribute value early, a raw `]]>` is an error -/
example : tokenize (render {} (.elem [] "a".toList [⟨[], "k".toList, "x\"y".toList⟩] [])) = none := by
  decide +kernel
example : tokenize (render {} (.elem [] "a".toList [] [.text "]]>".toList])) = none := by
  decide +kernel

end Mxj.C02
