/-
  Mxj.Props.C20 — "The legacy packages agree with the core" (the part with its own code).

  x2j-wrapper implements its own walkers (`ValuesFromKeyPath`, `ValuesAtKeyPath`) and its own
  `PathsForKey` / `PathForKeyShortest`; `Mxj.Model.Wrapper` models them.  Here they are related
  to the core models of `Map.ValuesForPath`, `Map.PathsForKey`, `Map.PathForKeyShortest`
  (`Mxj.Model.Path`).  Every other legacy function is a one-line composition of core calls and is
  checked by the differential harness.
-/
import Mxj.Lemmas.Wrapper
namespace Mxj.C20
open Mxj Mxj.Wrapper

/-- with attributes requested the wrapper's walker IS the core walker, for every value and key
    list -/
theorem C20_valuesFrom_attrs (m : Val) (ks : List Str) : wWalk true m ks = walk none m ks :=
  wWalk_true ks m

/-- hence ValuesFromKeyPath(m, path, true) = Map.ValuesForPath(path) whenever the path has no '['
    and does not end in '.' (the core drops one trailing empty segment, the wrapper does not) -/
theorem C20_valuesFromKeyPath_attrs (m : Val) (path : Str) (h1 : path.contains '[' = false)
    (h2 : (splitDot path).getLast? ≠ some []) :
    valuesForPath [':'] (fun _ => none) m path [] = .ok (valuesFromKeyPath m path true) := by
  rw [valuesForPath_splitDot m path h1 h2, valuesFromKeyPath, C20_valuesFrom_attrs]

/-- … and the trailing-dot difference is real: on `{"a":"x"}` the path `a.` yields `["x"]` in
    the core (the empty last segment is dropped) and nothing in the wrapper (it looks up the key
    `""` in the string `"x"`) -/
theorem C20_trailing_dot_witness :
    ∃ m path, valuesForPath [':'] (fun _ => none) m path [] ≠ .ok (valuesFromKeyPath m path true) := by
  refine ⟨.map [(['a'], .str ['x'])], ['a', '.'], ?_⟩
  rw [valuesForPath_plain _ _ (by decide)]
  intro h
  exact absurd (Except.ok.inj h) (by decide +kernel)

/-- default mode: attribute entries (keys starting with '-') are excluded at wildcard steps,
    nothing else changes -/
theorem C20_valuesFrom_noattrs (m : Val) (ks : List Str) :
    wWalk false m ks = walkNoAttrs m ks :=
  wWalk_false ks m

/-- when the Map has no attribute entries at all both modes coincide with the core -/
theorem C20_noattrs_eq_core (m : Val) (ks : List Str) (h : noDashKeys m = true) :
    wWalk false m ks = walk none m ks := by
  rw [wWalk_switch false true ks m (Or.inr h), wWalk_true]

/-- … so on such a Map ValuesFromKeyPath(m, path, false) = Map.ValuesForPath(path) as well -/
theorem C20_valuesFromKeyPath_noattrs (m : Val) (path : Str) (h1 : path.contains '[' = false)
    (h2 : (splitDot path).getLast? ≠ some []) (h : noDashKeys m = true) :
    valuesForPath [':'] (fun _ => none) m path [] = .ok (valuesFromKeyPath m path false) := by
  rw [valuesForPath_splitDot m path h1 h2, valuesFromKeyPath, C20_noattrs_eq_core _ _ h]

/-- a path without wildcard is unaffected by the attribute switch -/
theorem C20_no_wildcard_same (m : Val) (ks : List Str) (h : ∀ k ∈ ks, k ≠ ['*']) :
    wWalk false m ks = wWalk true m ks :=
  wWalk_switch false true ks m (Or.inl h)

/-- ValuesAtKeyPath = the core values at the parent path when one of them is a map holding the
    last key (or the last key is "*"), else nothing -/
theorem C20_valuesAt (m : Val) (path : Str) :
    valuesAtKeyPath m path true =
      (let keys := splitDot path
       let parent := if keys.length > 1 then walk none m keys.dropLast else [m]
       let key := keys.getLast?.getD []
       if parent.isEmpty then []
       else if key = ['*'] then parent
       else if parent.any (fun v => match v with
           | .map kvs => (lookup key kvs).isSome
           | _ => false) then parent
       else []) := by
  unfold valuesAtKeyPath
  simp only [C20_valuesFrom_attrs]
  rfl

/-- the same in the default mode, over the attribute-skipping walk -/
theorem C20_valuesAt_noattrs (m : Val) (path : Str) :
    valuesAtKeyPath m path false =
      (let keys := splitDot path
       let parent := if keys.length > 1 then walkNoAttrs m keys.dropLast else [m]
       let key := keys.getLast?.getD []
       if parent.isEmpty then []
       else if key = ['*'] then parent
       else if parent.any (fun v => match v with
           | .map kvs => (lookup key kvs).isSome
           | _ => false) then parent
       else []) := by
  unfold valuesAtKeyPath
  simp only [C20_valuesFrom_noattrs]
  rfl

/-! ### PathsForKey / PathForKeyShortest

  The repaired wrapper `hasKeyPath` is textually the core algorithm, so both packages are
  modelled by the same `hasKeyPath`; `PathsForKey` collects its results in a set and
  `PathForKeyShortest` scans that set (`shortestOf`) in whatever order Go's `range` enumerates
  it.  The equalities are definitional in the model; what needs proof is that the scan's answer
  has minimal segment count whatever the enumeration order. -/

/-- the wrapper's PathsForKey is the core's (definitional in the model) -/
theorem C20_pathsForKey (m : Val) (key : Str) : wPathsForKey m key = pathsForKey m key := rfl

/-- the scan returns one of the paths … -/
theorem C20_shortest_mem (ps : List Str) (h : ps ≠ []) : shortestOf ps ∈ ps :=
  shortestOf_mem ps h

/-- … of minimal segment count -/
theorem C20_shortest_minimal (ps : List Str) (r : Str) (h : r ∈ ps) :
    segCount (shortestOf ps) ≤ segCount r :=
  shortestOf_le ps r h

/-- the shortest-path scan returns a path of the same (minimal) segment count regardless of the
    order in which the set is enumerated -/
theorem C20_shortest_order_independent (ps qs : List Str) (h : List.Perm ps qs) :
    segCount (shortestOf ps) = segCount (shortestOf qs) := by
  cases ps with
  | nil => rw [List.Perm.nil_eq h]
  | cons p ps' =>
    have hq : qs ≠ [] := by
      intro e; subst e; exact absurd h.symm.nil_eq (by simp)
    apply Nat.le_antisymm
    · exact shortestOf_le _ _ (h.mem_iff.2 (shortestOf_mem qs hq))
    · exact shortestOf_le _ _ (h.mem_iff.1 (shortestOf_mem _ (by simp)))

/-- hence PathForKeyShortest of the wrapper and of the core return paths of the same length,
    whichever way each enumerates its path set -/
theorem C20_pathForKeyShortest (m : Val) (key : Str) (ps qs : List Str)
    (hp : List.Perm ps (wPathsForKey m key)) (hq : List.Perm qs (pathsForKey m key)) :
    segCount (shortestOf ps) = segCount (shortestOf qs) :=
  C20_shortest_order_independent ps qs (hp.trans hq.symm)

/-- only the length is determined: ties are broken by enumeration order (`a` and `b` are both
    shortest; the scan returns whichever comes first) -/
theorem C20_shortest_tie_witness :
    ∃ ps qs, List.Perm ps qs ∧ shortestOf ps ≠ shortestOf qs := by
  refine ⟨[['a'], ['b']], [['b'], ['a']], List.Perm.swap _ _ _, ?_⟩
  decide +kernel

/-- `{"doc":[{"-id":"1","name":"a"},{"-id":"2","name":"b"}]}` -/
def sample : Val :=
  .map [("doc".toList, .list [
    .map [("-id".toList, .str "1".toList), ("name".toList, .str "a".toList)],
    .map [("-id".toList, .str "2".toList), ("name".toList, .str "b".toList)]])]

/-- with attributes requested the wildcard yields the attribute values too … -/
example : wWalk true sample ["doc".toList, ['*']]
    = [.str "1".toList, .str "a".toList, .str "2".toList, .str "b".toList] := by
  decide +kernel

/-- … in the default mode it does not: the two modes differ -/
example : wWalk false sample ["doc".toList, ['*']] = [.str "a".toList, .str "b".toList] := by
  decide +kernel

example : wWalk false sample ["doc".toList, ['*']] ≠ wWalk true sample ["doc".toList, ['*']] := by
  decide +kernel

/-- the core walker agrees with the attribute mode on the sample -/
example : walk none sample ["doc".toList, ['*']]
    = [.str "1".toList, .str "a".toList, .str "2".toList, .str "b".toList] := by
  decide +kernel

/-- naming the attribute explicitly reaches it in both modes (no wildcard on the path) -/
example : wWalk false sample ["doc".toList, "-id".toList] = [.str "1".toList, .str "2".toList] := by
  decide +kernel

/-- the sample has attribute entries, a Map without them satisfies `noDashKeys` -/
example : noDashKeys sample = false := by decide +kernel
example : noDashKeys (.map [("a".toList, .list [.map [("b".toList, .null)]])]) = true := by
  decide +kernel

/-- ValuesAtKeyPath on the sample: the parent values when one holds the key, else nothing -/
example : valuesAtKeyPath sample "doc.name".toList true = walk none sample ["doc".toList] := by
  decide +kernel

example : valuesAtKeyPath sample "doc.zip".toList true = [] := by decide +kernel

end Mxj.C20
