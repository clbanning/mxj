/-
  Mxj.Props.C16ExtFrame — frame of C16's API over the package-level state, on facts regenerated from
  /repo's current source on every run: the encoders read the escaping, validity and empty-element
  switches, the escape table, the attribute prefix and the reserved key names, nothing else;
  and none of them (nor any function they can reach) assigns a package-level variable, so what they
  return is a function of their arguments and of exactly those variables - no hidden state carried
  from one call to the next.
-/
import Mxj.Lemmas.Facts
namespace Mxj.C16
open Mxj

/-- the package-level variables C16's functions may read -/
def frameAllowed : List String := ["attrK", "attrPrefix", "commentK", "directiveK", "escapechars", "instK", "lenAttrPrefix", "procinstK", "seqK", "targetK", "textK", "useGoXmlEmptyElemSyntax", "xmlCheckIsValid", "xmlEscapeChars"]

theorem frame_cert :
    Facts.cert Generated.c16FrameRoots Generated.c16FrameRootsClosure (Facts.frameOk frameAllowed)
      = true := by decide +kernel

theorem C16_frame_reads (root g v : String) (hr : root ∈ Generated.c16FrameRoots)
    (h : Facts.Reach root g) (hv : v ∈ Facts.readsOf g) : v ∈ frameAllowed :=
  Facts.reads_of_frame frame_cert hr h hv

theorem C16_frame_no_hidden_state (root g : String) (hr : root ∈ Generated.c16FrameRoots)
    (h : Facts.Reach root g) : Facts.writesOf g = [] :=
  Facts.writes_of_frame frame_cert hr h

/-- the statements are not vacuous: the API group is present in the source -/
theorem C16_frame_roots_present : Generated.c16FrameRoots.length ≥ 1 := by decide +kernel

end Mxj.C16
