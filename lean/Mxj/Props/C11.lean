/-
  Mxj.Props.C11 — SetValueForPath / Remove / RenameKey against the abstract get/set/erase
  algebra on nested maps.

  Model: Mxj.Model.Mutate (`setValueForPath`, `removePath`, `renameKey existsNoSubs`), which
  returns the new tree; `Except.error` means "error returned, receiver untouched", so every
  `… = .error _` theorem below is also the statement that the Map is not modified.
  Specification: `getPath` / `setPath` / `erasePath` (end of Mxj.Model.Mutate).

  Throughout: `segs` is the non-empty list of path segments, each `keySafe` (non-empty, no
  '.', '[' or '*'); the Go path string is `joinDot segs`; the parent path is `segs.dropLast`.
  `noListBefore m ks` (Mxj.Lemmas.Mutate): no *proper* prefix of `ks` resolves by `getPath`
  to a list — the exact condition under which "missing by getPath" is "missing for the
  walker" (`walk`/`walkLoc` descend through lists of maps).
-/
import Mxj.Lemmas.Mutate
import Mxj.Lemmas.DecEq
namespace Mxj.C11
open Mxj

/-! ### refinement: SetValueForPath -/

/-- SetValueForPath through nested maps = functional update of exactly that entry -/
theorem C11_set_refines (kvs : Entries) (segs : List Str) (nv pm : Val)
    (hne : segs ≠ []) (hsafe : ∀ s ∈ segs, KeySpec.keySafe s = true)
    (hparent : getPath (.map kvs) segs.dropLast = some pm) (hpm : pm.isMap = true) :
    setValueForPath (.map kvs) nv (joinDot segs) = .ok (setPath nv (.map kvs) segs) := by
  cases pm with
  | map pk => exact setValueForPath_parent _ nv _ segs hne hsafe hparent rfl
  | _ => exact Bool.noConfusion hpm

/-- a missing parent (no list met before the point where the parent path breaks off) is the
    error `pathNotExist`; no new Map is produced -/
theorem C11_set_missing_parent (kvs : Entries) (segs : List Str) (nv : Val)
    (hne : segs ≠ []) (hsafe : ∀ s ∈ segs, KeySpec.keySafe s = true)
    (hnl : noListBefore (.map kvs) segs.dropLast)
    (hparent : getPath (.map kvs) segs.dropLast = none) :
    setValueForPath (.map kvs) nv (joinDot segs) = .error .pathNotExist := by
  rw [setValueForPath_joinDot _ nv segs hne hsafe, walkLoc_getPath_none _ _ hnl hparent]
  rfl

/-- documented no-op on a `nil` parent: success, Map unchanged -/
theorem C11_set_nil_parent (kvs : Entries) (segs : List Str) (nv : Val)
    (hne : segs ≠ []) (hsafe : ∀ s ∈ segs, KeySpec.keySafe s = true)
    (hparent : getPath (.map kvs) segs.dropLast = some .null) :
    setValueForPath (.map kvs) nv (joinDot segs) = .ok (.map kvs) :=
  setValueForPath_parent _ nv .null segs hne hsafe hparent rfl

/-- a parent that is a non-nil scalar is the error `notAMap` (repaired code; the pinned code
    panics on the failed type assertion) -/
theorem C11_set_scalar_parent (kvs : Entries) (segs : List Str) (nv pm : Val)
    (hne : segs ≠ []) (hsafe : ∀ s ∈ segs, KeySpec.keySafe s = true)
    (hparent : getPath (.map kvs) segs.dropLast = some pm)
    (hm : pm.isMap = false) (hl : pm.isList = false) (hnull : pm ≠ .null) :
    setValueForPath (.map kvs) nv (joinDot segs) = .error .notAMap := by
  rw [setValueForPath_parent _ nv pm segs hne hsafe hparent hl]
  cases pm <;> first | exact Bool.noConfusion hm | exact absurd rfl hnull | rfl

/-- a parent that is a list: `ValueForPath(parent)` returns the list's FIRST member, and the
    operation is applied to that member — empty list: `pathNotExist`; first member `nil`:
    no-op; first member a map: the key is set inside that first member (everything else,
    including the other members, unchanged); any other first member: `notAMap`. -/
theorem C11_set_list_parent (kvs : Entries) (segs : List Str) (nv : Val) (xs : List Val)
    (hne : segs ≠ []) (hsafe : ∀ s ∈ segs, KeySpec.keySafe s = true)
    (hparent : getPath (.map kvs) segs.dropLast = some (.list xs)) :
    setValueForPath (.map kvs) nv (joinDot segs) =
      match (generalizing := false) xs with
      | [] => .error .pathNotExist
      | .null :: _ => .ok (.map kvs)
      | .map e :: rest =>
          .ok (setPath (.list (.map (insert (segs.getLast hne) nv e) :: rest)) (.map kvs)
                segs.dropLast)
      | _ :: _ => .error .notAMap := by
  have hks : segs.dropLast ≠ [] := by
    intro e; rw [e, getPath_nil] at hparent; cases hparent
  rw [setValueForPath_joinDot _ nv segs hne hsafe, walkLoc_getPath _ _ _ hparent, walkLoc]
  cases xs with
  | nil => rfl
  | cons x rest =>
    simp only [List.length_cons, List.range_succ_eq_map, List.map_cons, List.head?_cons,
      getLoc_keys_append, hparent, Option.bind_some, getLoc, List.getElem?_cons_zero]
    cases x with
    | map e =>
      simp only [updLoc_keys_append _ _ _ _ _ hks hparent, updLoc, List.getElem?_cons_zero,
        List.set_cons_zero]
    | _ => rfl

/-! ### refinement: Remove -/

theorem C11_remove_refines (kvs : Entries) (segs : List Str)
    (hne : segs ≠ []) (hsafe : ∀ s ∈ segs, KeySpec.keySafe s = true)
    (hv : (getPath (.map kvs) segs).isSome = true) :
    removePath (.map kvs) (joinDot segs) = .ok (erasePath (.map kvs) segs) := by
  rw [removePath_joinDot _ segs hne hsafe, if_pos hv]

/-- Remove of a path that does not resolve through maps is an error, Map untouched (no side
    condition: `prevValueByPath` only descends through maps) -/
theorem C11_remove_missing (kvs : Entries) (segs : List Str)
    (hne : segs ≠ []) (hsafe : ∀ s ∈ segs, KeySpec.keySafe s = true)
    (hv : getPath (.map kvs) segs = none) :
    removePath (.map kvs) (joinDot segs) = .error .prevNotFound := by
  rw [removePath_joinDot _ segs hne hsafe, hv]
  rfl

/-! ### refinement: RenameKey -/

/-- RenameKey moves the value unchanged to the new key: remove the old entry, set the new -/
theorem C11_rename_moves (kvs pk : Entries) (segs : List Str) (nn : Str) (v : Val)
    (hne : segs ≠ []) (hsafe : ∀ s ∈ segs, KeySpec.keySafe s = true)
    (hnn : KeySpec.keySafe nn = true)
    (hv : getPath (.map kvs) segs = some v)
    (hparent : getPath (.map kvs) segs.dropLast = some (.map pk))
    (hfresh : lookup nn pk = none) (hnel : noEmptyList (.map kvs) = true) :
    renameKey existsNoSubs (.map kvs) (joinDot segs) nn
      = .ok (setPath v (erasePath (.map kvs) segs) (segs.dropLast ++ [nn])) := by
  obtain ⟨ks, key, rfl⟩ := exists_snoc segs hne
  rw [List.dropLast_concat] at hparent ⊢
  have hkn := ne_of_present_of_fresh _ v ks key nn pk hparent hv hfresh
  -- `Exists` holds of the old path and fails of the new one, so the guards pass and the
  -- in-place rename of the parent's entries is erase-then-set (`updLoc_rename`)
  have hw2 : (walk none (.map kvs) (ks ++ [nn])).isEmpty = true := by
    rw [walk_getPath_append none ks [nn] _ _ (fun k hk => keySafe_ne_star k (hsafe k (by simp [hk])))
      hparent]
    simp [walk, keySafe_ne_star nn hnn, hfresh]
  rw [renameKey_joinDot _ v ks key nn hsafe hnn hv hnel, hw2, if_pos rfl,
    updLoc_rename key nn v hkn pk (getPath_snoc _ ks key pk hparent ▸ hv) ks _ hparent]

/-- refuses to overwrite an existing sibling at any depth, including the top level
    (`segs = [k]`, where `pk = kvs`) -/
theorem C11_rename_refuses_existing (kvs pk : Entries) (segs : List Str) (nn : Str) (v w : Val)
    (hne : segs ≠ []) (hsafe : ∀ s ∈ segs, KeySpec.keySafe s = true)
    (hnn : KeySpec.keySafe nn = true)
    (hv : getPath (.map kvs) segs = some v)
    (hparent : getPath (.map kvs) segs.dropLast = some (.map pk))
    (hsib : lookup nn pk = some w) (hnel : noEmptyList (.map kvs) = true) :
    renameKey existsNoSubs (.map kvs) (joinDot segs) nn = .error .renameExists := by
  obtain ⟨ks, key, rfl⟩ := exists_snoc segs hne
  rw [List.dropLast_concat] at hparent
  rw [renameKey_joinDot _ v ks key nn hsafe hnn hv hnel,
    walk_isEmpty_false _ w _ (keySafe_snoc ks key nn hsafe hnn)
      (by rw [getPath_snoc _ ks nn pk hparent, hsib]) hnel]
  rfl

/-- a path that does not resolve (and meets no list before it breaks off) cannot be renamed -/
theorem C11_rename_missing (kvs : Entries) (segs : List Str) (nn : Str)
    (hsafe : ∀ s ∈ segs, KeySpec.keySafe s = true)
    (hnl : noListBefore (.map kvs) segs)
    (hv : getPath (.map kvs) segs = none) :
    renameKey existsNoSubs (.map kvs) (joinDot segs) nn = .error .renameNotFound := by
  apply renameKey_not_found
  rw [existsNoSubs_joinDot _ segs hsafe, walk_getPath_none none segs _ (keySafe_all_ne_star segs hsafe) hnl hv]
  rfl

/-! ### the get / set / erase algebra ("every other entry unchanged") -/

/-- at the path, and below the new value, one reads the new value's own entries -/
theorem C11_get_set_below (nv m pm : Val) (segs r : List Str) (hne : segs ≠ [])
    (hparent : getPath m segs.dropLast = some pm) (hpm : pm.isMap = true) :
    getPath (setPath nv m segs) (segs ++ r) = getPath nv r := by
  rw [setPath_eq_modPath, getPath_modPath_below _ segs r m hne, hparent]
  cases pm with
  | map pk => exact getPath_insert_self pk _ nv r
  | _ => exact Bool.noConfusion hpm

theorem C11_get_set_same (nv m pm : Val) (segs : List Str) (hne : segs ≠ [])
    (hparent : getPath m segs.dropLast = some pm) (hpm : pm.isMap = true) :
    getPath (setPath nv m segs) segs = some nv := by
  simpa [getPath_nil] using C11_get_set_below nv m pm segs [] hne hparent hpm

/-- frame: a path that neither extends `segs` nor is a prefix of it keeps its value (no
    side condition at all: holds for any `m`, well formed or not, parents present or not) -/
theorem C11_set_frame (nv m : Val) (segs q : List Str)
    (h : ¬ segs <+: q) (h' : ¬ q <+: segs) :
    getPath (setPath nv m segs) q = getPath m q := by
  rw [setPath_eq_modPath]
  exact getPath_modPath_frame _ (fun k' k => lookup_insert_ne k' k nv) segs q m h h'

/-- a strict prefix `q` of the path (`segs = q ++ r`, `r ≠ []`) keeps its value except along
    the rest of the path: it holds the old subtree with `r` set in it -/
theorem C11_set_prefix (nv m : Val) (q r : List Str) (hr : r ≠ []) :
    getPath (setPath nv m (q ++ r)) q = (getPath m q).map (fun sub => setPath nv sub r) := by
  simp only [setPath_eq_modPath]; exact getPath_modPath_prefix _ q r m hr

/-- the parent of an erased path in a well-formed Map has distinct keys, so nothing is left
    under the erased key -/
theorem C11_get_erase_below (m : Val) (segs r : List Str) (hne : segs ≠ []) (hwf : m.wf = true) :
    getPath (erasePath m segs) (segs ++ r) = none := by
  rw [erasePath_eq_modPath, getPath_modPath_below _ segs r m hne]
  cases hp : getPath m segs.dropLast with
  | none => rfl
  | some pm =>
    cases pm with
    | map pk =>
      have hd := ((Val.wf_map pk).1 (wf_getPath _ m _ hwf hp)).2
      simp [modPath, getPath_map_cons, lookup_erase_self _ pk hd]
    | _ => exact getPath_notMap_cons _ _ _ rfl

theorem C11_get_erase_same (m : Val) (segs : List Str) (hne : segs ≠ []) (hwf : m.wf = true) :
    getPath (erasePath m segs) segs = none := by
  simpa using C11_get_erase_below m segs [] hne hwf

theorem C11_erase_frame (m : Val) (segs q : List Str)
    (h : ¬ segs <+: q) (h' : ¬ q <+: segs) :
    getPath (erasePath m segs) q = getPath m q := by
  rw [erasePath_eq_modPath]
  exact getPath_modPath_frame _ lookup_erase_ne segs q m h h'

theorem C11_erase_prefix (m : Val) (q r : List Str) (hr : r ≠ []) :
    getPath (erasePath m (q ++ r)) q = (getPath m q).map (fun sub => erasePath sub r) := by
  simp only [erasePath_eq_modPath]; exact getPath_modPath_prefix _ q r m hr

/-! ### the property in its own words -/

/-- after a successful set, ValueForPath(path) returns the new value (new value not a list:
    ValueForPath returns a list's first member, see `C11_set_then_get_list`) -/
theorem C11_set_then_get (kvs : Entries) (segs : List Str) (nv pm : Val)
    (hne : segs ≠ []) (hsafe : ∀ s ∈ segs, KeySpec.keySafe s = true)
    (hparent : getPath (.map kvs) segs.dropLast = some pm) (hpm : pm.isMap = true)
    (hnl : nv.isList = false) :
    valueForPath (setPath nv (.map kvs) segs) (joinDot segs) = .ok nv := by
  rw [valueForPath_joinDot _ segs hsafe,
    walk_getPath_some none segs _ nv (keySafe_all_ne_star segs hsafe)
      (C11_get_set_same nv _ pm segs hne hparent hpm),
    loadLeaf_none_notList nv hnl]

/-- when the new value is a list, ValueForPath(path) returns its first member (and reports
    `pathNotExist` for the empty list) -/
theorem C11_set_then_get_list (kvs : Entries) (segs : List Str) (xs : List Val) (pm : Val)
    (hne : segs ≠ []) (hsafe : ∀ s ∈ segs, KeySpec.keySafe s = true)
    (hparent : getPath (.map kvs) segs.dropLast = some pm) (hpm : pm.isMap = true) :
    valueForPath (setPath (.list xs) (.map kvs) segs) (joinDot segs) =
      match xs with
      | [] => .error .pathNotExist
      | x :: _ => .ok x := by
  rw [valueForPath_joinDot _ segs hsafe,
    walk_getPath_some none segs _ (.list xs) (keySafe_all_ne_star segs hsafe)
      (C11_get_set_same (.list xs) _ pm segs hne hparent hpm),
    loadLeaf_none]
  cases xs <;> rfl

/-- after `erasePath` the path no longer exists (general form: no list before the end) -/
theorem C11_erase_then_gone (kvs : Entries) (segs : List Str)
    (hne : segs ≠ []) (hsafe : ∀ s ∈ segs, KeySpec.keySafe s = true)
    (hwf : (Val.map kvs).wf = true) (hnl : noListBefore (.map kvs) segs) :
    existsNoSubs (erasePath (.map kvs) segs) (joinDot segs) = .ok false := by
  rw [existsNoSubs_joinDot _ segs hsafe,
    walk_getPath_none none segs _ (keySafe_all_ne_star segs hsafe)
      (erasePath_eq_modPath _ segs ▸ noListBefore_modPath erase _ segs hnl)
      (C11_get_erase_same _ segs hne hwf)]
  rfl

/-- after a successful Remove the path no longer exists -/
theorem C11_remove_then_gone (kvs : Entries) (segs : List Str)
    (hne : segs ≠ []) (hsafe : ∀ s ∈ segs, KeySpec.keySafe s = true)
    (hwf : (Val.map kvs).wf = true) (hv : (getPath (.map kvs) segs).isSome = true) :
    existsNoSubs (erasePath (.map kvs) segs) (joinDot segs) = .ok false := by
  obtain ⟨v, hg⟩ := Option.isSome_iff_exists.1 hv
  exact C11_erase_then_gone kvs segs hne hsafe hwf (noListBefore_of_getPath_some segs _ v hg)

/-- SetValueForPath, in the property's words: it succeeds with a Map in which
    ValueForPath(path) is the new value and every path off `segs` reads as before -/
theorem C11_set_headline (kvs : Entries) (segs : List Str) (nv pm : Val)
    (hne : segs ≠ []) (hsafe : ∀ s ∈ segs, KeySpec.keySafe s = true)
    (hparent : getPath (.map kvs) segs.dropLast = some pm) (hpm : pm.isMap = true)
    (hnl : nv.isList = false) :
    ∃ m', setValueForPath (.map kvs) nv (joinDot segs) = .ok m'
      ∧ valueForPath m' (joinDot segs) = .ok nv
      ∧ getPath m' segs = some nv
      ∧ ∀ q, ¬ segs <+: q → ¬ q <+: segs → getPath m' q = getPath (.map kvs) q :=
  ⟨_, C11_set_refines kvs segs nv pm hne hsafe hparent hpm,
    C11_set_then_get kvs segs nv pm hne hsafe hparent hpm hnl,
    C11_get_set_same nv _ pm segs hne hparent hpm,
    fun q h h' => C11_set_frame nv _ segs q h h'⟩

/-- Remove, in the property's words -/
theorem C11_remove_headline (kvs : Entries) (segs : List Str)
    (hne : segs ≠ []) (hsafe : ∀ s ∈ segs, KeySpec.keySafe s = true)
    (hwf : (Val.map kvs).wf = true) (hv : (getPath (.map kvs) segs).isSome = true) :
    ∃ m', removePath (.map kvs) (joinDot segs) = .ok m'
      ∧ existsNoSubs m' (joinDot segs) = .ok false
      ∧ getPath m' segs = none
      ∧ ∀ q, ¬ segs <+: q → ¬ q <+: segs → getPath m' q = getPath (.map kvs) q :=
  ⟨_, C11_remove_refines kvs segs hne hsafe hv,
    C11_remove_then_gone kvs segs hne hsafe hwf hv,
    C11_get_erase_same _ segs hne hwf,
    fun q h h' => C11_erase_frame _ segs q h h'⟩

/-- RenameKey, in the property's words: the value sits unchanged under the new key, the old
    path is gone, and every path off both the old and the new path reads as before -/
theorem C11_rename_headline (kvs pk : Entries) (segs : List Str) (nn : Str) (v : Val)
    (hne : segs ≠ []) (hsafe : ∀ s ∈ segs, KeySpec.keySafe s = true)
    (hnn : KeySpec.keySafe nn = true) (hwf : (Val.map kvs).wf = true)
    (hv : getPath (.map kvs) segs = some v)
    (hparent : getPath (.map kvs) segs.dropLast = some (.map pk))
    (hfresh : lookup nn pk = none) (hnel : noEmptyList (.map kvs) = true) :
    ∃ m', renameKey existsNoSubs (.map kvs) (joinDot segs) nn = .ok m'
      ∧ getPath m' (segs.dropLast ++ [nn]) = some v
      ∧ getPath m' segs = none
      ∧ ∀ q, ¬ segs <+: q → ¬ q <+: segs →
          ¬ (segs.dropLast ++ [nn]) <+: q → ¬ q <+: (segs.dropLast ++ [nn]) →
          getPath m' q = getPath (.map kvs) q := by
  obtain ⟨ks, key, rfl⟩ := exists_snoc segs hne
  refine ⟨_, C11_rename_moves kvs pk _ nn v hne hsafe hnn hv hparent hfresh hnel, ?_, ?_, ?_⟩
  all_goals rw [List.dropLast_concat] at hparent ⊢
  · refine C11_get_set_same v _ (.map (erase key pk)) (ks ++ [nn]) (by simp) ?_ rfl
    rw [List.dropLast_concat, C11_erase_prefix _ ks [key] (by simp), hparent]
    rfl
  · have hkn := ne_of_present_of_fresh _ v ks key nn pk hparent hv hfresh
    have hd : ∀ a b : Str, a ≠ b → ¬ (ks ++ [a]) <+: (ks ++ [b]) := fun a b hab => by
      simp [List.prefix_append_right_inj, hab]
    rw [C11_set_frame v _ (ks ++ [nn]) (ks ++ [key]) (hd nn key (Ne.symm hkn)) (hd key nn hkn)]
    exact C11_get_erase_same _ _ (by simp) hwf
  · intro q h1 h2 h3 h4
    rw [C11_set_frame v _ _ q h3 h4, C11_erase_frame _ _ q h1 h2]

/-- the results are again well-formed Maps (distinct keys), so the theorems compose -/
theorem C11_set_wf (nv m : Val) (segs : List Str) (hwf : m.wf = true) (hnv : nv.wf = true) :
    (setPath nv m segs).wf = true := by
  rw [setPath_eq_modPath]
  exact wf_modPath _ (wf_map_insert nv hnv) segs m hwf

theorem C11_erase_wf (m : Val) (segs : List Str) (hwf : m.wf = true) :
    (erasePath m segs).wf = true := by
  rw [erasePath_eq_modPath]; exact wf_modPath _ wf_map_erase segs m hwf

/-! ### the hypotheses are satisfiable: {"a":{"b":1,"c":2},"d":3} -/

def sampleE : Entries :=
  [(['a'], .map [(['b'], .num ['1']), (['c'], .num ['2'])]), (['d'], .num ['3'])]

example : joinDot [['a'], ['b']] = "a.b".toList ∧ joinDot [['a']] = "a".toList := by decide +kernel

example : (Val.map sampleE).wf = true ∧ noEmptyList (.map sampleE) = true
    ∧ (∀ s ∈ [['a'], ['b']], KeySpec.keySafe s = true) ∧ KeySpec.keySafe ['d'] = true
    ∧ getPath (.map sampleE) [['a'], ['b']] = some (.num ['1'])
    ∧ getPath (.map sampleE) [['a'], ['b']].dropLast
        = some (.map [(['b'], .num ['1']), (['c'], .num ['2'])])
    ∧ getPath (.map sampleE) [['a']].dropLast = some (.map sampleE)
    ∧ lookup ['d'] sampleE = some (.num ['3'])
    ∧ lookup ['z'] sampleE = none := by decide +kernel

/-- set "a.b" := 9 -/
example : setValueForPath (.map sampleE) (.num ['9']) "a.b".toList
    = .ok (.map [(['a'], .map [(['b'], .num ['9']), (['c'], .num ['2'])]), (['d'], .num ['3'])]) :=
  C11_set_refines sampleE [['a'], ['b']] (.num ['9']) _ (by decide +kernel) (by decide +kernel)
    (by decide +kernel : getPath (.map sampleE) [['a']] = some (.map [(['b'], .num ['1']), (['c'], .num ['2'])]))
    rfl

/-- set "a.x.y": the parent "a.x" is missing -/
example : setValueForPath (.map sampleE) (.num ['9']) "a.x.y".toList = .error .pathNotExist :=
  C11_set_missing_parent sampleE [['a'], ['x'], ['y']] _ (by decide +kernel) (by decide +kernel)
    (noListBefore_of_B _ _ (by decide +kernel)) (by decide +kernel)

/-- set "d.y": the parent "d" is a number -/
example : setValueForPath (.map sampleE) (.num ['9']) "d.y".toList = .error .notAMap :=
  C11_set_scalar_parent sampleE [['d'], ['y']] _ (.num ['3']) (by decide +kernel) (by decide +kernel)
    (by decide +kernel) rfl rfl (by decide +kernel)

/-- remove "a.b" -/
example : removePath (.map sampleE) "a.b".toList
    = .ok (.map [(['a'], .map [(['c'], .num ['2'])]), (['d'], .num ['3'])]) :=
  C11_remove_refines sampleE [['a'], ['b']] (by decide +kernel) (by decide +kernel) (by decide +kernel)

example : existsNoSubs (erasePath (.map sampleE) [['a'], ['b']]) "a.b".toList = .ok false :=
  C11_remove_then_gone sampleE [['a'], ['b']] (by decide +kernel) (by decide +kernel) (by decide +kernel) (by decide +kernel)

/-- rename "a.b" to "z" -/
example : renameKey existsNoSubs (.map sampleE) "a.b".toList ['z']
    = .ok (.map [(['a'], .map [(['c'], .num ['2']), (['z'], .num ['1'])]), (['d'], .num ['3'])]) :=
  C11_rename_moves sampleE [(['b'], .num ['1']), (['c'], .num ['2'])] [['a'], ['b']] ['z']
    (.num ['1']) (by decide +kernel) (by decide +kernel) (by decide +kernel) (by decide +kernel) (by decide +kernel) (by decide +kernel)
    (by decide +kernel)

/-- rename "a.b" onto its existing sibling "c" is refused -/
example : renameKey existsNoSubs (.map sampleE) "a.b".toList ['c'] = .error .renameExists :=
  C11_rename_refuses_existing sampleE [(['b'], .num ['1']), (['c'], .num ['2'])] [['a'], ['b']]
    ['c'] (.num ['1']) (.num ['2']) (by decide +kernel) (by decide +kernel) (by decide +kernel) (by decide +kernel) (by decide +kernel)
    (by decide +kernel) (by decide +kernel)

/-- the top-level case: rename "a" onto the existing top-level key "d" is refused -/
example : renameKey existsNoSubs (.map sampleE) "a".toList ['d'] = .error .renameExists :=
  C11_rename_refuses_existing sampleE sampleE [['a']] ['d'] _ (.num ['3'])
    (by decide +kernel) (by decide +kernel) (by decide +kernel)
    (by decide +kernel : getPath (.map sampleE) [['a']] = some (.map [(['b'], .num ['1']), (['c'], .num ['2'])]))
    (by decide +kernel) (by decide +kernel) (by decide +kernel)

/-! ### why the side conditions are there (concrete counterexamples) -/

/-- `noListBefore` in `C11_set_missing_parent`: on {"a":[{"b":{}}]} the parent "a.b" is missing
    for `getPath`, but the walker descends through the list, and the set succeeds inside the
    list's first member. -/
example :
    let m : Val := .map [(['a'], .list [.map [(['b'], .map [])]])]
    getPath m [['a'], ['b']] = none ∧
    setValueForPath m (.num ['9']) (joinDot [['a'], ['b'], ['c']])
      = .ok (.map [(['a'], .list [.map [(['b'], .map [(['c'], .num ['9'])])]])]) := by
  decide +kernel

/-- `noListBefore` in `C11_rename_missing`: on {"a":[{"b":1}]} the path "a.b" is missing for
    `getPath` but `Exists("a.b")` is true; RenameKey then fails later with `prevNotFound`
    (still an error, Map untouched, but not `renameNotFound`). -/
example :
    let m : Val := .map [(['a'], .list [.map [(['b'], .num ['1'])]])]
    getPath m [['a'], ['b']] = none ∧
    existsNoSubs m (joinDot [['a'], ['b']]) = .ok true ∧
    renameKey existsNoSubs m (joinDot [['a'], ['b']]) ['z'] = .error .prevNotFound := by
  decide +kernel

/-- `noEmptyList` in `C11_rename_moves`: a key holding an empty list does not `Exists`, so it
    cannot be renamed although `getPath` finds it. -/
example :
    let m : Val := .map [(['a'], .list []), (['d'], .num ['3'])]
    getPath m [['a']] = some (.list []) ∧ noEmptyList m = false ∧
    renameKey existsNoSubs m (joinDot [['a']]) ['z'] = .error .renameNotFound := by
  decide +kernel

/-- `wf` in `C11_get_erase_same`: with a duplicate key (impossible for a Go map) erasing the
    first occurrence uncovers the second. -/
example :
    let m : Val := .map [(['a'], .num ['1']), (['a'], .num ['2'])]
    m.wf = false ∧ getPath (erasePath m [['a']]) [['a']] = some (.num ['2']) := by decide +kernel

/-- the frame condition must exclude prefixes of the path: the parent "a" of "a.b" changes
    (exactly as `C11_set_prefix` says). -/
example :
    let m : Val := .map [(['a'], .map [(['b'], .num ['1'])])]
    getPath m [['a']] = some (.map [(['b'], .num ['1'])]) ∧
    getPath (setPath (.num ['9']) m [['a'], ['b']]) [['a']] = some (.map [(['b'], .num ['9'])]) := by
  decide +kernel

end Mxj.C11
