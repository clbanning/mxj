/-
  Mxj.Props.C01 — NewMapXml: decoding a well-formed XML document yields exactly the Map the
  documented conventions prescribe: one root key; each attribute under prefix+name; each child
  element under its local name; repeated sibling names collected into one list in document
  order; a text-only element as its (trimmed) string; text beside attributes or children under
  the text key; an empty element as the empty string — under every combination of decoder
  options.  Domain (`Conv.inDomain`): at most one non-blank text run per element, no attribute or
  child key equal to the text key (or to `_seq` under numbering).  Lemmas: Mxj.Lemmas.Decode
  (namespace `Mxj.Dec`).

  Model: Mxj.Model.Decode (`parseElem`, `decodeTop`, `newMapXml`: the streaming decoder, fuel
  indexed).  Specification: Mxj.Model.Conv (`Conv.value`, `Conv.doc`, `Conv.inDomain`); the
  tree-recursive `Fold.value`/`Fold.doc` is the bridge between the two.
-/
import Mxj.Lemmas.Decode
import Mxj.Lemmas.DecEq
import Mxj.Lemmas.Trim
namespace Mxj.C01
open Mxj Mxj.Dec

/-- fuel monotonicity of the element loop: a successful run stays the same with more fuel -/
theorem C01_parseElem_fuel_mono (cfg : DecCfg) (S : Strconv) (fin : StreamEnd) {f g : Nat}
    (hfg : f ≤ g) (skey : Str) (na : Entries) (n : Option Val) (seq : Nat) (pend : Option Str)
    (toks : List Tok) (r : Val × List Tok)
    (h : parseElem cfg S fin f skey na n seq pend toks = .ok r) :
    parseElem cfg S fin g skey na n seq pend toks = .ok r :=
  parseElem_fuel_mono cfg S fin hfg h

/-- fuel monotonicity of the first call -/
theorem C01_decodeTop_fuel_mono (cfg : DecCfg) (S : Strconv) (fin : StreamEnd) {f g : Nat}
    (hfg : f ≤ g) (toks : List Tok) (r : Val × List Tok)
    (h : decodeTop cfg S fin f toks = .ok r) : decodeTop cfg S fin g toks = .ok r :=
  decodeTop_fuel_mono cfg S fin hfg h

/-- token-stream recursion = tree recursion, for every tree, every configuration, every
    continuation `rest` -/
theorem C01_stream_refines_tree (cfg : DecCfg) (S : Strconv) (fin : StreamEnd)
    (sp name : Str) (attrs : List Attr) (kids : List Node) (rest : List Tok) :
    ∃ f0, ∀ f, f0 ≤ f →
      decodeTop cfg S fin f (flatten (.elem sp name attrs kids) ++ rest)
        = .ok (Fold.doc cfg S (.elem sp name attrs kids), rest) :=
  ⟨_, decodeTop_tree cfg S fin sp name attrs kids rest⟩

/-- the same with the explicit fuel bound: the number of tokens of the element is enough -/
theorem C01_stream_refines_tree_bound (cfg : DecCfg) (S : Strconv) (fin : StreamEnd)
    (sp name : Str) (attrs : List Attr) (kids : List Node) (rest : List Tok) (f : Nat)
    (hf : (flatten (.elem sp name attrs kids)).length ≤ f) :
    decodeTop cfg S fin f (flatten (.elem sp name attrs kids) ++ rest)
      = .ok (Fold.doc cfg S (.elem sp name attrs kids), rest) :=
  decodeTop_tree cfg S fin sp name attrs kids rest f hf

/-- with the default fuel of `newMapXml` (token count + 1) and any prolog of non-start tokens
    (BOM text, comments, PIs, directives) and any trailing tokens -/
theorem C01_newMapXml_tree (cfg : DecCfg) (S : Strconv) (fin : StreamEnd) (pre post : List Tok)
    (hpre : ∀ t ∈ pre, ¬ isStart t) (sp name : Str) (attrs : List Attr) (kids : List Node) :
    newMapXml cfg S (pre ++ flatten (.elem sp name attrs kids) ++ post) fin
      = .ok (Fold.doc cfg S (.elem sp name attrs kids)) :=
  newMapXml_tree cfg S fin pre post hpre sp name attrs kids

/-- the imperative insert/promote fold IS the declarative convention (group-by in
    first-occurrence order, text placement) on the domain, up to the order of map entries -/
theorem C01_fold_is_convention (cfg : DecCfg) (S : Strconv) (t : Node)
    (hd : Conv.inDomain cfg S t = true) (hn : noAdjText t = true) :
    Fold.value cfg S t ≈ᵥ Conv.value cfg S t :=
  fold_equiv_conv cfg S t hd hn

/-- the grouping part holds key by key without any domain restriction: what the declarative
    grouping stores under a key is what folding `addChild` over the children stores there -/
theorem C01_group_is_fold (cfg : DecCfg) (S : Strconv) (base : Entries) (kids : List Node) (k : Str) :
    lookup k (Conv.groupOnto base (Conv.childVals cfg S 0 kids))
      = lookup k ((Conv.childVals cfg S 0 kids).foldl (fun b c => addChild b c.1 c.2) base) :=
  lookup_groupOnto_eq_addAll base _ (childVals_not_list cfg S kids 0) k

/-- headline: decoding the token stream of any in-domain tree yields the conventions' Map -/
theorem C01_decode_conventions (cfg : DecCfg) (S : Strconv) (fin : StreamEnd) (pre post : List Tok)
    (hpre : ∀ t ∈ pre, ¬ isStart t) (sp name : Str) (attrs : List Attr) (kids : List Node)
    (hd : Conv.inDomain cfg S (.elem sp name attrs kids) = true)
    (hn : noAdjText (.elem sp name attrs kids) = true) :
    ∃ v, newMapXml cfg S (pre ++ flatten (.elem sp name attrs kids) ++ post) fin = .ok v
      ∧ v ≈ᵥ Conv.doc cfg S (.elem sp name attrs kids) :=
  ⟨_, newMapXml_tree cfg S fin pre post hpre sp name attrs kids,
    doc_equiv cfg S _ (fold_equiv_conv cfg S _ hd hn)⟩

/-- headline, root key made explicit: the result is a Map with exactly one key, the root
    element's key, holding the conventions' value of the root element -/
theorem C01_decode_one_root (cfg : DecCfg) (S : Strconv) (fin : StreamEnd) (pre post : List Tok)
    (hpre : ∀ t ∈ pre, ¬ isStart t) (sp name : Str) (attrs : List Attr) (kids : List Node)
    (hd : Conv.inDomain cfg S (.elem sp name attrs kids) = true)
    (hn : noAdjText (.elem sp name attrs kids) = true) :
    ∃ x, newMapXml cfg S (pre ++ flatten (.elem sp name attrs kids) ++ post) fin
          = .ok (.map [(elemKey cfg S name, x)])
      ∧ x ≈ᵥ Conv.value cfg S (.elem sp name attrs kids) :=
  ⟨_, newMapXml_tree cfg S fin pre post hpre sp name attrs kids, fold_equiv_conv cfg S _ hd hn⟩

/-- one root key: the root element's key -/
theorem C01_root_key (cfg : DecCfg) (S : Strconv) (sp name : Str) (attrs : List Attr)
    (kids : List Node) :
    Conv.doc cfg S (.elem sp name attrs kids)
      = .map [(elemKey cfg S name, Conv.value cfg S (.elem sp name attrs kids))] := rfl

/-- element keys: lower-case first (if on), then snake-case (if on) -/
theorem C01_elemKey (cfg : DecCfg) (S : Strconv) (name : Str) :
    elemKey cfg S name
      = (if cfg.snake then snakeCase else id) (if cfg.lowerCase then S.lower name else name) := by
  unfold elemKey; cases cfg.snake <;> rfl

/-- attribute keys: snake-case the local name (if on), lower-case it (if on), behind the prefix
    exactly as set -/
theorem C01_attrKey (cfg : DecCfg) (S : Strconv) (name : Str) :
    attrKey cfg S name
      = cfg.attrPrefix ++ (if cfg.lowerCase then S.lower else id)
          (if cfg.snake then snakeCase name else name) := by
  unfold attrKey; cases cfg.lowerCase <;> rfl

/-- the keys the attributes occupy are exactly the `attrKey`s of the attributes -/
theorem C01_attr_keys (cfg : DecCfg) (S : Strconv) (attrs : List Attr) (k : Str) :
    k ∈ keys (loadAttrs cfg S attrs) ↔ ∃ a ∈ attrs, k = attrKey cfg S a.name := by
  unfold loadAttrs
  have : ∀ (as : List Attr) (na : Entries),
      k ∈ keys (as.foldl (fun na a =>
        let key := attrKey cfg S a.name
        insert key (cast S cfg.cast (escDecIf cfg a.value) key) na) na)
      ↔ k ∈ keys na ∨ ∃ a ∈ as, k = attrKey cfg S a.name := by
    intro as
    induction as with
    | nil => intro na; simp
    | cons a as ih =>
      intro na
      rw [List.foldl_cons, ih, mem_keys_insert]
      simp only [List.mem_cons, exists_eq_or_imp]
      rw [or_assoc, or_left_comm]
  rw [this]
  simp [keys]

/-- one attribute: its (cast, optionally escaped) value under its key -/
theorem C01_attr_single (cfg : DecCfg) (S : Strconv) (a : Attr) :
    loadAttrs cfg S [a]
      = [(attrKey cfg S a.name,
          cast S cfg.cast (escDecIf cfg a.value) (attrKey cfg S a.name))] := rfl

/-- the keys the child elements occupy: the element keys of the element children, in document
    order (comments, PIs, directives and text contribute none) -/
theorem C01_child_keys (cfg : DecCfg) (S : Strconv) (kids : List Node) :
    keys (Conv.childVals cfg S 0 kids) = (elemNames kids).map (elemKey cfg S) :=
  childVals_keys cfg S kids 0

/-- repeated sibling names are collected into one list in document order: what is stored
    under a key is `collect` of the attribute already there and the children's values -/
theorem C01_group_lookup (base : Entries) (cs : List (Str × Val)) (k : Str) :
    lookup k (Conv.groupOnto base cs)
      = if k ∈ keys cs then Conv.collect (lookup k base) (valsOf k cs) else lookup k base :=
  lookup_groupOnto base cs k

/-- one value stays itself, several become a list (no attribute under the key) -/
theorem C01_collect_one (v : Val) : Conv.collect none [v] = some v := rfl
theorem C01_collect_many (v w : Val) (vs : List Val) :
    Conv.collect none (v :: w :: vs) = some (.list (v :: w :: vs)) := rfl

/-- an empty element is the empty string -/
theorem C01_empty_element (cfg : DecCfg) (S : Strconv) (sp name : Str) :
    Conv.value cfg S (.elem sp name [] []) = .str [] := rfl

/-- an element with attributes only is the Map of its attributes -/
theorem C01_attrs_only (cfg : DecCfg) (S : Strconv) (sp name : Str) (attrs : List Attr) :
    Conv.value cfg S (.elem sp name attrs [])
      = if (loadAttrs cfg S attrs).isEmpty then .str [] else .map (loadAttrs cfg S attrs) := by
  simp [Conv.value, Conv.childVals, Conv.groupOnto, Conv.textRuns]

/-- a text-only element is its trimmed (cast) string -/
theorem C01_text_only (cfg : DecCfg) (S : Strconv) (sp name s : Str)
    (hm : cfg.asMap = false) (hs : (Conv.textOf cfg s).isEmpty = false) :
    Conv.value cfg S (.elem sp name [] [.text s])
      = cast S cfg.cast (Conv.textOf cfg s) (elemKey cfg S name) := by
  simp [Conv.value, Conv.childVals, Conv.groupOnto, Conv.textRuns, loadAttrs, hm, hs]

/-- with `asMap` a text-only element is `{textK: …}` -/
theorem C01_text_only_asMap (cfg : DecCfg) (S : Strconv) (sp name s : Str)
    (hm : cfg.asMap = true) (hs : (Conv.textOf cfg s).isEmpty = false) :
    Conv.value cfg S (.elem sp name [] [.text s])
      = .map [(cfg.textK, cast S cfg.cast (Conv.textOf cfg s) cfg.textK)] := by
  simp [Conv.value, Conv.childVals, Conv.groupOnto, Conv.textRuns, loadAttrs, hm, hs, insert]

/-- a blank text run changes nothing: the element is the empty string -/
theorem C01_blank_text (cfg : DecCfg) (S : Strconv) (sp name s : Str)
    (hs : (Conv.textOf cfg s).isEmpty = true) :
    Conv.value cfg S (.elem sp name [] [.text s]) = .str [] := by
  simp [Conv.value, Conv.childVals, Conv.groupOnto, Conv.textRuns, loadAttrs, hs]

/-- text beside an attribute goes under the text key -/
theorem C01_text_beside_attr (cfg : DecCfg) (S : Strconv) (sp name s : Str) (a : Attr)
    (hs : (Conv.textOf cfg s).isEmpty = false) :
    Conv.value cfg S (.elem sp name [a] [.text s])
      = .map (insert cfg.textK (cast S cfg.cast (Conv.textOf cfg s) cfg.textK)
                (loadAttrs cfg S [a])) := by
  simp [Conv.value, Conv.childVals, Conv.groupOnto, Conv.textRuns, loadAttrs, hs, insert]

/-- the characters trimmed from a text run: white space, except the blank under `keepSpace` -/
theorem C01_trimSet (cfg : DecCfg) :
    trimSet cfg = if cfg.keepSpace then ['\t', '\r', '\x08', '\n']
                  else ['\t', '\r', '\x08', '\n', ' '] := rfl

/-- with `keepSpace` blanks are not trimmed: a run without tab, CR, BS, LF is kept whole -/
theorem C01_keepSpace (cfg : DecCfg) (s : Str) (hk : cfg.keepSpace = true)
    (hs : ∀ c ∈ s, c ≠ '\t' ∧ c ≠ '\r' ∧ c ≠ '\x08' ∧ c ≠ '\n') :
    Conv.textOf cfg s = escDecIf cfg s := by
  unfold Conv.textOf
  rw [trimChars_of_none _ s fun c hc => by simp [trimSet, hk, hs c hc]]

/-- with `escDec` text values are `escapeChars`-ed (after trimming) -/
theorem C01_escDec_text (cfg : DecCfg) (s : Str) (he : cfg.escDec = true) :
    Conv.textOf cfg s = escapeChars (trimChars (trimSet cfg) s) := by
  simp [Conv.textOf, escDecIf, he]

/-- with `escDec` attribute values are `escapeChars`-ed -/
theorem C01_escDec_attr (cfg : DecCfg) (S : Strconv) (a : Attr) (he : cfg.escDec = true) :
    loadAttrs cfg S [a]
      = [(attrKey cfg S a.name, cast S cfg.cast (escapeChars a.value) (attrKey cfg S a.name))] := by
  rw [C01_attr_single, escDecIf, if_pos he]

/-- with `seqNum` every element child carries `_seq` = its index among the element children -/
theorem C01_seqNum (cfg : DecCfg) (S : Strconv) (hs : cfg.seqNum = true) (kids : List Node)
    (i : Nat) (c : Str × Val) (h : (Conv.childVals cfg S 0 kids)[i]? = some c) :
    ∃ kvs, c.2 = .map kvs
      ∧ lookup "_seq".toList kvs = some (.num ("i:".toList ++ natToStr i)) :=
  Nat.zero_add i ▸ childVals_seq_index cfg S hs kids 0 i c h

/-- without `seqNum` `seqDecorate` does nothing: the value stays undecorated and the counter does not
    advance -/
theorem C01_no_seqNum (cfg : DecCfg) (seq : Nat) (v : Val) (hs : cfg.seqNum = false) :
    seqDecorate cfg seq v = (v, seq) := by
  simp [seqDecorate, hs]

/-- `<r id="1"><a x="1">t1</a>␤<b><c>deep</c></b><!--note--><a/> hello </r>` is in the domain -/
example : Conv.inDomain {} S0 sampleTree = true := by decide +kernel
example : noAdjText sampleTree = true := by decide +kernel

/-- its decoded value: `{"r": {"-id":"1", "a":[{"-x":"1","#text":"t1"}, ""], "b":{"c":"deep"},
    "#text":"hello"}}` -/
example :
    newMapXml {} S0 (Tok.procinst "xml".toList [] :: flatten sampleTree ++ [Tok.text "\n".toList]) .eof
      = .ok (.map [("r".toList, .map [
          ("-id".toList, .str "1".toList),
          ("a".toList, .list [.map [("-x".toList, .str "1".toList), ("#text".toList, .str "t1".toList)],
                              .str []]),
          ("b".toList, .map [("c".toList, .str "deep".toList)]),
          ("#text".toList, .str "hello".toList)])]) := by decide +kernel

example : Conv.doc {} S0 sampleTree
      = .map [("r".toList, .map [
          ("-id".toList, .str "1".toList),
          ("a".toList, .list [.map [("-x".toList, .str "1".toList), ("#text".toList, .str "t1".toList)],
                              .str []]),
          ("b".toList, .map [("c".toList, .str "deep".toList)]),
          ("#text".toList, .str "hello".toList)])] := by decide +kernel

/-- the same tree under other options is in the domain too (numbering, as-map, empty attribute
    prefix: attribute and child keys then share one key space) -/
example : Conv.inDomain { seqNum := true, asMap := true, attrPrefix := [] } S0 sampleTree = true := by
  decide +kernel

/-- text before the children: the fold stores the text key in the middle, the convention at
    the end — equal only up to the order of entries (this is why the theorem is stated with `≈ᵥ`) -/
example : Conv.inDomain {} S0 sampleTreeTextFirst = true ∧ noAdjText sampleTreeTextFirst = true := by
  decide +kernel
example : Fold.value {} S0 sampleTreeTextFirst ≠ Conv.value {} S0 sampleTreeTextFirst := by
  decide +kernel
example : Fold.value {} S0 sampleTreeTextFirst ≈ᵥ Conv.value {} S0 sampleTreeTextFirst := by
  decide +kernel

/-- the domain restrictions are needed: with two non-blank text runs (`<r k="1">x<a/>y</r>`)
    the decoder keeps the last run, the convention names the first -/
example : Conv.inDomain {} S0 twoRunsTree = false := by decide +kernel
example : ¬ (Fold.value {} S0 twoRunsTree ≈ᵥ Conv.value {} S0 twoRunsTree) := by decide +kernel

/-- … and with a child element whose key is the text key the decoder promotes the text to a
    list -/
example : Conv.inDomain {} S0 textKeyChildTree = false := by decide +kernel
example : ¬ (Fold.value {} S0 textKeyChildTree ≈ᵥ Conv.value {} S0 textKeyChildTree) := by
  decide +kernel

end Mxj.C01
