/-
  Mxj.Props.C02 — "Decode → encode → decode is a fixed point" (and the bridge from bytes to trees).

  Part 1 (`C02_marshal_eq_render`, `C02_bytes_eq_render`): the bytes the compact encoder writes
  are the canonical rendering (`render`) of the tree `encTree` builds, and the encoder fails
  exactly when the tree builder fails.
  Part 2 (`C02_decoded`, `C02_decoded_image`, `C02_sym_fixed_point_tree`, `C02_fixed_point_tree`): a
  Map produced by the decoding conventions has the shape `Decoded`; such a Map is its own image; hence
  encoding it and applying the conventions to the encoder's tree gives an equivalent Map — for every
  symmetric option pair (`EncSym.Sym`; the shape is then `DecodedG`, Lemmas/EncodeSym1 … 3) and the
  default pair as its instance.
  Part 3 (`TokLaw`, `C02_sym_fixed_point_bytes`, `C02_fixed_point_bytes`): through bytes, for any
  tokenizer that satisfies `TokLaw` (a hypothesis here; proved for the tokenizer model `Tokz.tokens` in
  Props/C02ExtTok, which also instantiates these theorems with it) and the stream decoder of C01, again
  for every symmetric option pair and the default pair as its instance.  Props/C02ExtSym has the option
  pairs one at a time, the library laws behind `FoldLaw` / `LeafLaw`, and a counterexample for every
  hypothesis.
-/
import Mxj.Lemmas.Encode
import Mxj.Props.C16
import Mxj.Props.C01
namespace Mxj.C02
open Mxj Mxj.Enc Mxj.EncSym

/-- bytes = rendering of the encoder's tree, as one equation (success and failure).
    `Plain cfg v`: every number's `%v` text is non-empty and needs no escaping, and (with
    escaping on) no `nil` sits under the text key — Go writes those texts raw, so without the
    hypothesis the bytes are not the rendering of any tree:
    `{"a": Val.num "f:1<2"}` gives `<a>1<2</a>`, `Val.num "f:"` gives `<a>/>`, and
    `{"#text": nil, "b": 1}` gives `<doc><nil><b>1</b></doc>`. -/
theorem C02_marshal_eq_render (cfg : EncCfg) (key : Str) (v : Val) (hp : Plain cfg v = true) :
    marshal cfg key v = (encTree cfg key v.norm).map (fun ns => ns.flatMap (render cfg)) :=
  marshal_eq_render cfg key v hp

theorem C02_bytes_eq_render (cfg : EncCfg) (key : Str) (v : Val) (out : Str)
    (hp : Plain cfg v = true) (h : marshal cfg key v = .ok out) :
    ∃ ns, encTree cfg key v.norm = .ok ns ∧ out = ns.flatMap (render cfg) := by
  rw [C02_marshal_eq_render cfg key v hp] at h
  cases hE : encTree cfg key v.norm with
  | error e => rw [hE] at h; cases h
  | ok ns => rw [hE] at h; exact ⟨ns, rfl, (Except.ok.inj h).symm⟩

/-- conversely: if the tree builder succeeds, the encoder writes the rendering of the tree -/
theorem C02_render_eq_bytes (cfg : EncCfg) (key : Str) (v : Val) (ns : List Node)
    (hp : Plain cfg v = true) (h : encTree cfg key v.norm = .ok ns) :
    marshal cfg key v = .ok (ns.flatMap (render cfg)) := by
  rw [C02_marshal_eq_render cfg key v hp, h]; rfl

/-- the encoder fails exactly when the tree builder fails -/
theorem C02_error_iff (cfg : EncCfg) (key : Str) (v : Val) (e : ErrKind)
    (hp : Plain cfg v = true) :
    marshal cfg key v = .error e ↔ encTree cfg key v.norm = .error e := by
  rw [C02_marshal_eq_render cfg key v hp]
  cases encTree cfg key v.norm <;> simp [Except.map]

/-- the tree is never empty: a value encodes to at least one element -/
theorem C02_tree_nonempty (cfg : EncCfg) (key : Str) (v : Val) (ns : List Node)
    (h : encTree cfg key v = .ok ns) : ns ≠ [] := encTree_ne_nil cfg key v ns h

/-! ### Part 2: the fixed point at tree level -/

/-- what the conventions produce (default options) has the shape `Decoded`: leaves are trimmed
    strings, lists have at least two non-list members, maps are non-empty and not text-only,
    attribute entries are strings, the text entry is a non-empty trimmed string.
    `NamesOk`: attribute names non-empty, child element names not of the form "-x…" —
    otherwise the decoded key is re-encoded as the other kind
    (`<a -x="1"/>`-style trees: an attribute named "" decodes to key "-", which is re-encoded
    as a child ELEMENT `<->`; a child element named "-x" decodes to key "-x", which is
    re-encoded as an ATTRIBUTE, or rejected if its value is a map). -/
theorem C02_decoded (S : Strconv) (sp name : Str) (attrs : List Attr) (kids : List Node)
    (hd : Conv.inDomain dc S (.elem sp name attrs kids) = true)
    (hn : NamesOk (.elem sp name attrs kids) = true) :
    Decoded (Conv.value dc S (.elem sp name attrs kids)) = true :=
  value_decoded S _ hd hn rfl

/-- a `Decoded` value is its own image -/
theorem C02_decoded_image (v : Val) (h : Decoded v = true) : image v ≈ᵥ v := image_decoded v h

/-- … is accepted by the encoder … -/
theorem C02_decoded_domain (v : Val) (h : Decoded v = true) : EncDomain v = true :=
  Decoded_EncDomain v h

/-- … and stays `Decoded` when normalised -/
theorem C02_decoded_norm (v : Val) (h : Decoded v = true) : Decoded v.norm = true :=
  Decoded_norm v h

/-- XML → Map → XML → Map is a fixed point at tree level for every symmetric option pair:
    for an in-domain tree `t` (C01 domain under `d`) whose names survive (`NamesOkG`),
    `Conv.doc d S t` is a one-entry Map `{root}`; encoding it with `e` (root selection of
    `mv.Xml()`: the single key becomes the root tag) succeeds with a single tree `n`, and the
    conventions (under `d`) applied to `n` give an equivalent Map.
    `FoldLaw d S`: key folding is idempotent; `LeafLaw d S`: the text written for a cast leaf is
    cast back to the same leaf (both derived from the trusted-base laws in
    `C02_sym_fixed_point_tree_tb`, Props/C02ExtSym). -/
theorem C02_sym_fixed_point_tree (d : DecCfg) (S : Strconv) (e : EncCfg) (hs : Sym d e)
    (hF : FoldLaw d S) (hL : LeafLaw d S) (sp name : Str) (attrs : List Attr) (kids : List Node)
    (hd : Conv.inDomain d S (.elem sp name attrs kids) = true)
    (hnames : NamesOkG d S e (.elem sp name attrs kids) = true) :
    ∃ root, Conv.doc d S (.elem sp name attrs kids) = .map [root] ∧
      ∃ n, encTree e root.1 root.2.norm = .ok [n]
        ∧ Conv.doc d S n ≈ᵥ Conv.doc d S (.elem sp name attrs kids) := by
  obtain ⟨n, hn, _, _, hdoc, hv⟩ := fixed_point_valueG hs hF hL sp name attrs kids hd hnames
  refine ⟨(elemKey d S name, Conv.value d S (.elem sp name attrs kids)), rfl, n, hn, ?_⟩
  rw [hdoc]
  exact equiv_singleton_map hv

/-- XML → Map → XML → Map is a fixed point (tree level, default options `dc`, `ec`): for an
    in-domain tree `t`, `Conv.doc dc S t` is a one-entry Map `{root}`; encoding it succeeds with a
    single tree `n`, and the conventions applied to `n` give an equivalent Map -/
theorem C02_fixed_point_tree (S : Strconv) (sp name : Str) (attrs : List Attr) (kids : List Node)
    (hd : Conv.inDomain dc S (.elem sp name attrs kids) = true)
    (hnames : NamesOk (.elem sp name attrs kids) = true) :
    ∃ root, Conv.doc dc S (.elem sp name attrs kids) = .map [root] ∧
      ∃ n, encTree ec root.1 root.2.norm = .ok [n]
        ∧ Conv.doc dc S n ≈ᵥ Conv.doc dc S (.elem sp name attrs kids) :=
  C02_sym_fixed_point_tree dc S ec sym_dc (foldLaw_dc S) (leafLaw_dc S) sp name attrs kids hd
    ((NamesOkG_dc S _).trans hnames)

/-! ### Part 3: through bytes -/

/-- The law of the XML tokenizer (`xml.Decoder.RawToken` on the bytes, collected until EOF): for the
    canonical rendering, with escaping on, of a canonical well-named tree it returns the tree's own
    token sequence.  (`WellNamed`: empty name spaces, colon-free ASCII XML
    names, only XML characters other than '\r' in text and attribute values, no empty text
    node, no two adjacent text nodes, only elements and text.)  That entity references are
    expanded back to the original characters is `C05_unescape_escape`.
    A hypothesis of the theorems below; `C02_tok_law` (Props/C02ExtTok) proves it for the tokenizer
    model `Tokz.tokens`.  What is trusted is that this model agrees with `encoding/xml` (DESIGN §6). -/
structure TokLaw (tokens : Str → List Tok) : Prop where
  render_flatten : ∀ (cfg : EncCfg) (n : Node), cfg.escape = true → WellNamed n = true →
    tokens (render cfg n) = flatten n

/-- the first half of the round trip through bytes: the stream decoder gives a one-entry Map
    `{root: x}` with `x` equivalent to the conventions' value `v` and, if the tree builder gives
    the single tree `n` for `v`, `mv.Xml()` writes the rendering of `n` -/
theorem decode_encode_bytes {d : DecCfg} {S : Strconv} (e : EncCfg) (fin : StreamEnd)
    (pre post : List Tok) (hpre : ∀ t ∈ pre, ¬ isStart t) (sp name : Str) (attrs : List Attr)
    (kids : List Node) (hd : Conv.inDomain d S (.elem sp name attrs kids) = true)
    (hadj : noAdjText (.elem sp name attrs kids) = true)
    (hnl : (Conv.value d S (.elem sp name attrs kids)).isList = false)
    (hp : Plain e (Conv.value d S (.elem sp name attrs kids)) = true) {n : Node}
    (hn : encTree e (elemKey d S name) (Conv.value d S (.elem sp name attrs kids)).norm
      = .ok [n]) :
    ∃ x, newMapXml d S (pre ++ flatten (.elem sp name attrs kids) ++ post) fin
          = .ok (.map [(elemKey d S name, x)])
      ∧ x ≈ᵥ Conv.value d S (.elem sp name attrs kids)
      ∧ mapXml e [(elemKey d S name, x)] none = .ok (render e n) := by
  obtain ⟨x, hx, hxe⟩ := C01.C01_decode_one_root d S fin pre post hpre sp name attrs kids hd hadj
  refine ⟨x, hx, hxe, ?_⟩
  rw [C16.C16_mapXml_perm_invariant e _ _ none (equiv_singleton_map hxe), C16.mapXml_single_of_not_list e _ _ hnl,
    C02_render_eq_bytes e _ _ [n] hp hn]
  simp

/-- XML → Map → XML → Map through bytes, for every symmetric option pair with value escaping
    on: decode the token stream of an in-domain tree `t` with `d` (`newMapXml`, C01), encode the
    Map with `mv.Xml()` under `e` (`mapXml`), tokenize the bytes (`tokens`, any function with
    `TokLaw`) and decode again with `d`: the second Map is equivalent to the first.
    `NumPlainLaw d S e`: the `%v` text of a cast number is non-empty and needs no escaping (from
    `FloatLaw` + `FloatTextLaw` in `C02_sym_fixed_point_bytes_tb`).
    `hwn` asks that the tree the encoder builds is well-named (it is built from the names and
    the trimmed strings of `t`; that `WellNamed t` is inherited is not proved here, the predicate
    is executable).
    This is the COMPACT encoder; with keep-spaces the INDENTED encoder is not a fixed point
    (finding F-KEEPSP-INDENT). -/
theorem C02_sym_fixed_point_bytes (tokens : Str → List Tok) (law : TokLaw tokens)
    (d : DecCfg) (S : Strconv) (e : EncCfg) (hs : Sym d e) (hesc : e.escape = true)
    (hF : FoldLaw d S) (hL : LeafLaw d S) (hP : NumPlainLaw d S e)
    (fin : StreamEnd) (pre post : List Tok) (hpre : ∀ t ∈ pre, ¬ isStart t)
    (sp name : Str) (attrs : List Attr) (kids : List Node)
    (hd : Conv.inDomain d S (.elem sp name attrs kids) = true)
    (hadj : noAdjText (.elem sp name attrs kids) = true)
    (hnames : NamesOkG d S e (.elem sp name attrs kids) = true)
    (hwn : ∀ n, encTree e (elemKey d S name)
        (Conv.value d S (.elem sp name attrs kids)).norm = .ok [n] → WellNamed n = true) :
    ∃ m out m',
      newMapXml d S (pre ++ flatten (.elem sp name attrs kids) ++ post) fin = .ok (.map m)
      ∧ mapXml e m none = .ok out
      ∧ newMapXml d S (tokens out) fin = .ok m'
      ∧ m' ≈ᵥ .map m := by
  have hD := value_decodedG d S e hs hF hL _ hd hnames rfl
  obtain ⟨n, hn, ⟨a', k', rfl⟩, hdom, hdoc, hv⟩ :=
    fixed_point_valueG hs hF hL sp name attrs kids hd hnames
  have hW := hwn _ hn
  rw [DecodedG_iff] at hD
  -- first decode, and encode: the bytes are the rendering of the encoder's tree
  obtain ⟨x, hx, hxe, hbytes⟩ := decode_encode_bytes e fin pre post hpre sp name attrs kids hd hadj
    hD.1 (DecodedChildG_Plain d S e hP _ hD.2) hn
  -- tokenize and decode again
  obtain ⟨m', hm', hme⟩ := C01.C01_decode_conventions d S fin [] [] (by simp) []
    (elemKey d S name) _ _ hdom (noAdjText_of_wellNamed hW)
  refine ⟨_, _, m', hx, hbytes, ?_, ?_⟩
  · rw [law.render_flatten e _ hesc hW]
    simpa using hm'
  · rw [hdoc] at hme
    exact Val.equiv_trans hme (equiv_singleton_map (Val.equiv_trans hv (Val.equiv_symm hxe)))

/-- … for the default options: decoder `dc`, encoder `ec` (`mv.Xml()` with escaping on) -/
theorem C02_fixed_point_bytes (tokens : Str → List Tok) (law : TokLaw tokens) (S : Strconv)
    (fin : StreamEnd) (pre post : List Tok) (hpre : ∀ t ∈ pre, ¬ isStart t)
    (sp name : Str) (attrs : List Attr) (kids : List Node)
    (hd : Conv.inDomain dc S (.elem sp name attrs kids) = true)
    (hadj : noAdjText (.elem sp name attrs kids) = true)
    (hnames : NamesOk (.elem sp name attrs kids) = true)
    (hwn : ∀ n, encTree ec name (Conv.value dc S (.elem sp name attrs kids)).norm = .ok [n] →
      WellNamed n = true) :
    ∃ m out m',
      newMapXml dc S (pre ++ flatten (.elem sp name attrs kids) ++ post) fin = .ok (.map m)
      ∧ mapXml ec m none = .ok out
      ∧ newMapXml dc S (tokens out) fin = .ok m'
      ∧ m' ≈ᵥ .map m :=
  C02_sym_fixed_point_bytes tokens law dc S ec sym_dc rfl (foldLaw_dc S) (leafLaw_dc S)
    (numPlainLaw_dc S) fin pre post hpre sp name attrs kids hd hadj
    ((NamesOkG_dc S _).trans hnames) hwn

/-! ### `AnyXml`: bytes = rendering of its tree -/

theorem C02_anyXml_eq_render (cfg : EncCfg) (v : Val) (rt et : Str) (hp : Plain cfg v = true) :
    anyXml cfg v rt et = (anyTree cfg v rt et).map (fun ns => ns.flatMap (render cfg)) :=
  anyXml_eq_render cfg v rt et hp

/-! ### non-vacuity -/

/-- a `Strconv` (unused: the cast flag is off) -/
def S0 : Strconv :=
  { parseInt := fun _ => none, parseUint := fun _ => none, parseFloat := fun _ => none, lower := id }

/-- `<a x=" 1 ">␤  <b> t<u </b>␤  <b/><c k="v">w<d/></c></a>` -/
def sampleTree : Node :=
  .elem [] "a".toList [⟨[], "x".toList, " 1 ".toList⟩]
    [.text "\n  ".toList, .elem [] "b".toList [] [.text " t<u ".toList], .text "\n  ".toList,
     .elem [] "b".toList [] [],
     .elem [] "c".toList [⟨[], "k".toList, "v".toList⟩] [.text "w".toList, .elem [] "d".toList [] []]]

example : Conv.inDomain dc S0 sampleTree = true := by decide +kernel
example : NamesOk sampleTree = true := by decide +kernel
example : noAdjText sampleTree = true := by decide +kernel

/-- the Map of the document … -/
def sampleMap : Val :=
  .map [("-x".toList, .str " 1 ".toList),
        ("b".toList, .list [.str "t<u".toList, .str []]),
        ("c".toList, .map [("-k".toList, .str "v".toList), ("d".toList, .str []),
                           ("#text".toList, .str "w".toList)])]

example : Conv.doc dc S0 sampleTree = .map [("a".toList, sampleMap)] := by decide +kernel
example : Decoded sampleMap = true := by decide +kernel

/-- … its bytes (`mv.Xml()`, escaping on) … -/
example : mapXml ec [("a".toList, sampleMap)] none
    = .ok "<a x=\" 1 \"><b>t&lt;u</b><b/><c k=\"v\">w<d/></c></a>".toList := by
  -- the kernel unfolds `String.toList` of a literal through the UTF-8 decoding of its bytes, at a
  -- cost quadratic in its length: a long literal is first turned into its list of characters
  repeat rw [String.toList_ofList]
  decide +kernel

/-- … the tree of those bytes is well-named, and decoding it gives the same Map again -/
example : ∃ n, encTree ec "a".toList sampleMap.norm = .ok [n] ∧ WellNamed n = true
    ∧ Conv.doc dc S0 n = .map [("a".toList, sampleMap)] := ⟨_, rfl, by decide +kernel, by decide +kernel⟩

end Mxj.C02
