/-
  Mxj.Props.C07ExtFrame — frame of C07's API over the package-level state, on facts regenerated from
  /repo's current source on every run: the path queries read the field separator, the initial result
  capacity and the error value `PathNotExistError` only (no decoder, encoder or leaf option);
  and none of them (nor any function they can reach) assigns a package-level variable, so what they
  return is a function of their arguments and of exactly those variables - no hidden state carried
  from one call to the next.
-/
import Mxj.Lemmas.Facts
namespace Mxj.C07
open Mxj

/-- the package-level variables C07's functions may read -/
def frameAllowed : List String := ["PathNotExistError", "defaultArraySize", "fieldSep"]

theorem frame_cert :
    Facts.cert Generated.c07FrameRoots Generated.c07FrameRootsClosure (Facts.frameOk frameAllowed)
      = true := by decide +kernel

theorem C07_frame_reads (root g v : String) (hr : root ∈ Generated.c07FrameRoots)
    (h : Facts.Reach root g) (hv : v ∈ Facts.readsOf g) : v ∈ frameAllowed :=
  Facts.reads_of_frame frame_cert hr h hv

theorem C07_frame_no_hidden_state (root g : String) (hr : root ∈ Generated.c07FrameRoots)
    (h : Facts.Reach root g) : Facts.writesOf g = [] :=
  Facts.writes_of_frame frame_cert hr h

/-- the statements are not vacuous: the API group is present in the source -/
theorem C07_frame_roots_present : Generated.c07FrameRoots.length ≥ 1 := by decide +kernel

end Mxj.C07
