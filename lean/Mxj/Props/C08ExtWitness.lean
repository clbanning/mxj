/-
  Mxj.Props.C08ExtWitness — why `hasSubKeys` cannot look at the SIZE of the node.

  Three independently seeded changes (S3-C08, S10-C10, S12-C08) added the "optimisation"
  `if len(node) < len(subkeys) { return false }`.  It is unsound because a negated condition on an
  absent key (`!k:*`) holds without an entry of its own: a node can satisfy more conditions than it
  has entries.  The statements below say so for the model `hasSubKeys` (tied to the Go function by
  the C08 correspondence, hook `VerifHasSubKeys`).
-/
import Mxj.Model.Path
import Mxj.Model.Denote
import Mxj.Model.KeySpec
namespace Mxj.C08
open Mxj

/-- the condition `!k:*` holds of every map that has no entry `k` — in particular of the empty map -/
theorem C08_negated_absent_holds (mv : Entries) (k : Str) (h : lookup k mv = none) :
    subCond mv ('!' :: k) (.str ['*']) = true := by
  simp [subCond, hasPrefix, h]

/-- so any number of such conditions holds of a node that lacks all the keys, however few entries
    the node has: no bound of the form "a node with fewer entries than conditions cannot match" -/
theorem C08_no_size_bound (mv : Entries) (ks : List Str) (h : ∀ k ∈ ks, lookup k mv = none) :
    hasSubKeys (.map mv) (ks.map fun k => ('!' :: k, SubVal.str ['*'])) = true := by
  unfold hasSubKeys
  split
  · rfl
  · simp only [List.all_eq_true, List.mem_map]
    rintro ⟨k', sv⟩ ⟨k, hk, heq⟩
    cases heq
    exact C08_negated_absent_holds mv k (h k hk)

/-- the witness of the seeded demonstrations: `{"id":"a"}` satisfies `id:a` AND `!skip:*` - two
    conditions, one entry -/
theorem C08_size_early_out_unsound :
    hasSubKeys (.map [("id".toList, .str "a".toList)])
      [("id".toList, .str "a".toList), ("!skip".toList, .str "*".toList)] = true := by
  decide +kernel

/-- … and the empty node satisfies a negated-absent condition -/
theorem C08_empty_node_matches : hasSubKeys (.map []) [("!k".toList, .str "*".toList)] = true := by
  decide +kernel

/-! ### the recorded finding F-NESTED-LIST as a theorem

`C08_paths_values` (values through the paths ~ ValuesForKey) carries the hypothesis
`Denote.noListInList m`.  It is needed: on a list directly inside a list the key walker descends,
the path walker does not (one-level "a list stands for its members"), so the value found by
`ValuesForKey` is not reachable through the path `PathsForKey` reports.  The same Map is the
reproducer of the `finding:` line in known_findings.txt and is replayed on the implementation by
the C08 consistency oracle (signature `pfk:consistency:list-in-list`). -/

/-- `{"a":[[{"k":1}]]}` : a list directly inside a list -/
def nestedSample : Val := .map [(['a'], .list [.list [.map [(['k'], .num ['1'])]]])]

example : Denote.noListInList nestedSample = false := by decide +kernel
example : nestedSample.wf = true ∧ KeySpec.pathSafe nestedSample = true
    ∧ KeySpec.keySafe ['k'] = true := by decide +kernel

/-- every other hypothesis of `C08_paths_values` holds of `nestedSample`, `ValuesForKey("k")`
    returns `[1]`, `PathsForKey("k")` returns `["a.k"]`, and `ValuesForPath("a.k")` returns nothing -/
theorem C08_list_in_list_witness :
    hasKey ['k'] [] nestedSample = [.num ['1']]
    ∧ pathsForKey nestedSample ['k'] = [['a', '.', 'k']]
    ∧ (pathsForKey nestedSample ['k']).flatMap (fun p => oldValues none nestedSample p) = [] := by
  decide +kernel

/-- hence the conclusion of `C08_paths_values` fails there: the hypothesis cannot be dropped -/
theorem C08_paths_values_needs_no_list_in_list :
    ¬ List.Perm ((pathsForKey nestedSample ['k']).flatMap fun p => oldValues none nestedSample p)
        (hasKey ['k'] [] nestedSample) := by
  rw [C08_list_in_list_witness.2.2, C08_list_in_list_witness.1]
  intro h
  exact absurd h.length_eq (by decide)

end Mxj.C08
