/-
  Mxj.Props.C04ExtFrame — frame of C04's API over the package-level state, on facts regenerated from
  /repo's current source on every run: the sequence codec reads its reserved key names, the cast,
  trimming, snake-case and escaping options with the escape table, the decoder hooks
  (`CustomDecoder`, `XmlCharsetReader`, `handleXMPPStreamTag`), the error value `NoRoot` and the
  encoder's validity and empty-element switches - neither the attribute prefix nor the lower-case
  switch;
  and none of them (nor any function they can reach) assigns a package-level variable, so what they
  return is a function of their arguments and of exactly those variables - no hidden state carried
  from one call to the next.
-/
import Mxj.Lemmas.Facts
namespace Mxj.C04
open Mxj

/-- the package-level variables C04's functions may read -/
def frameAllowed : List String := ["CustomDecoder", "NoRoot", "XmlCharsetReader", "attrK", "castNanInf", "castToBool", "castToFloat", "castToInt", "checkTagToSkip", "commentK", "directiveK", "escapechars", "handleXMPPStreamTag", "instK", "procinstK", "seqK", "snakeCaseKeys", "targetK", "textK", "trimRunes", "useGoXmlEmptyElemSyntax", "xmlCheckIsValid", "xmlEscapeChars", "xmlEscapeCharsDecoder"]

theorem frame_cert :
    Facts.cert Generated.c04FrameRoots Generated.c04FrameRootsClosure (Facts.frameOk frameAllowed)
      = true := by decide +kernel

theorem C04_frame_reads (root g v : String) (hr : root ∈ Generated.c04FrameRoots)
    (h : Facts.Reach root g) (hv : v ∈ Facts.readsOf g) : v ∈ frameAllowed :=
  Facts.reads_of_frame frame_cert hr h hv

theorem C04_frame_no_hidden_state (root g : String) (hr : root ∈ Generated.c04FrameRoots)
    (h : Facts.Reach root g) : Facts.writesOf g = [] :=
  Facts.writes_of_frame frame_cert hr h

/-- the statements are not vacuous: the API group is present in the source -/
theorem C04_frame_roots_present : Generated.c04FrameRoots.length ≥ 1 := by decide +kernel

end Mxj.C04
