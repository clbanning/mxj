/-
  The INDENTED Map encoder `Map.XmlIndent(prefix, indent, rootTag...)` (model:
  Mxj.Model.EncodeIndent, `marshalI` / `mapXmlIndent`): its layout is harmless.  The bytes are a
  rendering of the SAME tree the compact encoder builds; the layout is white-space text tokens
  between the tree's tokens; and a decoder that trims prefix and indent does not see it.  With
  `keepSpace` (DisableTrimWhiteSpace) it does: known defect, witness below.
-/
import Mxj.Lemmas.EncodeIndent
namespace Mxj.C02
open Mxj Mxj.Enc

/-- `Map.XmlIndent` writes, at nesting count 0 and with the prefix as padding, the indented
    rendering `renderI` of the tree the (compact) encoder builds for the root `XmlIndent` picks
    — as one equation, success and failure.
    `Plain cfg`: as for the compact encoder (`C02_marshal_eq_render`): raw `%v` texts need no
    escaping.  `Regular cfg`: no empty list, no list directly inside a list, at most one
    text-key entry per map — on other values the Go code's layout is not a function of the tree
    (counterexamples below). -/
theorem C02_indent_bytes_eq_renderI (cfg : EncCfg) (pfx indent : Str) (m : Entries)
    (rootTag : Option Str) (hp : Plain cfg (.map m) = true) (hr : Regular cfg (.map m) = true) :
    mapXmlIndent cfg pfx indent m rootTag
      = (encTree cfg (mapXmlIndentRoot m rootTag).1 (mapXmlIndentRoot m rootTag).2.norm).map
          (fun ns => ns.flatMap (renderI cfg indent 0 pfx)) :=
  mapXmlIndent_eq cfg pfx indent m rootTag hp hr

/-- … spelled out for a successful run: there is ONE tree `n`; the indented bytes are its
    indented rendering and the compact encoder's bytes (same root) are its canonical rendering -/
theorem C02_indent_bytes_single (cfg : EncCfg) (pfx indent : Str) (m : Entries)
    (rootTag : Option Str) (out : Str)
    (hp : Plain cfg (.map m) = true) (hr : Regular cfg (.map m) = true)
    (h : mapXmlIndent cfg pfx indent m rootTag = .ok out) :
    ∃ n, encTree cfg (mapXmlIndentRoot m rootTag).1 (mapXmlIndentRoot m rootTag).2.norm = .ok [n]
      ∧ isElem n = true
      ∧ out = renderI cfg indent 0 pfx n
      ∧ marshal cfg (mapXmlIndentRoot m rootTag).1 (mapXmlIndentRoot m rootTag).2
          = .ok (render cfg n) := by
  rw [C02_indent_bytes_eq_renderI cfg pfx indent m rootTag hp hr] at h
  rw [marshal_eq_render cfg _ _ (mapXmlIndentRoot_plain cfg m rootTag hp)]
  cases hE : encTree cfg (mapXmlIndentRoot m rootTag).1 (mapXmlIndentRoot m rootTag).2.norm with
  | error e => rw [hE] at h; cases h
  | ok ns =>
    rw [hE] at h
    obtain ⟨attrs, kids, rfl⟩ := encTree_single cfg _ _ ns
      (mapXmlIndentRoot_norm_not_list m rootTag) hE
    exact ⟨_, rfl, rfl, by simpa using (Except.ok.inj h).symm, by simp [Except.map]⟩

/-- `Map.XmlIndent` fails exactly when the compact encoder fails on the same root, with the
    same error — for EVERY Map (no `Plain`, no `Regular`) -/
theorem C02_indent_error_iff (cfg : EncCfg) (pfx indent : Str) (m : Entries)
    (rootTag : Option Str) (e : ErrKind) :
    mapXmlIndent cfg pfx indent m rootTag = .error e
      ↔ marshal cfg (mapXmlIndentRoot m rootTag).1 (mapXmlIndentRoot m rootTag).2 = .error e :=
  error_iff_of_unitE (mapXmlIndent_err cfg pfx indent m rootTag) e

/-- `Regular` does not depend on the order of map entries (it holds for the normalised value
    if it holds for the value) -/
theorem C02_indent_regular_norm (cfg : EncCfg) (v : Val) (h : Regular cfg v = true) :
    Regular cfg v.norm = true := Regular_norm cfg v h

/-- the indented rendering of an element is: the padding, the CANONICAL rendering of the layout
    tree `layI` (the tree with the layout as explicit text nodes), the final newline — when
    prefix and indent need no escaping (always so for blanks and tabs:
    `plainText_of_blank`) -/
theorem C02_indent_renderI_eq_render (cfg : EncCfg) (indent : Str) (cnt : Nat) (pad : Str)
    (hind : plainText cfg indent = true) (hpad : plainText cfg pad = true)
    (n : Node) (hn : isElem n = true) :
    renderI cfg indent cnt pad n = pad ++ render cfg (layI indent cnt pad n) ++ nlOf cnt := by
  cases n with
  | elem sp name attrs kids =>
    exact renderI_eq_render_layI cfg indent hind (renderBodyI_eq_render cfg indent hind kids) cnt pad hpad
  | _ => cases hn

/-- the token sequence of the indented document (`docToksI`: the prefix as a text token, then
    the tokens of the layout tree) is the token sequence of the tree with extra TEXT tokens,
    each of them non-empty and made of newlines and characters of prefix / indent only
    (`WsExt`, `wsOk`) — for every tree -/
theorem C02_indent_tokens (pfx indent : Str) (t : Node) :
    WsExt (wsOk (pfx ++ indent)) (docToksI pfx indent t) (flatten t) := by
  have h1 : WsExt (wsOk (pfx ++ indent)) (flattenKids (wsNode pfx)) [] :=
    wsExt_wsNode pfx (fun c hc => .inr (List.mem_append_left _ hc))
  have h2 := flatten_layI indent (pfx ++ indent) (fun c hc => List.mem_append_right _ hc) t 0 pfx
    (fun c hc => List.mem_append_left _ hc)
  simpa [docToksI] using h1.append h2

/-- … in particular the tree's tokens are a subsequence of the indented document's -/
theorem C02_indent_tokens_sublist (pfx indent : Str) (t : Node) :
    (flatten t).Sublist (docToksI pfx indent t) := (C02_indent_tokens pfx indent t).sublist

/-- where the extra tokens go: nowhere inside an element that has no element child (an empty
    element, a text-only element): its layout tree is the element itself.  What an element WITH
    element children gets is the definition of `layI` / `layBodyI` (Lemmas/EncodeIndent), also
    when it has text as well (the Go code writes `>text`, newline, children): then the first extra
    token directly follows the text (example below). -/
theorem C02_indent_tokens_simple (indent : Str) (cnt : Nat) (pad sp name : Str)
    (attrs : List Attr) (kids : List Node) (h : kids.any isElem = false) :
    layI indent cnt pad (.elem sp name attrs kids) = .elem sp name attrs kids :=
  layI_simple h

/-- general form: if every character of prefix and indent is in the decoder's trim set
    (`strings.Trim` cut set: tab, CR, BS, LF, and the blank unless `keepSpace`), decoding the
    indented token stream gives EXACTLY the outcome of decoding the compact one — every tree,
    every decoder configuration -/
theorem C02_indent_same_decode_trim (cfg : DecCfg) (S : Strconv) (fin : StreamEnd)
    (pfx indent : Str) (hpfx : inTrim cfg pfx) (hind : inTrim cfg indent)
    (sp name : Str) (attrs : List Attr) (kids : List Node) :
    newMapXml cfg S (docToksI pfx indent (.elem sp name attrs kids)) fin
      = newMapXml cfg S (flatten (.elem sp name attrs kids)) fin :=
  newMapXml_docToksI cfg S fin pfx indent hpfx hind _ rfl

/-- prefix and indent made of blanks and tabs, white space trimmed (`keepSpace = false`, the
    default): same Map -/
theorem C02_indent_same_decode (cfg : DecCfg) (S : Strconv) (fin : StreamEnd)
    (hk : cfg.keepSpace = false) (pfx indent : Str)
    (hpfx : ∀ c ∈ pfx, c = ' ' ∨ c = '\t') (hind : ∀ c ∈ indent, c = ' ' ∨ c = '\t')
    (n : Node) (hn : isElem n = true) :
    newMapXml cfg S (docToksI pfx indent n) fin = newMapXml cfg S (flatten n) fin :=
  newMapXml_docToksI cfg S fin pfx indent (inTrim_of_blank cfg hk pfx hpfx)
    (inTrim_of_blank cfg hk indent hind) n hn

/-- end to end: a `Plain`, `Regular` Map that `XmlIndent` encodes (blank/tab prefix and indent)
    has ONE tree `n` such that: the indented bytes are the prefix followed by the canonical
    rendering of the layout tree of `n`; the compact bytes are the canonical rendering of `n`;
    and a trimming decoder gives the same outcome on the two token streams -/
theorem C02_indent_roundtrip (cfg : EncCfg) (pfx indent : Str) (m : Entries)
    (rootTag : Option Str) (out : Str)
    (hpfx : ∀ c ∈ pfx, c = ' ' ∨ c = '\t') (hind : ∀ c ∈ indent, c = ' ' ∨ c = '\t')
    (hp : Plain cfg (.map m) = true) (hr : Regular cfg (.map m) = true)
    (h : mapXmlIndent cfg pfx indent m rootTag = .ok out) :
    ∃ n, out = pfx ++ render cfg (layI indent 0 pfx n)
      ∧ marshal cfg (mapXmlIndentRoot m rootTag).1 (mapXmlIndentRoot m rootTag).2 = .ok (render cfg n)
      ∧ ∀ (dcfg : DecCfg) (S : Strconv) (fin : StreamEnd), dcfg.keepSpace = false →
          newMapXml dcfg S (docToksI pfx indent n) fin = newMapXml dcfg S (flatten n) fin := by
  obtain ⟨n, _, hn, ho, hc⟩ := C02_indent_bytes_single cfg pfx indent m rootTag out hp hr h
  refine ⟨n, ?_, hc, fun dcfg S fin hk => C02_indent_same_decode dcfg S fin hk pfx indent hpfx hind n hn⟩
  rw [ho, C02_indent_renderI_eq_render cfg indent 0 pfx (plainText_of_blank cfg indent hind)
    (plainText_of_blank cfg pfx hpfx) n hn]
  simp [nlOf]

/-- a `Strconv` (unused: the cast flag is off) -/
def indentS0 : Strconv :=
  { parseInt := fun _ => none, parseUint := fun _ => none, parseFloat := fun _ => none, lower := id }

/-- `{"r": {"-k": "v", "#text": "hello", "b": ["c", "d"], "e": {"f": 1.5}, "g": nil}}` -/
def indentMap : Entries :=
  [("r".toList, .map [("-k".toList, .str "v".toList), ("#text".toList, .str "hello".toList),
      ("b".toList, .list [.str "c".toList, .str "d".toList]),
      ("e".toList, .map [("f".toList, .num "f:1.5".toList)]), ("g".toList, .null)])]

example : Plain {} (.map indentMap) = true := by decide +kernel
example : Regular {} (.map indentMap) = true := by decide +kernel

/-- the indented bytes (as the real `XmlIndent("", "  ")` writes them) … -/
example : mapXmlIndent {} [] "  ".toList indentMap none
    = .ok "<r k=\"v\">hello\n  <b>c</b>\n  <b>d</b>\n  <e>\n    <f>1.5</f>\n  </e>\n  <g/>\n</r>".toList := by
  -- the kernel unfolds `String.toList` of a literal through the UTF-8 decoding of its bytes, at a
  -- cost quadratic in its length: a long literal is first turned into its list of characters
  repeat rw [String.toList_ofList]
  decide +kernel

example : mapXmlIndent { goEmpty := true } " ".toList "\t".toList indentMap (some "doc".toList)
    = .ok (" <doc>\n \t<r k=\"v\">hello\n \t\t<b>c</b>\n \t\t<b>d</b>\n \t\t<e>\n \t\t\t<f>1.5</f>\n \t\t</e>\n"
            ++ " \t\t<g></g>\n \t</r>\n </doc>").toList := by
  rw [String.toList_append]
  repeat rw [String.toList_ofList]
  decide +kernel

example : mapXml {} indentMap none
    = .ok "<r k=\"v\">hello<b>c</b><b>d</b><e><f>1.5</f></e><g/></r>".toList := by
  repeat rw [String.toList_ofList]
  decide +kernel

def indentTree : Node :=
  .elem [] "r".toList [⟨[], "k".toList, "v".toList⟩]
    [.text "hello".toList, .elem [] "b".toList [] [.text "c".toList],
     .elem [] "b".toList [] [.text "d".toList],
     .elem [] "e".toList [] [.elem [] "f".toList [] [.text "1.5".toList]],
     .elem [] "g".toList [] []]

example : encTree {} (mapXmlIndentRoot indentMap none).1 (mapXmlIndentRoot indentMap none).2.norm
    = .ok [indentTree] := by decide +kernel
example : renderI {} "  ".toList 0 [] indentTree
    = "<r k=\"v\">hello\n  <b>c</b>\n  <b>d</b>\n  <e>\n    <f>1.5</f>\n  </e>\n  <g/>\n</r>".toList := by
  repeat rw [String.toList_ofList]
  decide +kernel

/-- … its layout tree: in the mixed element `r` the first extra token follows the text `hello`;
    the text-only elements `b`, `f` and the empty element `g` are untouched -/
example : layI "  ".toList 0 [] indentTree
    = .elem [] "r".toList [⟨[], "k".toList, "v".toList⟩]
        [.text "hello".toList,
         .text "\n  ".toList, .elem [] "b".toList [] [.text "c".toList], .text "\n".toList,
         .text "  ".toList, .elem [] "b".toList [] [.text "d".toList], .text "\n".toList,
         .text "  ".toList,
           .elem [] "e".toList []
             [.text "\n    ".toList, .elem [] "f".toList [] [.text "1.5".toList], .text "\n".toList,
              .text "  ".toList],
           .text "\n".toList,
         .text "  ".toList, .elem [] "g".toList [] [], .text "\n".toList] := by
  decide +kernel

example : newMapXml {} indentS0 (docToksI [] "  ".toList indentTree) .eof
    = newMapXml {} indentS0 (flatten indentTree) .eof := by decide +kernel
example : newMapXml {} indentS0 (docToksI [] "  ".toList indentTree) .eof
    = .ok (.map [("r".toList, .map [("-k".toList, .str "v".toList),
        ("#text".toList, .str "hello".toList),
        ("b".toList, .list [.str "c".toList, .str "d".toList]),
        ("e".toList, .map [("f".toList, .str "1.5".toList)]), ("g".toList, .str [])])]) := by
  decide +kernel

/-- KNOWN DEFECT (F-KEEPSP-INDENT): with `keepSpace` (DisableTrimWhiteSpace) blanks are not
    trimmed, the blank indentation comes back as `#text` entries, and the indented round trip is
    not a fixed point: `<a><b>x</b></a>` decodes to `{"a": {"b": "x"}}`, its indented form
    `<a>␤  <b>x</b>␤</a>` to `{"a": {"b": "x", "#text": "  "}}` -/
example : newMapXml { keepSpace := true } indentS0
      (flatten (.elem [] "a".toList [] [.elem [] "b".toList [] [.text "x".toList]])) .eof
    = .ok (.map [("a".toList, .map [("b".toList, .str "x".toList)])]) := by decide +kernel
example : newMapXml { keepSpace := true } indentS0
      (docToksI [] "  ".toList (.elem [] "a".toList [] [.elem [] "b".toList [] [.text "x".toList]])) .eof
    = .ok (.map [("a".toList, .map [("b".toList, .str "x".toList), ("#text".toList, .str "  ".toList)])]) := by
  decide +kernel
/-- … while a TAB indent is harmless even then (tabs are always trimmed: the general form
    `C02_indent_same_decode_trim` applies) -/
example : inTrim { keepSpace := true } "\t".toList := by
  intro c hc
  have : c = '\t' := by simpa using hc
  subst this; decide

/-- `Regular` is needed, (a): an EMPTY LIST is written `<z` padding `/>` — the padding goes
    INSIDE the tag — one level deeper than its siblings' padding would suggest, and directly
    below the root without the newline; the tree (`<z/>`, like `nil` or `""`) cannot tell -/
example : mapXmlIndent {} [] "  ".toList
      [("r".toList, .map [("m".toList, .map [("y".toList, .str "1".toList), ("z".toList, .list [])]),
                          ("z".toList, .list [])])] none
    = .ok "<r>\n  <m>\n    <y>1</y>\n    <z  />\n  </m>\n  <z/></r>".toList := by
  repeat rw [String.toList_ofList]
  decide +kernel
example : (encTree {} "r".toList (Val.map [("m".toList, .map [("y".toList, .str "1".toList),
      ("z".toList, .list [])]), ("z".toList, .list [])]).norm).map
        (fun ns => ns.flatMap (renderI {} "  ".toList 0 []))
    = .ok "<r>\n  <m>\n    <y>1</y>\n    <z/>\n  </m>\n  <z/>\n</r>".toList := by
  repeat rw [String.toList_ofList]
  decide +kernel
/-- … with a prefix that is not white space the element NAME changes (`<zxx/>`) -/
example : mapXmlIndent {} "xx".toList "  ".toList
      [("r".toList, .map [("m".toList, .map [("z".toList, .list [])])])] none
    = .ok "xx<r>\nxx  <m>\nxx    <zxx  />\nxx  </m>\nxx</r>".toList := by
  repeat rw [String.toList_ofList]
  decide +kernel

/-- `Regular` is needed, (b): the members of a LIST INSIDE A LIST are indented twice; the tree
    has them as plain siblings -/
example : mapXmlIndent {} [] "  ".toList
      [("r".toList, .map [("a".toList, .list [.list [.str "p".toList, .str "q".toList], .str "s".toList])])]
      none
    = .ok "<r>\n    <a>p</a>\n    <a>q</a>\n  <a>s</a>\n</r>".toList := by
  repeat rw [String.toList_ofList]
  decide +kernel
example : (encTree {} "r".toList (Val.map [("a".toList,
      .list [.list [.str "p".toList, .str "q".toList], .str "s".toList])]).norm).map
        (fun ns => ns.flatMap (renderI {} "  ".toList 0 []))
    = .ok "<r>\n  <a>p</a>\n  <a>q</a>\n  <a>s</a>\n</r>".toList := by
  repeat rw [String.toList_ofList]
  decide +kernel

/-- `Regular` is needed, (c): with TWO text-key entries (impossible for a Go map; possible for
    the association-list model) the element is not "simple" for the Go code although its tree
    is text-only -/
example : mapXmlIndent {} [] "  ".toList
      [("r".toList, .map [("#text".toList, .str "t".toList), ("#text".toList, .str "u".toList)])] none
    = .ok "<r>u\n</r>".toList := by
  repeat rw [String.toList_ofList]
  decide +kernel
example : (encTree {} "r".toList (Val.map [("#text".toList, .str "t".toList),
      ("#text".toList, .str "u".toList)]).norm).map (fun ns => ns.flatMap (renderI {} "  ".toList 0 []))
    = .ok "<r>u</r>".toList := by decide +kernel

/-- `Plain` is needed exactly as for the compact encoder: a number text that would need escaping
    is written raw -/
example : mapXmlIndent { escape := true } [] "  ".toList [("a".toList, .num "f:1<2".toList)] none
    = .ok "<a>1<2</a>".toList := by
  repeat rw [String.toList_ofList]
  decide +kernel
example : (encTree { escape := true } "a".toList (Val.num "f:1<2".toList)).map
        (fun ns => ns.flatMap (renderI { escape := true } "  ".toList 0 []))
    = .ok "<a>1&lt;2</a>".toList := by
  repeat rw [String.toList_ofList]
  decide +kernel

/-- error parity (`C02_indent_error_iff`): a list as attribute value is rejected by both encoders -/
example : mapXmlIndent {} [] "  ".toList
      [("r".toList, .map [("-k".toList, .list [.str "bad".toList])])] none = .error .other := by
  decide +kernel
example : marshal {} "r".toList (.map [("-k".toList, .list [.str "bad".toList])]) = .error .other := by
  decide +kernel

end Mxj.C02
