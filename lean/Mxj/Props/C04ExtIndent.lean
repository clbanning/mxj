/-
  Mxj.Props.C04ExtIndent — the INDENTED sequence encoder `MapSeq.XmlIndent(prefix, indent)`
  (model: Mxj.Model.SeqIndent, `seqEncP` / `mapSeqXmlIndent`; lemmas: Mxj.Lemmas.SeqIndent,
  namespace `Mxj.SeqIL`): its layout is harmless for the sequence round trip.

  The model follows `mapToXmlSeqIndent(doIndent, sb, key, value, pp)` write by write; every
  `sb.WriteString` under `if doIndent` is a `Piece.lay`, every other one a `Piece.raw`.

  (0) the `pretty` state: `Outdent` undoes `Indent`; the loops hand back the state they got;
  (1) structure of the output
      bytes:  the indented pieces minus the `lay` pieces are the compact output
              (`C04_indent_layout_only`: same Go function, `doIndent = false`, every input),
              which is the compact model `seqEnc` where no scalar sits under a comment /
              directive / processing-instruction key (`C04_indent_compact_mode`, `noteOk`);
      trees:  `seqEncTreeL` = the compact tree `seqEncTree` with layout NODES between the
              nodes (`C04_indent_strip_layout`, exact); the layout strings are made of the
              newline, `prefix` and `indent` characters and text is only ever the first child
              (`C04_indent_layout_shape`); the bytes are the rendering of that tree
              (`C04_indent_bytes_are_rendering`, either empty-element syntax);
  (2) the sequence decoder, run on the token stream of the indented output (adjacent character
      data merged into one token, as a tokenizer reports it), gives what it gives on the
      compact output's stream, if `prefix` / `indent` consist of characters the decoder trims
      (`C04_indent_same_decode`); with the C04 round trip: decode → XmlIndent → decode is the
      identity on the C04 domain (`C04_indent_roundtrip`, `C04_indent_roundtrip_bytes`);
  (3) `mapSeqXmlIndent` fails / panics exactly when `mapSeqXml` does (`C04_indent_parity*`).

  Property theorems and examples only.
-/
import Mxj.Lemmas.SeqIndent
import Mxj.Props.C04
namespace Mxj.C04
open Mxj Mxj.SeqL Mxj.SeqIL Mxj.Dec

/-! ### (0) the `pretty` state -/

/-- `p.Indent(); p.Outdent()` leaves `p` as it was (`padding[:len(padding)-len(indent)]` cuts
    exactly the indent that was appended) -/
theorem C04_indent_outdent_undoes_indent (p : Pretty) : p.indentStep.outdent = p :=
  outdent_indentStep p

/-- the loop over the children hands back the state it was given -/
theorem C04_indent_kids_state (c : SeqCfg) (esc ge di : Bool) (f : Nat) (p p' : Pretty)
    (kvs : List (Str × Val)) (a : List Piece)
    (h : seqKidsP c esc ge di f p kvs = .ok (a, p')) : p' = p := by
  rw [seqKidsP_eq] at h
  obtain ⟨_, _, h⟩ := Outcome.mapOk_eq_ok h
  exact (Prod.mk.inj h).2.symm

/-- … and so does the loop over the members of a list -/
theorem C04_indent_members_state (c : SeqCfg) (esc ge di : Bool) (f : Nat) (p p' : Pretty)
    (key : Str) (xs : List Val) (a : List Piece)
    (h : seqMembersP c esc ge di f p key xs = .ok (a, p')) : p' = p := by
  rw [seqMembersP_eq] at h
  obtain ⟨_, _, h⟩ := Outcome.mapOk_eq_ok h
  exact (Prod.mk.inj h).2.symm

/-! ### (1a) structure of the output, bytes -/

/-- the bytes are the pieces in order -/
theorem C04_indent_bytes (c : SeqCfg) (esc ge : Bool) (pfx ind : Str) (m : Entries) :
    mapSeqXmlIndent c esc ge pfx ind m
      = (mapSeqXmlIndentP c esc ge pfx ind m).mapOk Piece.flat := rfl

/-- For every value, key, fuel, `pretty` state and escape / empty-element setting: the
    pieces `mapToXmlSeqIndent(true, …)` writes, minus those written under `if doIndent`, are
    the bytes `mapToXmlSeqIndent(false, …)` writes — same success, same failure -/
theorem C04_indent_layout_only (c : SeqCfg) (esc ge : Bool) (f : Nat) (p p' : Pretty) (key : Str)
    (v : Val) :
    (seqEncP c esc ge true f p key v).mapOk Piece.core
      = (seqEncP c esc ge false f p' key v).mapOk Piece.flat :=
  encP_core c esc ge f p p' key v

/-- the compact mode of `seqEncP` is the compact model `seqEnc`, provided no
    string / number / boolean sits under the comment, directive or processing-instruction key
    (`noteOk`) -/
theorem C04_indent_compact_mode (c : SeqCfg) (esc ge : Bool) (f : Nat) (p : Pretty) (key : Str)
    (v : Val) (hn : noteOk c key v = true) :
    (seqEncP c esc ge false f p key v).mapOk Piece.flat = seqEnc c esc ge f key v :=
  encP_rel c esc ge f p key v hn

/- `noteOk` is forced, and it is `seqEnc` that is off there: for `{"#comment": "abc"}` Go omits
   the `<key` (first type switch: `if key != commentK && …`) and writes `>abc</#comment>`, in
   both modes (checked against the code); `seqEnc` has `<#comment>abc</#comment>`. -/
example :
    (seqEncP seqDflt false false false 3 (Pretty.init [] []) "#comment".toList
        (.str "abc".toList)).mapOk Piece.flat = .ok ">abc</#comment>".toList
    ∧ seqEnc seqDflt false false 3 "#comment".toList (.str "abc".toList)
        = .ok "<#comment>abc</#comment>".toList
    ∧ noteOk seqDflt "#comment".toList (.str "abc".toList) = false := by
  rw [seqEncP_eq, seqEnc_eq _ _ _ _ ()]
  -- the kernel's `String.toList` on a literal is quadratic: turn `"…".toList` into the list first
  repeat rw [String.toList_ofList]
  decide +kernel

/-- the indented output without its layout pieces IS the compact output of `seqEnc` -/
theorem C04_indent_core_is_compact (c : SeqCfg) (esc ge : Bool) (f : Nat) (p : Pretty) (key : Str)
    (v : Val) (hn : noteOk c key v = true) :
    (seqEncP c esc ge true f p key v).mapOk Piece.core = seqEnc c esc ge f key v := by
  rw [encP_core c esc ge f p p key v]
  exact encP_rel c esc ge f p key v hn

/-- `msv.XmlIndent(prefix, indent)` against `msv.Xml()`: the same bytes once the layout pieces
    are dropped, when both choose the same root (`seqRootAgree`) -/
theorem C04_indent_core_is_Xml (c : SeqCfg) (esc ge : Bool) (pfx ind : Str) (m : Entries)
    (hr : seqRootAgree m = true) (hn : noteOk c (seqRootI m).1 (seqRootI m).2 = true) :
    (mapSeqXmlIndentP c esc ge pfx ind m).mapOk Piece.core = mapSeqXml c esc ge m := by
  rw [mapSeqXml_rootI c esc ge m hr]
  exact C04_indent_core_is_compact c esc ge _ _ _ _ hn

/- `seqRootAgree` is forced: for a single entry holding a list of maps `Xml()` writes a row of
   `key` elements in LIST order, `XmlIndent()` wraps the entry in `<doc>` and writes the members
   in `#seq` order (checked against the code: `"<r>b</r><r>a</r>"` against
   `"<doc>\n  <r>a</r>\n  <r>b</r>\n</doc>"`). -/

example : seqRootAgree SeqISample.rootList = false := by decide +kernel
example : mapSeqXml seqDflt false false SeqISample.rootList = .ok "<r>b</r><r>a</r>".toList := by
  simp only [mapSeqXml, seqEnc_eq _ _ _ _ ()]
  repeat rw [String.toList_ofList]
  decide +kernel
example : mapSeqXmlIndent seqDflt false false [] "  ".toList SeqISample.rootList
    = .ok "<doc>\n  <r>a</r>\n  <r>b</r>\n</doc>".toList := by
  simp only [mapSeqXmlIndent, mapSeqXmlIndentP, seqEncP_eq]
  repeat rw [String.toList_ofList]
  decide +kernel

/-! ### (1b) structure of the output, trees -/

/-- dropping the layout nodes of the indented encoder's tree gives the compact
    encoder's tree, exactly — same nodes, same order, same text, same failure; no hypothesis on
    `prefix` / `indent` -/
theorem C04_indent_strip_layout (c : SeqCfg) (f : Nat) (p : Pretty) (key : Str) (v : Val) :
    (seqEncTreeL c f p key v).mapOk LNode.stripKids = seqEncTree c f key v :=
  encTreeL_strip c f p key v

/-- where the layout is and what it is made of: in the output forest no text node stands at the
    top; in every element text is only ever the FIRST child (so layout never splits or precedes
    the text of an element; it may follow it — mixed content, see the example below); and every
    layout string consists of characters satisfying `P`, for any `P` that holds of the newline
    and of the characters of `p.padding` and `p.indent` -/
theorem C04_indent_layout_shape (c : SeqCfg) (P : Char → Bool) (hnl : P '\n' = true) (f : Nat)
    (p : Pretty) (key : Str) (v : Val) (out : List LNode)
    (hpad : ∀ ch ∈ p.padding, P ch = true) (hind : ∀ ch ∈ p.indent, P ch = true)
    (h : seqEncTreeL c f p key v = .ok out) :
    noTextTop out = true ∧ shapeKidsL out = true
      ∧ LNode.allLays (fun s => s.all P) out = true :=
  encTreeL_shape c P hnl ⟨hpad, hind⟩ h

/-- the layout strings of `msv.XmlIndent(prefix, indent)`: newline, `prefix` and `indent`
    characters only -/
theorem C04_indent_layout_chars (c : SeqCfg) (pfx ind : Str) (f : Nat) (key : Str) (v : Val)
    (out : List LNode) (h : seqEncTreeL c f (Pretty.init pfx ind) key v = .ok out) :
    LNode.allLays (fun s => s.all (fun ch => ch == '\n' || pfx.contains ch || ind.contains ch))
      out = true :=
  (encTreeL_shape c (fun ch => ch == '\n' || pfx.contains ch || ind.contains ch) (by simp)
    (goodP_init _ pfx ind (fun ch h => by simp [h]) fun ch h => by simp [h]) h).2.2

/- Non-vacuity, and the one place where layout touches character data: MIXED CONTENT.  For
   `<r>hi<a/></r>` the encoder writes the text, then `"\n"`, then the child's padding: the
   CharData token of `r` becomes `"hi\n  "` (the decoder trims it back to `"hi"`). -/

example :
    mapSeqXmlIndent seqDflt false false [] "  ".toList SeqISample.mixed = .ok "<r>hi\n  <a/>\n</r>".toList := by
  simp only [mapSeqXmlIndent, mapSeqXmlIndentP, seqEncP_eq]
  repeat rw [String.toList_ofList]
  decide +kernel

/-- its layout tree … -/
example :
    seqEncTreeL seqDflt 4 (Pretty.init [] "  ".toList) "r".toList
        (.map [("#text".toList, .str "hi".toList), ("#seq".toList, .num "i:0".toList),
          ("a".toList, .map [("#text".toList, .str []), ("#seq".toList, .num "i:1".toList)])])
      = .ok [.lay [], .elem "r".toList []
          [.text "hi".toList, .lay "\n".toList, .lay "  ".toList, .elem "a".toList [] [],
           .lay "\n".toList, .lay []]] := by
  rw [seqEncTreeL_eq]
  rfl

/-- … and what a tokenizer reports for it -/
example :
    flattenKids (mergeKids (unqualifyKids (LNode.toNodes
      [.lay [], .elem "r".toList []
          [.text "hi".toList, .lay "\n".toList, .lay "  ".toList, .elem "a".toList [] [],
           .lay "\n".toList, .lay []]])))
      = [.text [], .start [] "r".toList [], .text "hi\n  ".toList, .start [] "a".toList [],
         .stop [] "a".toList, .text "\n".toList, .stop [] "r".toList] := by
  decide +kernel

/- QUIRK (indentation defect, harmless for decoding): a list that is itself a member of a list is
   indented once more by `case []interface{}` (`p.Indent()` per member) on top of the
   indentation its parent list gave it — `{"r": {"a": [["x", ["y"]]]}}`, checked against the
   code. -/
example :
    mapSeqXmlIndent seqDflt false false [] "  ".toList
        [("r".toList, .map [("a".toList, .list [.list [.str "x".toList, .list [.str "y".toList]]])])]
      = .ok "<r>\n  <a>x</a>\n    <a>y</a>\n</r>".toList := by
  simp only [mapSeqXmlIndent, mapSeqXmlIndentP, seqEncP_eq]
  repeat rw [String.toList_ofList]
  decide +kernel

/-- the indented bytes are the rendering of the layout tree — for EITHER empty-element syntax
    (with layout the bytes are a function of the tree, unlike the compact encoder's), for
    values whose leaves are strings (`seqPlain`) with `noteOk` -/
theorem C04_indent_bytes_are_rendering (c : SeqCfg) (esc ge : Bool) (hts : c.textK ≠ c.seqK)
    (f : Nat) (p : Pretty) (key : Str) (v : Val) (hv : seqPlain c v = true)
    (hn : noteOk c key v = true) :
    (seqEncP c esc ge true f p key v).mapOk Piece.flat
      = (seqEncTreeL c f p key v).mapOk (renderLKids esc ge) :=
  encP_linkL c esc ge hts f p key v hv hn

/-! ### (2) the decoder does not see the layout -/

theorem C04_indent_newline_trimmed (c : SeqCfg) : (trimSet c.dec).contains '\n' = true :=
  newline_trimmed c

/-- For every value: whenever the compact tree of `(key, v)` is a single element, the
    sequence decoder gives the same result on the token stream of the indented output — layout
    as character data, adjacent character data merged into one token, names split at the colon
    — as on the token stream of the compact output.  Hypotheses: `prefix` / `indent` (the
    padding and indent of `p`) consist of characters of the decoder's trim set (`\t \r \b \n`
    and, unless `keepSpace`, the blank), and the text key is not the sequence key -/
theorem C04_indent_same_decode (c : SeqCfg) (S : Strconv) (fin : StreamEnd)
    (hts : c.textK ≠ c.seqK) (f : Nat) (p : Pretty) (key : Str) (v : Val) (outL : List LNode)
    (n : Str) (as : List Attr) (ks0 : List Node)
    (hpad : ∀ ch ∈ p.padding, (trimSet c.dec).contains ch = true)
    (hind : ∀ ch ∈ p.indent, (trimSet c.dec).contains ch = true)
    (hI : seqEncTreeL c f p key v = .ok outL)
    (hC : seqEncTree c f key v = .ok [.elem [] n as ks0]) :
    newMapXmlSeq c S (flattenKids (mergeKids (unqualifyKids (LNode.toNodes outL)))) fin
      = newMapXmlSeq c S (flatten (unqualify (.elem [] n as ks0))) fin := by
  rw [encTreeL_decode c S fin hts ⟨hpad, hind⟩ hI hC, ← List.append_nil (flatten _)]
  exact (newMapXmlSeq_tree c S fin [] [] (by simp) _ _ _ _).symm

/- The hypothesis on `prefix` / `indent` is forced.  With `indent = "x"` the layout of
   `<r><a/></r>` is character data the decoder keeps: `r` acquires a `#text` and `a` moves to
   `#seq` 1 … -/

example :
    seqEncTreeL seqDflt 4 (Pretty.init [] "x".toList) "r".toList SeqISample.ra
      = .ok [.lay [], .elem "r".toList []
          [.lay "\n".toList, .lay "x".toList, .elem "a".toList [] [], .lay "\n".toList, .lay []]]
    ∧ seqEncTree seqDflt 4 "r".toList SeqISample.ra
      = .ok [.elem [] "r".toList [] [.elem [] "a".toList [] []]] := by
  rw [seqEncTreeL_eq, seqEncTree_eq _ _ ()]
  exact ⟨rfl, rfl⟩

example :
    newMapXmlSeq seqDflt SeqSample.S0 (flattenKids (mergeKids (unqualifyKids (LNode.toNodes
        [.lay [], .elem "r".toList []
          [.lay "\n".toList, .lay "x".toList, .elem "a".toList [] [], .lay "\n".toList,
           .lay []]])))) .eof
      = .ok (.doc (.map [("r".toList, .map [
          ("#text".toList, .str "x".toList), ("#seq".toList, .num "i:0".toList),
          ("a".toList, .map [("#text".toList, .str []), ("#seq".toList, .num "i:1".toList)])])]))
    ∧ newMapXmlSeq seqDflt SeqSample.S0
        (flatten (unqualify (.elem [] "r".toList [] [.elem [] "a".toList [] []]))) .eof
      = .ok (.doc (.map [("r".toList, SeqISample.ra)])) := by
  decide +kernel

/-- … and the trim set depends on the configuration: with `keepSpace` the blank is not in it
    (`trimSet`), so `indent = "  "` is kept as text -/
example :
    newMapXmlSeq { keepSpace := true } SeqSample.S0
        (flattenKids (mergeKids (unqualifyKids (LNode.toNodes
          [.lay [], .elem "r".toList []
            [.lay "\n".toList, .lay "  ".toList, .elem "a".toList [] [], .lay "\n".toList,
             .lay []]])))) .eof
      = .ok (.doc (.map [("r".toList, .map [
          ("#text".toList, .str "  ".toList), ("#seq".toList, .num "i:0".toList),
          ("a".toList, .map [("#text".toList, .str []), ("#seq".toList, .num "i:1".toList)])])])) := by
  decide +kernel

/-- both sides of `C04_indent_same_decode` are the document value of the compact tree -/
theorem C04_indent_decode_value (c : SeqCfg) (S : Strconv) (fin : StreamEnd)
    (hts : c.textK ≠ c.seqK) (f : Nat) (p : Pretty) (key : Str) (v : Val) (outL : List LNode)
    (n : Str) (as : List Attr) (ks0 : List Node)
    (hpad : ∀ ch ∈ p.padding, (trimSet c.dec).contains ch = true)
    (hind : ∀ ch ∈ p.indent, (trimSet c.dec).contains ch = true)
    (hI : seqEncTreeL c f p key v = .ok outL)
    (hC : seqEncTree c f key v = .ok [.elem [] n as ks0]) :
    newMapXmlSeq c S (flattenKids (mergeKids (unqualifyKids (LNode.toNodes outL)))) fin
      = .ok (.doc (SeqFold.doc c S (unqualify (.elem [] n as ks0)))) :=
  encTreeL_decode c S fin hts ⟨hpad, hind⟩ hI hC

/-- the decoder does not see `normalize` (blank text dropped, text trimmed) on trees whose
    elements have text only as their first child — in particular on the C04 domain: decoding
    the compact output reproduces the decoded value -/
theorem C04_indent_decode_normalized (c : SeqCfg) (S : Strconv) (hts : c.textK ≠ c.seqK)
    (t : Node) (hd : seqDomain c t = true) :
    SeqFold.value c S (normalizeC c t) = SeqFold.value c S t :=
  value_normalize c S hts t (tfAll_of_domain c t hd)

/-- merging adjacent character data (what a tokenizer does) is invisible to the decoder, on
    every tree -/
theorem C04_indent_decode_merged (c : SeqCfg) (S : Strconv) (hts : c.textK ≠ c.seqK) (t : Node) :
    SeqFold.value c S (mergeText t) = SeqFold.value c S t :=
  value_merge c S hts t

/-- decode → XmlIndent → decode on the C04 domain (default configuration, names as the tokenizer
    hands them over): the decoded value `v` of an in-domain document encodes, with enough fuel,
    to a layout tree whose token stream decodes to the MapSeq we started from -/
theorem C04_indent_roundtrip (S : Strconv) (fin : StreamEnd) (pfx ind : Str)
    (hpfx : ∀ ch ∈ pfx, (trimSet seqDflt.dec).contains ch = true)
    (hind : ∀ ch ∈ ind, (trimSet seqDflt.dec).contains ch = true)
    (sp name : Str) (attrs : List Attr) (kids : List Node)
    (hd : SeqDomain (.elem sp name attrs kids) = true)
    (hn : plainNames (.elem sp name attrs kids) = true) :
    ∃ key v, SeqFold.doc seqDflt S (.elem sp name attrs kids) = .map [(key, v)]
      ∧ ∀ f, (Node.elem sp name attrs kids).height + 1 ≤ f →
          ∃ outL, seqEncTreeL seqDflt f (Pretty.init pfx ind) key v = .ok outL
            ∧ LNode.stripKids outL = [qualify seqDflt (normalize (.elem sp name attrs kids))]
            ∧ newMapXmlSeq seqDflt S
                (flattenKids (mergeKids (unqualifyKids (LNode.toNodes outL)))) fin
              = .ok (.doc (SeqFold.doc seqDflt S (.elem sp name attrs kids))) := by
  refine ⟨_, _, rfl, fun f hf => ?_⟩
  obtain ⟨outL, h1, h2⟩ := treeL_roundtrip seqDflt S cfgOk_dflt hd
    (Pretty.init pfx ind) f hf
  exact ⟨outL, h1, h2, roundtrip_decode seqDflt S fin cfgOk_dflt.ts rfl hd hn
    ⟨hpfx, hind⟩ h1 h2⟩

/-- end to end with `NewMapXmlSeq` and `MapSeq.XmlIndent` and their own fuel: decode the token
    stream of an in-domain document; `XmlIndent(prefix, indent)` of the result succeeds, its
    bytes are the rendering of a layout tree over the normalised document, and — `prefix` and
    `indent` made of characters the decoder trims, names as the tokenizer hands them over —
    the token stream of that tree decodes to the same MapSeq -/
theorem C04_indent_roundtrip_bytes (S : Strconv) (fin fin' : StreamEnd) (esc ge : Bool)
    (pfx ind : Str) (pre post : List Tok) (hpre : ∀ t ∈ pre, isText t = true)
    (sp name : Str) (attrs : List Attr) (kids : List Node)
    (hd : SeqDomain (.elem sp name attrs kids) = true) :
    ∃ m outL,
      newMapXmlSeq seqDflt S (pre ++ flatten (.elem sp name attrs kids) ++ post) fin
        = .ok (.doc (.map m))
      ∧ mapSeqXmlIndent seqDflt esc ge pfx ind m = .ok (renderLKids esc ge outL)
      ∧ LNode.stripKids outL = [qualify seqDflt (normalize (.elem sp name attrs kids))]
      ∧ ((∀ ch ∈ pfx, (trimSet seqDflt.dec).contains ch = true) →
         (∀ ch ∈ ind, (trimSet seqDflt.dec).contains ch = true) →
         plainNames (.elem sp name attrs kids) = true →
         newMapXmlSeq seqDflt S
             (flattenKids (mergeKids (unqualifyKids (LNode.toNodes outL)))) fin'
           = .ok (.doc (.map m))) := by
  obtain ⟨outL, h0, h1, h2⟩ := mapSeqXmlIndent_roundtrip seqDflt S cfgOk_dflt esc ge pfx ind hd
  refine ⟨_, outL, newMapXmlSeq_tree seqDflt S fin pre post hpre sp name attrs kids, h1, h2, ?_⟩
  intro hpfx hind hn
  exact roundtrip_decode seqDflt S fin' cfgOk_dflt.ts rfl hd hn ⟨hpfx, hind⟩ h0 h2

/-- non-vacuity on the C04 sample document (interleaved siblings a, b, a; prefixed names; a
    comment; leading text), `prefix = " "`, `indent = "\t"` -/
example : SeqDomain SeqSample.tree = true ∧ plainNames SeqSample.tree = true :=
  ⟨sample_domain, by decide +kernel⟩
example : ∀ ch ∈ " \t".toList, (trimSet seqDflt.dec).contains ch = true := by decide +kernel
example : ∃ m outL,
      newMapXmlSeq seqDflt SeqSample.S0 (flatten SeqSample.tree) .eof = .ok (.doc (.map m))
      ∧ mapSeqXmlIndent seqDflt true false " ".toList "\t".toList m
          = .ok (renderLKids true false outL)
      ∧ LNode.stripKids outL = [qualify seqDflt (normalize SeqSample.tree)]
      ∧ newMapXmlSeq seqDflt SeqSample.S0
          (flattenKids (mergeKids (unqualifyKids (LNode.toNodes outL)))) .eof
        = .ok (.doc (.map m)) := by
  obtain ⟨m, outL, h1, h2, h3, h4⟩ := C04_indent_roundtrip_bytes SeqSample.S0 .eof .eof true false
    " ".toList "\t".toList [] [] (by simp) [] "r".toList _ _ sample_domain
  exact ⟨m, outL, (by rw [List.nil_append, List.append_nil] at h1; exact h1), h2, h3,
    h4 (by decide +kernel) (by decide +kernel) (by decide +kernel)⟩

/-! ### (3) error / panic parity -/

/-- the worker, in either mode, fails exactly as `seqEnc` does — same outcome
    class (`ok` / error kind / panic site) for every value, key, fuel and `pretty` state -/
theorem C04_indent_parity_worker (c : SeqCfg) (esc ge di : Bool) (f : Nat) (p : Pretty)
    (key : Str) (v : Val) :
    (seqEncP c esc ge di f p key v).mapOk (fun _ => ())
      = (seqEnc c esc ge f key v).mapOk (fun _ => ()) :=
  encP_parity c esc ge di f p key v

/-- `msv.XmlIndent(prefix, indent)` fails / panics exactly when `msv.Xml()` does, whenever both
    choose the same root (`seqRootAgree`: not a single entry holding a list of maps) -/
theorem C04_indent_parity (c : SeqCfg) (esc ge : Bool) (pfx ind : Str) (m : Entries)
    (hr : seqRootAgree m = true) :
    (mapSeqXmlIndent c esc ge pfx ind m).mapOk (fun _ => ())
      = (mapSeqXml c esc ge m).mapOk (fun _ => ()) := by
  rw [mapSeqXml_rootI c esc ge m hr, C04_indent_bytes, Outcome.mapOk_mapOk]
  exact encP_parity c esc ge true _ _ _ _

/- `seqRootAgree` is forced for parity as well: with a list of maps at the root the two encoders
   visit the members in different orders (list order against `#seq` order), so they can stop at
   different members — here `Xml()` returns the attribute error of the first member,
   `XmlIndent()` panics in the second one (`#seq` 0) first. -/

example : seqRootAgree SeqISample.twoRoots = false := by decide +kernel
example : mapSeqXml seqDflt false false SeqISample.twoRoots = .err .other := by
  simp only [mapSeqXml, seqEnc_eq _ _ _ _ ()]
  decide +kernel
example : mapSeqXmlIndent seqDflt false false [] [] SeqISample.twoRoots
    = .panic "comment text is not a string" := by
  simp only [mapSeqXmlIndent, mapSeqXmlIndentP, seqEncP_eq]
  decide +kernel

/-- spelled out: success, each error, each panic -/
theorem C04_indent_parity_iff (c : SeqCfg) (esc ge : Bool) (pfx ind : Str) (m : Entries)
    (hr : seqRootAgree m = true) :
    ((∃ s, mapSeqXmlIndent c esc ge pfx ind m = .ok s) ↔ (∃ s, mapSeqXml c esc ge m = .ok s))
    ∧ (∀ k, mapSeqXmlIndent c esc ge pfx ind m = .err k ↔ mapSeqXml c esc ge m = .err k)
    ∧ (∀ site, mapSeqXmlIndent c esc ge pfx ind m = .panic site
        ↔ mapSeqXml c esc ge m = .panic site) := by
  have h := C04_indent_parity c esc ge pfx ind m hr
  generalize mapSeqXmlIndent c esc ge pfx ind m = x at h ⊢
  generalize mapSeqXml c esc ge m = y at h ⊢
  -- the image under `mapOk` keeps the kind of the outcome and the argument of `.err` / `.panic`:
  -- `cases h` refutes the pairs of different kinds and identifies the arguments in the others
  cases x <;> cases y <;> cases h
  all_goals simp

/-- every in-domain decoded document: `XmlIndent` succeeds (as `Xml` does) -/
theorem C04_indent_succeeds (S : Strconv) (esc ge : Bool) (pfx ind : Str) (sp name : Str)
    (attrs : List Attr) (kids : List Node) (hd : SeqDomain (.elem sp name attrs kids) = true) :
    ∃ s, mapSeqXmlIndent seqDflt esc ge pfx ind
      [(qualName seqDflt sp name, SeqFold.value seqDflt S (.elem sp name attrs kids))] = .ok s := by
  obtain ⟨outL, _, h1, _⟩ := mapSeqXmlIndent_roundtrip seqDflt S cfgOk_dflt esc ge pfx ind hd
  exact ⟨_, h1⟩

end Mxj.C04
