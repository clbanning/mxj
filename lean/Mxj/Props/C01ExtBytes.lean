/-
  Mxj.Props.C01ExtBytes — property C01 at BYTE level: for documents written with varied surface
  syntax, tokenizing the bytes with the tokenizer model (`Mxj.Tokz.tokenize`, compared with
  `encoding/xml` by the harness op `xtok`) and decoding with `newMapXml` yields the Map the
  documented conventions prescribe.

  Surface grammar (`Model/Surface.lean`, `Surf.SNode` / `renderS` / `toNode`): every text node is
  written either as a run of raw character data — any mixture of literal characters (quote
  characters included), predefined entities and decimal / hexadecimal numeric character
  references that `unesc` expands to the value — or as a CDATA section; every attribute value in
  EITHER QUOTE STYLE, raw in the same sense, with optional white space before the name and
  around `=`; optional white space before the `>` / `/>` of start tags and the `>` of end tags;
  an element without children as `<a/>` or as `<a></a>`; comments between nodes.

  A CDATA section directly beside raw text (or another CDATA section) is tokenized piece by piece
  (`toNode` then has adjacent text nodes, one per piece, exactly the CharData tokens
  `encoding/xml` delivers); `C01_bytes_decode_conventions` needs `noAdjText` as
  `C01_decode_conventions` does; `C01_bytes_decode_conventions_mixed` lifts this by the
  split-insensitivity lemma (`Lemmas/SurfaceSplit.lean`; the decoder concatenates consecutive
  CharData: F-CDATA-SPLIT).  Not covered: processing instructions between nodes of
  the surface tree (in prolog and trailer they are covered: `pre` / `post` are arbitrary
  tokenizable bytes); name-space prefixes (`toNode` yields empty name spaces, as C02's
  `WellNamed`); `\r` (the tokenizer rewrites it); a literal `>` in raw text or values (write
  `&gt;` or CDATA).
-/
import Mxj.Lemmas.Surface
import Mxj.Lemmas.SurfaceSplit
import Mxj.Lemmas.TokenizerCatGen
import Mxj.Props.C01
namespace Mxj.C01
open Mxj Mxj.Dec Mxj.Tokz Mxj.Surf

/-- tokenizing the surface rendering of a well-formed surface tree gives the token stream of the
    source tree it denotes: one CharData token per raw run and per CDATA section -/
theorem C01_bytes_tokenize (n : SNode) (hok : surfOk n = true) :
    tokenize (renderS n) = some (flatten (toNode n)) := by
  simpa using tok_node n hok [] [] rfl (fun _ => rfl)

/-- … followed by any tokenizable `rest` (beginning with `<`, or empty, if `n` is a raw run): the
    tokens of `n`, then those of `rest` -/
theorem C01_bytes_tokenize_cont (n : SNode) (hok : surfOk n = true) (rest : Str) (us : List Tok)
    (hr : tokenize rest = some us) (hj : isRaw n = true → startsLt rest = true) :
    tokenize (renderS n ++ rest) = some (flatten (toNode n) ++ us) :=
  tok_node n hok rest us hr hj

/-- a CDATA section is one CharData token holding the content verbatim -/
theorem C01_bytes_cdata_token (s rest : Str) (hc : hasCDEnd s = false) (hx : xmlCharsOk s = true) :
    step (cdOpen ++ (s ++ (cdClose ++ rest))) = some ([Tok.text s], rest) :=
  step_cdata s rest hc hx

/-- white space before the `>` of an end tag is skipped -/
theorem C01_bytes_end_tag_space (name ws rest : Str) (hn : xmlNameOk name = true)
    (hw : allSp ws = true) :
    step ('<' :: '/' :: (name ++ (ws ++ '>' :: rest))) = some ([Tok.stop [] name], rest) :=
  step_stop (nameLex_plain name hn) hw rest

/-- a comment is one Comment token (which the decoder skips) -/
theorem C01_bytes_comment_token (s rest : Str) (hc : cmtOk s = true) :
    step ('<' :: '!' :: '-' :: '-' :: (s ++ ('-' :: '-' :: '>' :: rest)))
      = some ([Tok.comment s], rest) :=
  step_comment s rest (cmtOk_eq_commentOk s ▸ hc)

/-- one attribute, either quote style, white space around `=`: name and expanded value -/
theorem C01_bytes_attr_either_quote (name raw val : Str) (single : Bool) (w2 w3 tl : Str)
    (hn : xmlNameOk name = true) (hw2 : allSp w2 = true) (hw3 : allSp w3 = true)
    (hr : rawOk (quoteOf single) raw = true) (hu : unesc raw = some val)
    (hv : xmlCharsOk val = true) :
    lexAttr (name ++ (w2 ++ ('=' :: (w3 ++ (quoteOf single :: (raw ++ (quoteOf single :: tl)))))))
      = some (⟨[], name, val⟩, tl) :=
  lexAttr_written (nameLex_plain name hn) hw2 hw3 (quoteOf_cases single)
    (fun _ hx => (rawOk_mem hr hx).2.2.2) (lexChars_rawOk hr hu hv) tl

/-- a start tag / an empty-element tag with any number of surface attributes and white space
    before its end: one StartElement (and EndElement) with the expanded attribute values -/
theorem C01_bytes_start_tag (name : Str) (as : List SAttr) (wt : Str) (e : Bool) (rest : Str)
    (hn : xmlNameOk name = true) (has : as.all sattrOk = true) (hwt : allSp wt = true) :
    step ('<' :: (name ++ (renderSAttrs as ++ (wt ++ (tagEnd e ++ rest)))))
      = some (if e then [Tok.start [] name (valsOf as), Tok.stop [] name]
              else [Tok.start [] name (valsOf as)], rest) :=
  step_start (nameLex_plain name hn) (attrsLex_surf as has) hwt e rest

/-- a whole document: any tokenizable prolog `pre` (XML declaration, comments, white space, BOM
    text …), the root element, any tokenizable trailer `post` -/
theorem C01_bytes_tokenize_doc (pre post : Str) (ps qs : List Tok)
    (hpre : tokenize pre = some ps) (hpost : tokenize post = some qs)
    (n : SNode) (hroot : isElemS n = true) (hok : surfOk n = true) :
    tokenize (pre ++ renderS n ++ post) = some (ps ++ flatten (toNode n) ++ qs) := by
  have h1 := tok_node n hok post qs hpost (by simp [isRaw_of_elemS hroot])
  have h2 := tokenize_append pre (renderS n ++ post) ps _ hpre h1
    (by simp [junctionOk, startsLt_elemS n post hroot])
  simpa [List.append_assoc] using h2

/-- bytes → tokens → the first decoder call = the tree fold, for every configuration and every
    tokenizable continuation -/
theorem C01_bytes_stream_refines_tree (cfg : DecCfg) (S : Strconv) (fin : StreamEnd)
    (n : SNode) (hroot : isElemS n = true) (hok : surfOk n = true)
    (rest : Str) (us : List Tok) (hr : tokenize rest = some us) :
    ∃ ts, tokenize (renderS n ++ rest) = some ts ∧
      ∃ f0, ∀ f, f0 ≤ f → decodeTop cfg S fin f ts = .ok (Fold.doc cfg S (toNode n), us) := by
  refine ⟨_, tok_node n hok rest us hr (by simp [isRaw_of_elemS hroot]), ?_⟩
  obtain ⟨name, vals, kids, he⟩ := toNode_elemS n hroot
  rw [he]
  exact C01_stream_refines_tree cfg S fin [] name vals kids us

/-- bytes → `newMapXml` = `Fold.doc` of the source tree: every surface tree, every configuration -/
theorem C01_bytes_newMapXml_tree (cfg : DecCfg) (S : Strconv) (fin : StreamEnd)
    (pre post : Str) (ps qs : List Tok)
    (hpre : tokenize pre = some ps) (hpost : tokenize post = some qs)
    (hps : ∀ t ∈ ps, ¬ isStart t)
    (n : SNode) (hroot : isElemS n = true) (hok : surfOk n = true) :
    ∃ ts, tokenize (pre ++ renderS n ++ post) = some ts
      ∧ newMapXml cfg S ts fin = .ok (Fold.doc cfg S (toNode n)) := by
  refine ⟨_, C01_bytes_tokenize_doc pre post ps qs hpre hpost n hroot hok, ?_⟩
  obtain ⟨name, vals, kids, he⟩ := toNode_elemS n hroot
  rw [he]
  exact C01_newMapXml_tree cfg S fin ps qs hps [] name vals kids

/-- HEADLINE: for every in-domain source tree and every way of writing it that the surface
    grammar offers, decoding the BYTES (tokenize, then `newMapXml`) yields the Map the
    conventions prescribe — under every combination of decoder options -/
theorem C01_bytes_decode_conventions (cfg : DecCfg) (S : Strconv) (fin : StreamEnd)
    (pre post : Str) (ps qs : List Tok)
    (hpre : tokenize pre = some ps) (hpost : tokenize post = some qs)
    (hps : ∀ t ∈ ps, ¬ isStart t)
    (n : SNode) (hroot : isElemS n = true) (hok : surfOk n = true)
    (hd : Conv.inDomain cfg S (toNode n) = true) (hn : noAdjText (toNode n) = true) :
    ∃ ts v, tokenize (pre ++ renderS n ++ post) = some ts
      ∧ newMapXml cfg S ts fin = .ok v
      ∧ v ≈ᵥ Conv.doc cfg S (toNode n) := by
  obtain ⟨ts, h1, h2⟩ := C01_bytes_newMapXml_tree cfg S fin pre post ps qs hpre hpost hps n hroot hok
  exact ⟨ts, _, h1, h2, doc_equiv cfg S _ (fold_equiv_conv cfg S _ hd hn)⟩

/-- … the root key explicit -/
theorem C01_bytes_decode_one_root (cfg : DecCfg) (S : Strconv) (fin : StreamEnd)
    (pre post : Str) (ps qs : List Tok)
    (hpre : tokenize pre = some ps) (hpost : tokenize post = some qs)
    (hps : ∀ t ∈ ps, ¬ isStart t)
    (name : Str) (attrs : List SAttr) (wt ws : Str) (kids : List SNode)
    (hok : surfOk (.elem name attrs wt ws kids) = true)
    (hd : Conv.inDomain cfg S (toNode (.elem name attrs wt ws kids)) = true)
    (hn : noAdjText (toNode (.elem name attrs wt ws kids)) = true) :
    ∃ ts x, tokenize (pre ++ renderS (.elem name attrs wt ws kids) ++ post) = some ts
      ∧ newMapXml cfg S ts fin = .ok (.map [(elemKey cfg S name, x)])
      ∧ x ≈ᵥ Conv.value cfg S (toNode (.elem name attrs wt ws kids)) := by
  obtain ⟨ts, h1, h2⟩ := C01_bytes_newMapXml_tree cfg S fin pre post ps qs hpre hpost hps _ rfl hok
  exact ⟨ts, _, h1, h2, fold_equiv_conv cfg S _ hd hn⟩

/-- the surface choice does not matter: two surface trees that denote the same source tree
    decode (from their bytes) to the same Map -/
theorem C01_bytes_surface_irrelevant (cfg : DecCfg) (S : Strconv) (fin : StreamEnd)
    (n m : SNode) (hn : surfOk n = true) (hm : surfOk m = true) (he : toNode n = toNode m) :
    ∃ ts us, tokenize (renderS n) = some ts ∧ tokenize (renderS m) = some us
      ∧ newMapXml cfg S ts fin = newMapXml cfg S us fin := by
  refine ⟨_, _, C01_bytes_tokenize n hn, C01_bytes_tokenize m hm, ?_⟩
  rw [he]

/-- in particular a text node written as a CDATA section or as escaped text -/
theorem C01_bytes_cdata_same_as_text (cfg : DecCfg) (S : Strconv) (fin : StreamEnd)
    (name s raw : Str) (hn : xmlNameOk name = true)
    (hs : surfOk (.cdata s) = true) (hr : surfOk (.text raw s) = true) :
    ∃ ts us, tokenize (renderS (.elem name [] [] [] [.cdata s])) = some ts
      ∧ tokenize (renderS (.elem name [] [] [] [.text raw s])) = some us
      ∧ newMapXml cfg S ts fin = newMapXml cfg S us fin := by
  have hk : ∀ k, surfOk k = true → surfOk (.elem name [] [] [] [k]) = true := fun k hk => by
    simp [surfOk, surfOkKids, hn, hk, allSp, nextNotRaw]
  exact C01_bytes_surface_irrelevant cfg S fin _ _ (hk _ hs) (hk _ hr) rfl

/-- the decoder's fold is insensitive to how a run of character data is split into directly
    adjacent text nodes (raw pieces, CDATA sections): every tree, every configuration -/
theorem C01_bytes_run_split_irrelevant (cfg : DecCfg) (S : Strconv) (t : Node) :
    Fold.value cfg S (mergeN t) = Fold.value cfg S t :=
  value_mergeN cfg S t

/-- … one step of it: two adjacent text nodes are one text node -/
theorem C01_bytes_two_pieces_one_run (cfg : DecCfg) (S : Strconv) (sp name : Str)
    (attrs : List Attr) (a b : Str) (rest : List Node) :
    Fold.value cfg S (.elem sp name attrs (.text a :: .text b :: rest))
      = Fold.value cfg S (.elem sp name attrs (.text (a ++ b) :: rest)) := by
  simp only [Fold.value, kids'_text_text]

/-- the tree with its runs concatenated has no two adjacent text nodes -/
theorem C01_bytes_merged_no_adjacent (t : Node) : noAdjText (mergeN t) = true :=
  noAdj_mergeN t

/-- HEADLINE for mixed runs: every surface tree (text written as ANY sequence of raw runs and
    CDATA sections), every decoder configuration: if the source tree with each run concatenated
    is in C01's domain, decoding the bytes yields the conventions' Map of that tree -/
theorem C01_bytes_decode_conventions_mixed (cfg : DecCfg) (S : Strconv) (fin : StreamEnd)
    (pre post : Str) (ps qs : List Tok)
    (hpre : tokenize pre = some ps) (hpost : tokenize post = some qs)
    (hps : ∀ t ∈ ps, ¬ isStart t)
    (n : SNode) (hroot : isElemS n = true) (hok : surfOk n = true)
    (hd : Conv.inDomain cfg S (mergeN (toNode n)) = true) :
    ∃ ts v, tokenize (pre ++ renderS n ++ post) = some ts
      ∧ newMapXml cfg S ts fin = .ok v
      ∧ v ≈ᵥ Conv.doc cfg S (mergeN (toNode n)) := by
  obtain ⟨ts, h1, h2⟩ := C01_bytes_newMapXml_tree cfg S fin pre post ps qs hpre hpost hps n hroot hok
  refine ⟨ts, _, h1, h2, ?_⟩
  rw [← doc_mergeN]
  exact doc_equiv cfg S _ (fold_equiv_conv cfg S _ hd (noAdj_mergeN _))

/-! ### non-vacuity, and witnesses that the hypotheses are needed -/

/-- `<r id = '&#49;"'␣><a␣␣x="1">t&#x31;"</a >` LF `<b><!--n - m--><c><![CDATA[d<&>p]]></c></b><a␣/> hel&#108;o &amp; </r >`:
    a single-quoted attribute value holding a `"` and a numeric reference, white space around
    `=` and inside tags, a numeric reference and a literal quote in text, a comment, a CDATA
    section with markup characters, both empty-element forms -/
def surfSample : SNode :=
  .elem "r".toList [{ name := "id".toList, raw := "&#49;\"".toList, val := "1\"".toList, single := true,
                      w2 := " ".toList, w3 := " ".toList }] " ".toList " ".toList
    [ .elem "a".toList [{ name := "x".toList, raw := "1".toList, val := "1".toList, w1 := " ".toList }] [] " ".toList
        [.text "t&#x31;\"".toList "t1\"".toList],
      .text "\n".toList "\n".toList,
      .elem "b".toList [] [] [] [.comment "n - m".toList, .elem "c".toList [] [] [] [.cdata "d<&>p".toList]],
      .empty "a".toList [] " ".toList,
      .text " hel&#108;o &amp; ".toList " hello & ".toList ]

example : renderS surfSample
    = "<r id = '&#49;\"' ><a  x=\"1\">t&#x31;\"</a >\n<b><!--n - m--><c><![CDATA[d<&>p]]></c></b><a /> hel&#108;o &amp; </r >".toList := by
  repeat rw [String.toList_ofList]
  decide +kernel
theorem surfSample_ok : surfOk surfSample = true := by decide +kernel
example : surfOk surfSample = true := surfSample_ok
example : isElemS surfSample = true := rfl
example : Conv.inDomain {} S0 (toNode surfSample) = true := by decide +kernel
example : noAdjText (toNode surfSample) = true := by decide +kernel
example : tokenize ("<?xml version=\"1.0\"?>\n<!--c-->".toList)
    = some [.procinst "xml".toList "version=\"1.0\"".toList, .text "\n".toList, .comment "c".toList] := by
  repeat rw [String.toList_ofList]
  decide +kernel

/-- the bytes decode to `{"r": {"-id":"1\"", "a":[{"-x":"1","#text":"t1\""}, ""], "b":{"c":"d<&>p"},
    "#text":"hello &"}}` -/
example : (tokenize (renderS surfSample)).map (fun ts => newMapXml {} S0 ts .eof)
    = some (.ok (.map [("r".toList, .map [
          ("-id".toList, .str "1\"".toList),
          ("a".toList, .list [.map [("-x".toList, .str "1".toList), ("#text".toList, .str "t1\"".toList)],
                              .str []]),
          ("b".toList, .map [("c".toList, .str "d<&>p".toList)]),
          ("#text".toList, .str "hello &".toList)])])) := by
  rw [C01_bytes_tokenize surfSample surfSample_ok]
  decide +kernel

/-- a CDATA section beside raw text: tokenized piece by piece (two CharData tokens) -/
example : surfOk (.elem "c".toList [] [] [] [.text "-".toList "-".toList, .cdata "5".toList]) = true := by
  decide +kernel
example : tokenize "<c>-<![CDATA[5]]></c>".toList
    = some [.start [] "c".toList [], .text "-".toList, .text "5".toList, .stop [] "c".toList] := by
  repeat rw [String.toList_ofList]
  decide +kernel

/-- `surfOk` is needed: two raw runs side by side are ONE token … -/
example : tokenize (renderS (.elem "a".toList [] [] [] [.text "x".toList "x".toList, .text "y".toList "y".toList]))
    ≠ some (flatten (toNode (.elem "a".toList [] [] [] [.text "x".toList "x".toList, .text "y".toList "y".toList]))) := by
  decide +kernel
/-- … `]]>` inside a CDATA section ends it early … -/
example : tokenize (renderS (.elem "a".toList [] [] [] [.cdata "x]]>y".toList]))
    ≠ some (flatten (toNode (.elem "a".toList [] [] [] [.cdata "x]]>y".toList]))) := by
  decide +kernel
/-- … a raw value that is not what `unesc` makes of the written text is not what comes back … -/
example : tokenize (renderS (.elem "a".toList [] [] [] [.text "&#65;".toList "B".toList]))
    ≠ some (flatten (toNode (.elem "a".toList [] [] [] [.text "&#65;".toList "B".toList]))) := by
  decide +kernel
/-- … the quote character inside a value written in that quote style ends the value early … -/
example : tokenize (renderS (.empty "a".toList [{ name := "k".toList, raw := "x'y".toList, val := "x'y".toList, single := true }] []))
    = none := by decide +kernel
/-- … (the other style is fine) … -/
example : surfOk (.empty "a".toList [{ name := "k".toList, raw := "x'y".toList, val := "x'y".toList }] []) = true := by
  decide +kernel
/-- … `--` inside a comment is a syntax error … -/
example : tokenize (renderS (.elem "a".toList [] [] [] [.comment "x--y".toList])) = none := by
  decide +kernel
/-- … and something other than white space before the `>` of an end tag is a syntax error. -/
example : tokenize (renderS (.elem "a".toList [] [] "/".toList [])) = none := by decide +kernel

/-- mixed runs: `<c k="1">-<![CDATA[5]]><![CDATA[ ]]>&#54;<a/></c>` is well-formed, its merged source
    tree `<c k="1">-5 6<a/></c>` is in the domain (the unmerged one has adjacent text nodes) -/
def mixedSample : SNode :=
  .elem "c".toList [{ name := "k".toList, raw := "1".toList, val := "1".toList }] [] []
    [.text "-".toList "-".toList, .cdata "5".toList, .cdata " ".toList, .text "&#54;".toList "6".toList,
     .empty "a".toList [] []]
theorem mixedSample_ok : surfOk mixedSample = true := by decide +kernel
example : surfOk mixedSample = true := mixedSample_ok
example : noAdjText (toNode mixedSample) = false := by decide +kernel
example : mergeN (toNode mixedSample)
    = .elem [] "c".toList [⟨[], "k".toList, "1".toList⟩] [.text "-5 6".toList, .elem [] "a".toList [] []] := by
  decide +kernel
example : Conv.inDomain {} S0 (mergeN (toNode mixedSample)) = true := by decide +kernel
example : (tokenize (renderS mixedSample)).map (fun ts => newMapXml {} S0 ts .eof)
    = some (.ok (.map [("c".toList, .map [("-k".toList, .str "1".toList), ("#text".toList, .str "-5 6".toList),
        ("a".toList, .str [])])])) := by
  rw [C01_bytes_tokenize mixedSample mixedSample_ok]
  decide +kernel

end Mxj.C01
