/-
  "Encoders are deterministic", carried over to the INDENTED encoders `Map.XmlIndent` (model
  `mapXmlIndent`, Mxj.Model.EncodeIndent) and `MapSeq.XmlIndent` (model `mapSeqXmlIndent`,
  Mxj.Model.SeqIndent).  For `Map.XmlIndent` without hypothesis: the worker runs on the
  normalised value and the root selection does not look at the entry order.  For
  `MapSeq.XmlIndent` under `GoodAt` (distinct keys and distinct `#seq` numbers at every element,
  which is what makes Go's `sort.Sort(elemListSeq)` order-independent), about the BYTES, for
  every `pretty` state and either mode of the worker.
-/
import Mxj.Lemmas.IndentCor
import Mxj.Props.C16
import Mxj.Props.C04
import Mxj.Props.C02ExtIndent
namespace Mxj.C16
open Mxj Mxj.Enc

/-- equal Maps however built (any entry order at any depth) give byte-identical INDENTED XML:
    same bytes on success, same error on failure; every prefix, indent and root tag -/
theorem C16_indent_perm_invariant (cfg : EncCfg) (pfx indent : Str) (m m' : Entries)
    (rt : Option Str) (h : Val.map m ≈ᵥ Val.map m') :
    mapXmlIndent cfg pfx indent m rt = mapXmlIndent cfg pfx indent m' rt := by
  obtain ⟨h1, h2⟩ := mapXmlIndentRoot_equiv m m' rt h
  unfold mapXmlIndent
  simp only [h1, h2]

/-- … in particular when the two entry lists are permutations of each other (distinct keys) -/
theorem C16_indent_perm_invariant' (cfg : EncCfg) (pfx indent : Str) (m m' : Entries)
    (rt : Option Str) (hp : List.Perm m m') (hd : distinctKeys m = true) :
    mapXmlIndent cfg pfx indent m rt = mapXmlIndent cfg pfx indent m' rt :=
  C16_indent_perm_invariant cfg pfx indent m m' rt (equiv_map_of_perm hp hd)

/-- … and for the same Map built in any entry order at any depth (`PermEq`) -/
theorem C16_indent_permEq_invariant (cfg : EncCfg) (pfx indent : Str) (m m' : Entries)
    (rt : Option Str) (hwf : (Val.map m).wf = true) (h : PermEq (.map m) (.map m')) :
    mapXmlIndent cfg pfx indent m rt = mapXmlIndent cfg pfx indent m' rt :=
  C16_indent_perm_invariant cfg pfx indent m m' rt (C16_permEq_equiv _ _ hwf h)

/-- the worker: `marshalMapToXmlIndent(true, …)` is run on the normalised value, so `≈ᵥ` values
    give the same bytes under every key, in every `pretty` state -/
theorem C16_indent_marshalI_invariant (cfg : EncCfg) (indent : Str) (p : Enc.Pretty) (key : Str)
    (v w : Val) (h : v ≈ᵥ w) :
    marshalI cfg indent p key v.norm = marshalI cfg indent p key w.norm :=
  congrArg (marshalI cfg indent p key) h

/-- the root `XmlIndent` picks does not depend on the entry order either -/
theorem C16_indent_root_invariant (m m' : Entries) (rt : Option Str)
    (h : Val.map m ≈ᵥ Val.map m') :
    (mapXmlIndentRoot m rt).1 = (mapXmlIndentRoot m' rt).1
      ∧ (mapXmlIndentRoot m rt).2 ≈ᵥ (mapXmlIndentRoot m' rt).2 :=
  mapXmlIndentRoot_equiv m m' rt h

/-- the indented and the compact encoder agree on WHEN they fail, so the error case of
    `C16_indent_perm_invariant` is the error case of `C16_perm_invariant` -/
theorem C16_indent_error_invariant (cfg : EncCfg) (pfx indent pfx' indent' : Str) (m m' : Entries)
    (rt : Option Str) (h : Val.map m ≈ᵥ Val.map m') (e : ErrKind)
    (he : mapXmlIndent cfg pfx indent m rt = .error e) :
    mapXmlIndent cfg pfx' indent' m' rt = .error e := by
  -- `m'` fails as `m` does; and by which error does not depend on prefix and indent
  rw [C16_indent_perm_invariant cfg pfx indent m m' rt h, C02.C02_indent_error_iff] at he
  rwa [C02.C02_indent_error_iff]

/-- the C16 sample: entries swapped at the root AND inside the nested map -/
example :
    let a : Entries := [("b".toList, .num "i:2".toList),
                        ("a".toList, .map [("y".toList, .null), ("x".toList, .bool true)])]
    let b : Entries := [("a".toList, .map [("x".toList, .bool true), ("y".toList, .null)]),
                        ("b".toList, .num "i:2".toList)]
    Val.map a ≈ᵥ Val.map b
      ∧ mapXmlIndent {} " ".toList "  ".toList a (some "r".toList)
          = .ok " <r>\n   <a>\n     <x>true</x>\n     <y/>\n   </a>\n   <b>2</b>\n </r>".toList
      ∧ mapXmlIndent {} " ".toList "  ".toList b (some "r".toList)
          = .ok " <r>\n   <a>\n     <x>true</x>\n     <y/>\n   </a>\n   <b>2</b>\n </r>".toList := by
  -- the kernel unfolds `String.toList` of a literal through the UTF-8 decoding of its bytes, at a
  -- cost quadratic in its length: a long literal is first turned into its list of characters
  repeat rw [String.toList_ofList]
  decide +kernel

/-- the C02ExtIndent sample with the entries of `r` reversed -/
example :
    Val.map C02.indentMap ≈ᵥ Val.map
      [("r".toList, .map [("g".toList, .null), ("e".toList, .map [("f".toList, .num "f:1.5".toList)]),
        ("b".toList, .list [.str "c".toList, .str "d".toList]),
        ("#text".toList, .str "hello".toList), ("-k".toList, .str "v".toList)])] := by
  decide +kernel

/-- the error case: an attribute whose value is a list, behind / before another entry -/
example :
    mapXmlIndent {} [] "  ".toList
        [("r".toList, .map [("-k".toList, .list []), ("a".toList, .null)])] none = .error .other
    ∧ mapXmlIndent {} [] "  ".toList
        [("r".toList, .map [("a".toList, .null), ("-k".toList, .list [])])] none = .error .other :=
  ⟨by decide +kernel, by decide +kernel⟩

/-- list order is NOT map-entry order: `≈ᵥ` does not identify lists with their members
    permuted, and the bytes differ -/
example :
    ¬ (Val.map [("a".toList, .list [.str "x".toList, .str "y".toList])]
        ≈ᵥ Val.map [("a".toList, .list [.str "y".toList, .str "x".toList])]) := by decide +kernel

section Seq
open Mxj.SeqL Mxj.SeqIL

/-- the worker `mapToXmlSeqIndent(doIndent, …)`: both modes, every fuel, key and
    `pretty` state, escaping and empty-element setting — the pieces written for `w` and `v` are
    the same whenever `w` is `v` with the entries of every map, at every level, in some other
    order (`VPerm`), and `v` is `GoodAt` its key (distinct keys and distinct `#seq` numbers at
    every element: the hypothesis of `C04_perm_invariant_all`) -/
theorem C16_indent_seq_worker_invariant (c : SeqCfg) (esc ge di : Bool) (f : Nat) (p : Mxj.Pretty)
    (key : Str) (w v : Val) (h : VPerm w v) (hg : GoodAt c key v) :
    seqEncP c esc ge di f p key w = seqEncP c esc ge di f p key v :=
  seqEncP_vperm c esc ge di f p key w v h hg

/-- `msv.XmlIndent(prefix, indent)`: byte-identical output (same bytes, same error, same panic)
    for MapSeqs that differ only in the order of map entries, at any depth.  `GoodAt` is asked
    of the root `XmlIndent` picks (`seqRootI`: the single entry, or the whole MapSeq under
    `doc`). -/
theorem C16_indent_seq_vperm_invariant (c : SeqCfg) (esc ge : Bool) (pfx ind : Str)
    (m' m : Entries) (h : VPerm (.map m') (.map m))
    (hg : GoodAt c (seqRootI m).1 (seqRootI m).2) :
    mapSeqXmlIndent c esc ge pfx ind m' = mapSeqXmlIndent c esc ge pfx ind m := by
  unfold mapSeqXmlIndent
  rw [mapSeqXmlIndentP_vperm c esc ge pfx ind h hg]

/-- … in particular for a permutation of the top-level entries -/
theorem C16_indent_seq_perm_invariant (c : SeqCfg) (esc ge : Bool) (pfx ind : Str)
    (m' m : Entries) (hp : m'.Perm m) (hg : GoodAt c (seqRootI m).1 (seqRootI m).2) :
    mapSeqXmlIndent c esc ge pfx ind m' = mapSeqXmlIndent c esc ge pfx ind m :=
  C16_indent_seq_vperm_invariant c esc ge pfx ind m' m (VPerm.of_perm hp) hg

/-- a value is its own normal form with the entries in another order: `≈ᵥ` is covered by `VPerm` -/
theorem C16_indent_vperm_norm (v : Val) : VPerm v.norm v := vperm_norm v

/-- the `≈ᵥ` form: equal MapSeqs (any entry order at any depth), both `GoodAt` their root, give
    byte-identical `XmlIndent` output -/
theorem C16_indent_seq_equiv (c : SeqCfg) (esc ge : Bool) (pfx ind : Str) (m m' : Entries)
    (h : Val.map m ≈ᵥ Val.map m')
    (hg : GoodAt c (seqRootI m).1 (seqRootI m).2)
    (hg' : GoodAt c (seqRootI m').1 (seqRootI m').2) :
    mapSeqXmlIndent c esc ge pfx ind m = mapSeqXmlIndent c esc ge pfx ind m' := by
  -- each side is the output for its normal form, and `h` says the two normal forms are equal
  rw [← C16_indent_seq_vperm_invariant c esc ge pfx ind _ m (vperm_norm (.map m)) hg,
    ← C16_indent_seq_vperm_invariant c esc ge pfx ind _ m' (vperm_norm (.map m')) hg',
    Val.map.inj h]

/-- every decoded document qualifies: whatever order Go ranges over the maps of the decoded
    MapSeq in, at every level, `XmlIndent` writes the same bytes -/
theorem C16_indent_seq_decoded (S : Strconv) (esc ge : Bool) (pfx ind : Str) (sp name : Str)
    (attrs : List Attr) (kids : List Node) (hd : SeqDomain (.elem sp name attrs kids) = true)
    (w : Val) (hw : VPerm w (SeqFold.value seqDflt S (.elem sp name attrs kids))) :
    mapSeqXmlIndent seqDflt esc ge pfx ind [(qualName seqDflt sp name, w)]
      = mapSeqXmlIndent seqDflt esc ge pfx ind
          [(qualName seqDflt sp name, SeqFold.value seqDflt S (.elem sp name attrs kids))] := by
  apply C16_indent_seq_vperm_invariant
  · -- the root is not reordered; its one entry keeps its key, and the values are related by `hw`
    exact ⟨_, _, rfl, .refl _, _, [], rfl, hw, rfl⟩
  · rw [seqRootI_single _ (value_not_list ..)]
    exact (good_value seqDflt S cfgOk_dflt _ hd _).1

/-- the same for the COMPACT sequence encoder: `C04_perm_invariant_all` (all levels) is about the
    tree `seqEncTree`, this is about the BYTES of `seqEnc`.  The tree, the pieces and the bytes
    are one theorem, `SeqG.enc_vperm`, at three output algebras.  The two `noteOk` hypotheses (no
    scalar under a comment / directive / processing-instruction key, where `seqEnc` and the Go
    code part ways) are not needed for it. -/
theorem C16_indent_seq_compact_invariant (c : SeqCfg) (esc ge : Bool) (f : Nat) (key : Str)
    (w v : Val) (h : VPerm w v) (hg : GoodAt c key v)
    (hw : noteOk c key w = true) (hv : noteOk c key v = true) :
    seqEnc c esc ge f key w = seqEnc c esc ge f key v :=
  seqEnc_vperm c esc ge f key w v h hg

/-- `<r><a>x</a><b>y</b></r>` as a MapSeq, entries of `r` and of its children in two orders -/
def seqOrdA : Entries :=
  [("r".toList, .map [
     ("b".toList, .map [("#text".toList, .str "y".toList), ("#seq".toList, .num "i:1".toList)]),
     ("a".toList, .map [("#seq".toList, .num "i:0".toList), ("#text".toList, .str "x".toList)]),
     ("#seq".toList, .num "i:0".toList)])]
def seqOrdB : Entries :=
  [("r".toList, .map [("#seq".toList, .num "i:0".toList),
     ("a".toList, .map [("#text".toList, .str "x".toList), ("#seq".toList, .num "i:0".toList)]),
     ("b".toList, .map [("#seq".toList, .num "i:1".toList), ("#text".toList, .str "y".toList)])])]

example : Val.map seqOrdA ≈ᵥ Val.map seqOrdB := by decide +kernel

example :
    mapSeqXmlIndent seqDflt true false " ".toList "\t".toList seqOrdA
      = .ok " <r>\n \t<a>x</a>\n \t<b>y</b>\n </r>".toList
    ∧ mapSeqXmlIndent seqDflt true false " ".toList "\t".toList seqOrdB
      = .ok " <r>\n \t<a>x</a>\n \t<b>y</b>\n </r>".toList := by
  simp only [mapSeqXmlIndent, mapSeqXmlIndentP, seqEncP_eq]
  repeat rw [String.toList_ofList]
  decide +kernel

example : GoodAt seqDflt (seqRootI seqOrdB).1 (seqRootI seqOrdB).2 := by
  simp [seqOrdB, seqRootI, GoodAt, GoodE, GoodAttrs, isNoteKey, keys, seqDflt, lookup, unrollEntries,
    seqOf, digitsVal, isDigit]

example (w : Val) (hw : VPerm w (SeqFold.value seqDflt SeqSample.S0 SeqSample.tree)) :
    mapSeqXmlIndent seqDflt true false " ".toList "\t".toList [("r".toList, w)]
      = mapSeqXmlIndent seqDflt true false " ".toList "\t".toList
          [("r".toList, SeqFold.value seqDflt SeqSample.S0 SeqSample.tree)] :=
  C16_indent_seq_decoded SeqSample.S0 true false _ _ [] "r".toList _ _
    C04.sample_domain w hw

/-- `GoodAt` is forced: two children carrying the SAME `#seq` are written in an order that
    depends on the order in which Go's map range hands them to `sort.Sort` (here: the model's
    insertion sort) — the two entry orders of one and the same Map give different bytes -/
example :
    let m : Entries :=
      [("a".toList, .map [("#seq".toList, .num "i:0".toList), ("#text".toList, .str "x".toList)]),
       ("b".toList, .map [("#seq".toList, .num "i:0".toList), ("#text".toList, .str "y".toList)])]
    Val.map m ≈ᵥ Val.map m.reverse
      ∧ mapSeqXmlIndent seqDflt false false [] "  ".toList m
          = .ok "<doc>\n  <b>y</b>\n  <a>x</a>\n</doc>".toList
      ∧ mapSeqXmlIndent seqDflt false false [] "  ".toList m.reverse
          = .ok "<doc>\n  <a>x</a>\n  <b>y</b>\n</doc>".toList := by
  simp only [mapSeqXmlIndent, mapSeqXmlIndentP, seqEncP_eq]
  repeat rw [String.toList_ofList]
  decide +kernel

end Seq

end Mxj.C16
