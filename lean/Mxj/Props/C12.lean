/-
  Mxj.Props.C12 — Map.NewMap: for key pairs old:new the returned Map contains at each new
  path exactly the values ValuesForPath(old) yields on the receiver (the single value, or a
  list when several), contains nothing else, skips old paths that yield nothing, and rejects
  malformed pairs with an error.  Exact content is claimed when no new path equals or
  extends another (`incomparable`).

  Model: Mxj.Model.NewMap (storeNew, addNewVal, singleOrList, newKeyPath, newMapLoop, newMap).
  Specification vocabulary (Mxj.Lemmas.NewMap): `getPath` (value at a key path through nested
  maps, Mxj.Model.Mutate), `mkPath`, `clearAlong`, `incomparable`, `pairOf`, `validPair`,
  `malformed`, `contrib`/`contribPaths`, `addAll`.

  All loop theorems hold for an arbitrary `vfp : Str → Except ErrKind (List Val)` standing for
  `mv.ValuesForPath(oldKey)`; the last section instantiates them at the real `newMap`.
-/
import Mxj.Lemmas.NewMap
namespace Mxj.C12
open Mxj Mxj.NM

/-! ### one insertion -/

/-- insertion along a new path that neither equals nor extends (nor is extended by) any path
    already present: the result has the new value at that path and every path incomparable
    with it keeps its value -/
theorem C12_add_fresh (nv : Val) (n : Entries) (p : List Str) (hp : p ≠ [])
    (hclear : clearAlong n p = true) :
    getPath (.map (addNewVal nv n p)) p = some nv ∧
    ∀ q, incomparable p q → getPath (.map (addNewVal nv n p)) q = getPath (.map n) q :=
  ⟨addNewVal_get p n hp hclear, fun q hq => addNewVal_frame p q hq n⟩

/-- the frame part needs no clearness: whatever already sits along `p` (scalars turned into
    lists, lists appended to or descended into), paths incomparable with `p` are untouched -/
theorem C12_add_frame (nv : Val) (n : Entries) (p q : List Str) (h : incomparable p q) :
    getPath (.map (addNewVal nv n p)) q = getPath (.map n) q :=
  addNewVal_frame p q h n

/-- building into a fresh map along a path creates exactly that path -/
theorem C12_add_empty (nv : Val) (p : List Str) : addNewVal nv [] p = mkPath nv p :=
  addNewVal_nil_eq_mkPath p

/-- clearness along the other new paths is preserved by an insertion (the loop invariant) -/
theorem C12_add_keeps_clear (nv : Val) (n : Entries) (p q : List Str)
    (hq : clearAlong n q = true) (h : incomparable p q) :
    clearAlong (addNewVal nv n p) q = true :=
  clearAlong_addNewVal p q h n hq

/-- the path of a non-empty new key is non-empty -/
theorem C12_newKeyPath_ne_nil (nw : Str) (h : nw ≠ []) : newKeyPath nw ≠ [] :=
  newKeyPath_ne_nil nw h

/-! ### the loop -/

section Loop
variable (vfp : Str → Except ErrKind (List Val))

/-- which new paths contribute: those of non-empty pairs `old:new` (or `old` alone, meaning
    `old:old`) whose old path yields at least one value -/
theorem C12_contribPaths_spec (pairs : List Str) (p : List Str) :
    p ∈ contribPaths vfp pairs ↔
      ∃ v ∈ pairs, v ≠ [] ∧ ∃ o nw vs, pairOf v = some (o, nw) ∧ vfp o = .ok vs ∧ vs ≠ [] ∧
        p = newKeyPath nw :=
  mem_contribPaths vfp pairs p

/-- on valid pairs whose old paths all evaluate, the loop cannot fail and is exactly the
    in-order insertion of the contributions, from any accumulator -/
theorem C12_loop_is_fold (pairs : List Str) (n : Entries)
    (hvalid : ∀ v ∈ pairs, v ≠ [] → validPair v = true)
    (hok : ∀ v ∈ pairs, v ≠ [] → ∀ o nw, pairOf v = some (o, nw) → ∃ vs, vfp o = .ok vs) :
    newMapLoop vfp pairs n = (addAll n (contrib vfp pairs), none) :=
  newMapLoop_eq_addAll vfp pairs n hvalid hok

/-- the general form of the content theorem, from an arbitrary accumulator `n` that is clear
    along every contributing new path: no error; every contribution is found at its path;
    every path incomparable with all contributing paths keeps the value it had in `n` -/
theorem C12_content_from (pairs : List Str) (n : Entries)
    (hvalid : ∀ v ∈ pairs, v ≠ [] → validPair v = true)
    (hok : ∀ v ∈ pairs, v ≠ [] → ∀ o nw, pairOf v = some (o, nw) → ∃ vs, vfp o = .ok vs)
    (hinc : List.Pairwise incomparable (contribPaths vfp pairs))
    (hclear : ∀ p ∈ contribPaths vfp pairs, clearAlong n p = true) :
    ∃ result, newMapLoop vfp pairs n = (result, none) ∧
      (∀ v ∈ pairs, v ≠ [] → ∀ o nw vs, pairOf v = some (o, nw) → vfp o = .ok vs → vs ≠ [] →
        getPath (.map result) (newKeyPath nw) = some (singleOrList vs)) ∧
      (∀ q, (∀ p ∈ contribPaths vfp pairs, incomparable p q) →
        getPath (.map result) q = getPath (.map n) q) := by
  refine ⟨addAll n (contrib vfp pairs), newMapLoop_eq_addAll vfp pairs n hvalid hok, ?_, ?_⟩
  · intro v hvm hv o nw vs hp he hvs
    have hmem : (newKeyPath nw, singleOrList vs) ∈ contrib vfp pairs :=
      (mem_contrib vfp pairs _ _).2 ⟨v, hvm, hv, o, nw, vs, hp, he, hvs, rfl, rfl⟩
    refine addAll_get (contrib vfp pairs) n ?_ hinc hclear _ hmem
    intro p hp
    obtain ⟨v', hvm', hv', o', nw', vs', hp', -, -, rfl⟩ := (mem_contribPaths vfp pairs p).1 hp
    exact newKeyPath_ne_nil nw' (validPair_of_pairOf v' o' nw' (hvalid v' hvm' hv') hp').2.1
  · exact fun q hq => addAll_frame q (contrib vfp pairs) n hq

/-- the whole loop started from the empty accumulator: for valid pairs (every non-empty pair
    string satisfies `validPair`, `vfp` returns `.ok` on every old key) whose contributing new
    paths are pairwise incomparable: no error; every contributing pair `old:new` has
    `singleOrList (values of old)` at the path of `new`; and the result contains nothing else —
    every non-empty path incomparable with all contributing new paths is absent -/
theorem C12_content (pairs : List Str)
    (hvalid : ∀ v ∈ pairs, v ≠ [] → validPair v = true)
    (hok : ∀ v ∈ pairs, v ≠ [] → ∀ o nw, pairOf v = some (o, nw) → ∃ vs, vfp o = .ok vs)
    (hinc : List.Pairwise incomparable (contribPaths vfp pairs)) :
    ∃ result, newMapLoop vfp pairs [] = (result, none) ∧
      (∀ v ∈ pairs, v ≠ [] → ∀ o nw vs, pairOf v = some (o, nw) → vfp o = .ok vs → vs ≠ [] →
        getPath (.map result) (newKeyPath nw) = some (singleOrList vs)) ∧
      (∀ q, q ≠ [] → (∀ p ∈ contribPaths vfp pairs, incomparable p q) →
        getPath (.map result) q = none) := by
  obtain ⟨result, hres, hget, hframe⟩ :=
    C12_content_from vfp pairs [] hvalid hok hinc (fun p _ => clearAlong_nil p)
  refine ⟨result, hres, hget, ?_⟩
  intro q hq hall
  rw [hframe q hall]; exact getPath_empty q hq

/-- when nothing contributes (all old paths yield nothing) the result is the empty Map -/
theorem C12_content_none (pairs : List Str)
    (hvalid : ∀ v ∈ pairs, v ≠ [] → validPair v = true)
    (hnone : ∀ v ∈ pairs, v ≠ [] → ∀ o nw, pairOf v = some (o, nw) → vfp o = .ok []) :
    newMapLoop vfp pairs [] = ([], none) := by
  rw [newMapLoop_eq_addAll vfp pairs [] hvalid fun v hvm hv o nw hp => ⟨[], hnone v hvm hv o nw hp⟩]
  have hc : contrib vfp pairs = [] := List.eq_nil_iff_forall_not_mem.2 fun c hm => by
    obtain ⟨v, hvm, hv, o, nw, vs, hp, he, hvs, -, -⟩ := (mem_contrib vfp pairs c.1 c.2).1 hm
    rw [hnone v hvm hv o nw hp] at he
    cases he; exact hvs rfl
  rw [hc]; rfl

/-- an old path yielding [] leaves the accumulator unchanged -/
theorem C12_skips_empty (v : Str) (rest : List Str) (n : Entries) (o nw : Str)
    (hv : v ≠ []) (hp : pairOf v = some (o, nw)) (hval : validPair v = true)
    (he : vfp o = .ok []) :
    newMapLoop vfp (v :: rest) n = newMapLoop vfp rest n := by
  rw [newMapLoop_cons vfp v rest n hv]; simp [hval, hp, he]

/-- … also in the middle of the list: the pair can be dropped -/
theorem C12_skips_empty_mid (pre : List Str) (v : Str) (rest : List Str) (n : Entries)
    (o nw : Str) (hv : v ≠ []) (hp : pairOf v = some (o, nw)) (hval : validPair v = true)
    (he : vfp o = .ok []) :
    newMapLoop vfp (pre ++ v :: rest) n = newMapLoop vfp (pre ++ rest) n := by
  rw [newMapLoop_append, newMapLoop_append]
  cases newMapLoop vfp pre n with
  | mk n' e => cases e <;> simp [C12_skips_empty vfp v rest _ o nw hv hp hval he]

/-- a pair yielding values stores the single value, or the list when several, along the path
    of the new key and continues -/
theorem C12_adds (v : Str) (rest : List Str) (n : Entries) (o nw : Str) (vs : List Val)
    (hv : v ≠ []) (hp : pairOf v = some (o, nw)) (hval : validPair v = true)
    (he : vfp o = .ok vs) (hvs : vs ≠ []) :
    newMapLoop vfp (v :: rest) n =
      newMapLoop vfp rest (addNewVal (singleOrList vs) n (newKeyPath nw)) := by
  rw [newMapLoop_cons vfp v rest n hv]
  cases vs with
  | nil => exact absurd rfl hvs
  | cons x xs => simp [hval, hp, he]

/-- the parser's verdict in words: a pair is invalid exactly when it has more than one ':',
    an empty old or new part, or a new part containing '*' or '[' -/
theorem C12_malformed_iff (v : Str) (hv : v ≠ []) : validPair v = false ↔ malformed v :=
  validPair_false_iff v hv

/-- "more than one ':'" is "more than two parts" -/
theorem C12_colon_count (v : Str) : (splitOn [':'] v).length = v.count ':' + 1 :=
  splitOn_length ':' v

/-- a pair with more than one ':', an empty old or new part, or a new part containing '*' or
    '[' makes the result's error component `some .keypair`; the Map built so far is returned
    and later pairs are not processed -/
theorem C12_rejects_malformed (pre : List Str) (v : Str) (rest : List Str) (n n' : Entries)
    (hpre : newMapLoop vfp pre n = (n', none)) (hv : v ≠ []) (hm : malformed v) :
    newMapLoop vfp (pre ++ v :: rest) n = (n', some .keypair) := by
  rw [newMapLoop_append, hpre]
  exact (newMapLoop_cons vfp v rest n' hv).trans (by simp [(validPair_false_iff v hv).2 hm])

/-- "" pairs are skipped -/
theorem C12_empty_pair_skipped (rest : List Str) (n : Entries) :
    newMapLoop vfp ([] :: rest) n = newMapLoop vfp rest n :=
  newMapLoop_empty_pair vfp rest n

/-- an error from `vfp` is returned with the accumulator so far; later pairs are not
    processed -/
theorem C12_vfp_error (pre : List Str) (v : Str) (rest : List Str) (n n' : Entries)
    (o nw : Str) (e : ErrKind)
    (hpre : newMapLoop vfp pre n = (n', none)) (hv : v ≠ []) (hval : validPair v = true)
    (hp : pairOf v = some (o, nw)) (he : vfp o = .error e) :
    newMapLoop vfp (pre ++ v :: rest) n = (n', some e) := by
  rw [newMapLoop_append, hpre]
  exact (newMapLoop_cons vfp v rest n' hv).trans (by simp [hval, hp, he])

/-- any failure stops the loop: once a prefix has failed, the result is that failure -/
theorem C12_error_stops (pre post : List Str) (n n' : Entries) (e : ErrKind)
    (hpre : newMapLoop vfp pre n = (n', some e)) :
    newMapLoop vfp (pre ++ post) n = (n', some e) := by
  rw [newMapLoop_append, hpre]

end Loop

/-! ### the real `NewMap` -/

/-- `newMap` is the loop run with the receiver's `ValuesForPath` from the empty Map -/
theorem C12_newMap_eq (m : Val) (pairs : List Str) :
    newMap m pairs = newMapLoop (fun p => valuesForPath [':'] (fun _ => none) m p []) pairs [] :=
  rfl

/-- the content theorem at the real `NewMap` -/
theorem C12_newMap_content (m : Val) (pairs : List Str)
    (hvalid : ∀ v ∈ pairs, v ≠ [] → validPair v = true)
    (hok : ∀ v ∈ pairs, v ≠ [] → ∀ o nw, pairOf v = some (o, nw) →
      ∃ vs, valuesForPath [':'] (fun _ => none) m o [] = .ok vs)
    (hinc : List.Pairwise incomparable
      (contribPaths (fun p => valuesForPath [':'] (fun _ => none) m p []) pairs)) :
    ∃ result, newMap m pairs = (result, none) ∧
      (∀ v ∈ pairs, v ≠ [] → ∀ o nw vs, pairOf v = some (o, nw) →
        valuesForPath [':'] (fun _ => none) m o [] = .ok vs → vs ≠ [] →
        getPath (.map result) (newKeyPath nw) = some (singleOrList vs)) ∧
      (∀ q, q ≠ [] →
        (∀ p ∈ contribPaths (fun p => valuesForPath [':'] (fun _ => none) m p []) pairs,
          incomparable p q) →
        getPath (.map result) q = none) :=
  C12_content (fun p => valuesForPath [':'] (fun _ => none) m p []) pairs hvalid hok hinc

/-! ### examples: the hypotheses are satisfiable, and what the model computes -/

/-- `{"a": {"b": "1", "c": [1, 2]}, "d": true}` -/
def exRecv : Val :=
  .map [("a".toList, .map [("b".toList, .str "1".toList),
                           ("c".toList, .list [.num "i:1".toList, .num "i:2".toList])]),
        ("d".toList, .bool true)]

def exPairs : List Str :=
  ["a.b:x.y".toList, [], "a.c:x.z".toList, "d".toList, "nope:q".toList]

/-- single value, list of several, `old` alone meaning `old:old`, "" and a missing old path
    skipped: `{"x": {"y": "1", "z": [1, 2]}, "d": true}` -/
example : newMap exRecv exPairs =
    ([("x".toList, .map [("y".toList, .str "1".toList),
                         ("z".toList, .list [.num "i:1".toList, .num "i:2".toList])]),
      ("d".toList, .bool true)], none) := by decide +kernel

/-- a malformed pair: error `keypair`, the Map built so far, later pairs not processed -/
example : newMap exRecv ["a.b:x.y".toList, "a:b:c".toList, "d".toList] =
    ([("x".toList, .map [("y".toList, .str "1".toList)])], some .keypair) := by decide +kernel

/-- why exact content needs incomparable new paths: "x.y" extends "x", and the value first
    stored at "x" ends up inside a list -/
example : newMap exRecv ["a.b:x".toList, "d:x.y".toList] =
    ([("x".toList, .list [.str "1".toList, .map [("y".toList, .bool true)]])], none) := by
  decide +kernel

/-- the hypotheses of `C12_newMap_content` hold of `exRecv`, `exPairs` -/
example : ∀ v ∈ exPairs, v ≠ [] → validPair v = true := by decide +kernel

example : contribPaths (fun p => valuesForPath [':'] (fun _ => none) exRecv p []) exPairs =
    [["x".toList, "y".toList], ["x".toList, "z".toList], ["d".toList]] := by decide +kernel

example : List.Pairwise incomparable
    [["x".toList, "y".toList], ["x".toList, "z".toList], ["d".toList]] := by decide +kernel

example : incomparable ["x".toList, "y".toList] ["x".toList, "z".toList] := by decide +kernel
example : ¬ incomparable ["x".toList] ["x".toList, "y".toList] := by decide +kernel

example : clearAlong [("x".toList, .map [("y".toList, .str "1".toList)])]
    ["x".toList, "z".toList] = true := by decide +kernel
example : clearAlong [("x".toList, .map [("y".toList, .str "1".toList)])]
    ["x".toList, "y".toList] = false := by decide +kernel

example : pairOf "a.b:x.y".toList = some ("a.b".toList, "x.y".toList) := by decide +kernel
example : pairOf "d".toList = some ("d".toList, "d".toList) := by decide +kernel
example : validPair "a:b:c".toList = false := by decide +kernel
example : malformed "a:b:c".toList := Or.inl (by decide +kernel)
example : malformed "a:x[0]".toList :=
  Or.inr (Or.inl ⟨"a".toList, "x[0]".toList, by decide +kernel, by decide +kernel⟩)
example : malformed ":x".toList := Or.inr (Or.inl ⟨[], "x".toList, by decide +kernel, by decide +kernel⟩)
example : malformed "a.*".toList := Or.inr (Or.inr ⟨"a.*".toList, by decide +kernel, by decide +kernel⟩)
example : newKeyPath "x.y.".toList = ["x".toList, "y".toList] := by decide +kernel

/-- a decidable stand-in for `ValuesForPath` to instantiate the loop theorems completely -/
def exVfp : Str → Except ErrKind (List Val) := fun o =>
  if o = "a.b".toList then .ok [.str "1".toList]
  else if o = "a.c".toList then .ok [.num "i:1".toList, .num "i:2".toList]
  else if o = "d".toList then .ok [.bool true]
  else .ok []

example : ∃ result, newMapLoop exVfp exPairs [] = (result, none) ∧
    getPath (.map result) ["x".toList, "z".toList]
      = some (.list [.num "i:1".toList, .num "i:2".toList]) ∧
    getPath (.map result) ["q".toList] = none := by
  -- every branch of `exVfp` is an `.ok`
  obtain ⟨result, hres, hget, hnone⟩ := C12_content exVfp exPairs (by decide)
    (fun _ _ _ o _ _ => by unfold exVfp; split <;> (try split) <;> (try split) <;> exact ⟨_, rfl⟩)
    (by decide)
  refine ⟨result, hres, ?_, ?_⟩
  · exact hget "a.c:x.z".toList (by decide) (by decide) "a.c".toList "x.z".toList _
      (by decide) rfl (by simp)
  · refine hnone ["q".toList] (by simp) ?_
    have : contribPaths exVfp exPairs =
        [["x".toList, "y".toList], ["x".toList, "z".toList], ["d".toList]] := by decide +kernel
    rw [this]; decide

end Mxj.C12
