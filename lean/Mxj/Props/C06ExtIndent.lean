/-
  Mxj.Props.C06ExtIndent — `Map.JsonIndent` inside the proved part of C06: the indented output
  decodes back to the Map, for both encodings and every white-space prefix / indent.

  Model: `Forms.mapJsonIndent safe pfx ind m` (Mxj.Model.Forms: `encNI`, the structural model of
  what `json.Encoder` with `SetIndent(prefix, indent)` writes — `json.Indent` of the compact
  bytes; `JsonIndent("", "")` is the compact form) beside `Json.newMapJson` / `Json.value`
  (Mxj.Model.Json).  Tie: the driver op `jenci` prints `mapJsonIndent` and what `newMapJson` makes
  of it; harness/c06.go compares both byte for byte / value for value with the real
  `Map.JsonIndent(prefix, indent[, safe])` and `NewMapJson` on generated Maps and layouts, and
  evaluates the property's own statement (valid JSON, decodes to a Map deep-equal to the
  original, compacts to the `Json()` bytes, no raw HTML character in safe mode) on the
  implementation.

  Vocabulary (namespace `Mxj.Json`):
    `WsOnly s`   (Mxj.Lemmas.Json) every character of `s` is JSON white space: ' ', '\t', '\r', '\n'
    `NoHtml s`   (Mxj.Lemmas.Json) none of '<', '>', '&' occurs in `s`
  and from Mxj.Lemmas.Json: `JsonShaped`, `sz`, `numEnd` (see Mxj.Props.C06).

  `newMapJson` enters through `newMapJson_mapJsonIndent` (Mxj.Lemmas.JsonIndent), which rests on
  `Json.newMapJson_spec` only (its value as a function of the first value); the encoded text
  starts with '{', so the '['-branch plays no part.

  Property theorems and non-vacuity examples only.  Not proved here: that deleting the layout
  from the indented bytes gives the compact bytes (checked on the implementation by the harness
  through `json.Compact`); the decoded values are proved equal instead
  (`C06_indent_same_as_compact`).
-/
import Mxj.Lemmas.JsonIndent
import Mxj.Props.C06
namespace Mxj.C06
open Mxj Mxj.Json Mxj.Forms

/-- leading JSON white space is invisible to the value grammar -/
theorem C06_indent_leading_ws (f : Nat) (w s : Str) (hw : WsOnly w = true) :
    value f (w ++ s) = value f s :=
  value_ws hw

/-- decoding the INDENTED encoding of a JSON-shaped value returns the value, at every nesting
    depth `d`, for every white-space prefix and indent, both escaping modes, every fuel from
    `sz w` on (the fuel the compact text needs) and any continuation that cannot extend a
    trailing number literal -/
theorem C06_indent_value (html : Bool) (pfx ind : Str) (d : Nat) (w : Val) (rest : Str) (f : Nat)
    (hp : WsOnly pfx = true) (hi : WsOnly ind = true) (hw : JsonShaped w = true)
    (hrest : ∀ t, w = .num t → numEnd rest = true) (hf : sz w ≤ f) :
    value f (encNI html pfx ind d w ++ rest) = some (w, rest) :=
  rtI_value w html pfx ind d rest f hp hi hw hrest hf

/-- … and the compact text read from the same fuel gives the same value and the same rest -/
theorem C06_indent_value_same_as_compact (html : Bool) (pfx ind : Str) (d : Nat) (w : Val)
    (rest : Str) (f : Nat) (hp : WsOnly pfx = true) (hi : WsOnly ind = true)
    (hw : JsonShaped w = true) (hrest : ∀ t, w = .num t → numEnd rest = true) (hf : sz w ≤ f) :
    value f (encNI html pfx ind d w ++ rest) = value f (encN html w ++ rest) := by
  rw [rtI_value w html pfx ind d rest f hp hi hw hrest hf, rt_value w html rest f hw hrest hf]

/-- the decoder's own fuel (length of the indented text + 1) is always enough -/
theorem C06_indent_firstValue (html : Bool) (pfx ind : Str) (d : Nat) (w : Val)
    (hp : WsOnly pfx = true) (hi : WsOnly ind = true) (hw : JsonShaped w = true) :
    firstValue (encNI html pfx ind d w) = some w := by
  have := firstValue_encL (wsLayout_nlIndent hp hi) html d w hw [] (fun _ _ => rfl)
  rwa [List.append_nil, ← encNI_eq] at this

/-- `NewMapJson (JsonIndent (prefix, indent, safe) m)` is exactly the key-sorted normal form of
    `m`: every JSON-shaped Map, both encodings, every prefix and indent of JSON white space -/
theorem C06_indent_roundtrip_exact (safe : Bool) (pfx ind : Str) (m : Entries)
    (hp : WsOnly pfx = true) (hi : WsOnly ind = true) (hm : JsonShaped (.map m) = true) :
    newMapJson (mapJsonIndent safe pfx ind (.map m)) = some (Val.norm (.map m)) :=
  newMapJson_mapJsonIndent safe pfx ind m hp hi hm

/-- the indented output decodes to the same Map as the compact output -/
theorem C06_indent_same_as_compact (safe : Bool) (pfx ind : Str) (m : Entries)
    (hp : WsOnly pfx = true) (hi : WsOnly ind = true) (hm : JsonShaped (.map m) = true) :
    newMapJson (mapJsonIndent safe pfx ind (.map m)) = newMapJson (mapJson safe (.map m)) := by
  rw [newMapJson_mapJsonIndent safe pfx ind m hp hi hm, C06_roundtrip_exact safe m hm]

/-- hence `NewMapJson (JsonIndent m) = m` up to the order of entries -/
theorem C06_indent_roundtrip (safe : Bool) (pfx ind : Str) (m : Entries)
    (hp : WsOnly pfx = true) (hi : WsOnly ind = true) (hm : JsonShaped (.map m) = true) :
    ∃ r, newMapJson (mapJsonIndent safe pfx ind (.map m)) = some r ∧ r ≈ᵥ .map m :=
  ⟨_, newMapJson_mapJsonIndent safe pfx ind m hp hi hm, Json.norm_idem (.map m) hm⟩

/-- the two escaping modes of `JsonIndent` decode to the same Map -/
theorem C06_indent_modes_agree (pfx ind : Str) (m : Entries)
    (hp : WsOnly pfx = true) (hi : WsOnly ind = true) (hm : JsonShaped (.map m) = true) :
    newMapJson (mapJsonIndent true pfx ind (.map m))
      = newMapJson (mapJsonIndent false pfx ind (.map m)) := by
  rw [newMapJson_mapJsonIndent true pfx ind m hp hi hm,
    newMapJson_mapJsonIndent false pfx ind m hp hi hm]

/-- `JsonIndent("", "", safe)` returns the bytes of `Json(safe)` (the encoder indents only when
    prefix or indent is non-empty) -/
theorem C06_indent_empty_layout_is_compact (safe : Bool) (m : Val) :
    mapJsonIndent safe [] [] m = mapJson safe m := rfl

/-- the safe indented output contains no raw '<', '>', '&' — for every JSON-shaped Map and every
    prefix / indent that has none itself -/
theorem C06_indent_safe_has_no_html_of (pfx ind : Str) (m : Entries) (hp : NoHtml pfx)
    (hi : NoHtml ind) (hm : JsonShaped (.map m) = true) :
    ∀ c ∈ mapJsonIndent true pfx ind (.map m), c ≠ '<' ∧ c ≠ '>' ∧ c ≠ '&' :=
  noHtml_mapJsonIndent pfx ind (.map m) hp hi hm

theorem C06_indent_safe_has_no_html (pfx ind : Str) (m : Entries) (hp : WsOnly pfx = true)
    (hi : WsOnly ind = true) (hm : JsonShaped (.map m) = true) :
    ∀ c ∈ mapJsonIndent true pfx ind (.map m), c ≠ '<' ∧ c ≠ '>' ∧ c ≠ '&' :=
  noHtml_mapJsonIndent pfx ind (.map m) (noHtml_of_wsOnly hp) (noHtml_of_wsOnly hi) hm

/-- the compact safe output has none either (whole Maps, not only string literals) -/
theorem C06_indent_compact_safe_has_no_html (m : Entries) (hm : JsonShaped (.map m) = true) :
    ∀ c ∈ mapJson true (.map m), c ≠ '<' ∧ c ≠ '>' ∧ c ≠ '&' :=
  noHtml_encN _ (jsonShaped_norm _ hm)

/-- `JsonShaped` (well-formed number literals) cannot be dropped there: the model writes a
    number's text as it is -/
example : '<' ∈ mapJsonIndent true [] " ".toList (.map [("a".toList, .num "jn:<".toList)]) := by
  decide +kernel

/-- a prefix that is not white space ("x") makes the output undecodable; so does such an indent;
    and in safe mode a prefix with an HTML character puts it into the output -/
theorem C06_indent_ws_needed_witness :
    newMapJson (mapJsonIndent false "x".toList [] (.map [("a".toList, .null)])) = none ∧
    newMapJson (mapJsonIndent false [] "x".toList (.map [("a".toList, .null)])) = none ∧
    newMapJson (mapJsonIndent false " ".toList "\t".toList (.map [("a".toList, .null)]))
      = some (.map [("a".toList, .null)]) ∧
    '<' ∈ mapJsonIndent true "<".toList [] (.map [("a".toList, .null)]) := by decide +kernel

/-- what the encoder wrote for the first of them -/
example : mapJsonIndent false "x".toList [] (.map [("a".toList, .null)])
    = "{\nx\"a\": null\nx}".toList := by
  -- the kernel unfolds `String.toList` of a literal through the UTF-8 decoding of its bytes, at a
  -- cost quadratic in its length: a long literal is first turned into its list of characters
  repeat rw [String.toList_ofList]
  decide +kernel

/-- with an EMPTY Map the layout is never written, so even that prefix is harmless -/
example : newMapJson (mapJsonIndent false "x".toList "y".toList (.map [])) = some (.map []) := by
  decide +kernel

example : WsOnly " \t".toList = true ∧ WsOnly "\r\n  ".toList = true ∧ WsOnly [] = true
    ∧ WsOnly "x".toList = false ∧ WsOnly [Char.ofNat 0xA0] = false := by decide +kernel

/-- the hostile Map of Mxj.Props.C06 (`exMap`: quotes, backslashes, control and HTML characters,
    U+2028, a non-BMP character, the rewrite witness, numbers, empty and nested containers, keys
    out of order), prefix " ", indent "\t" : the hypotheses hold, the indented text differs from
    the compact one, and it decodes to the normal form — evaluated, not only proved -/
example : JsonShaped (.map exMap) = true ∧ WsOnly " ".toList = true ∧ WsOnly "\t".toList = true := by
  decide +kernel
example : mapJsonIndent false " ".toList "\t".toList (.map exMap) ≠ mapJson false (.map exMap) := by
  decide +kernel
example : newMapJson (mapJsonIndent true " ".toList "\t".toList (.map exMap))
    = some (Val.norm (.map exMap)) := by decide +kernel
example : newMapJson (mapJsonIndent false "\r\n".toList "  ".toList (.map exMap))
    = some (Val.norm (.map exMap)) := by decide +kernel
example : ∃ r, newMapJson (mapJsonIndent false " ".toList "\t".toList (.map exMap)) = some r
    ∧ r ≈ᵥ .map exMap :=
  C06_indent_roundtrip false _ _ exMap (by decide +kernel) (by decide +kernel) (by decide +kernel)

/-- the shape of the text: members on their own lines, `: ` after keys, `{}` / `[]` kept, the
    first line carries no prefix -/
example : mapJsonIndent true "\t".toList "  ".toList
      (.map [("b".toList, .list [.map [], .list [], .num "jn:1".toList]), ("a".toList, .str "<".toList)])
    = ("{\n\t  \"a\": \"\\" ++ "u003c\",\n\t  \"b\": [\n\t    {},\n\t    [],\n\t    1\n\t  ]\n\t}").toList := by
  repeat rw [String.toList_append]
  repeat rw [String.toList_ofList]
  decide +kernel

end Mxj.C06
