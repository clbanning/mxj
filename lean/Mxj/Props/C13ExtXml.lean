/-
  Mxj.Props.C13ExtXml — C13 for XML streams, at token level.

  `NewMapXmlReader` called again and again on one reader, and `HandleXmlReader`, are the loops
  `Files.readMapsXml` / `Files.handleXml` over the token stream of the whole input (each call
  continues with the tokens the previous call left unread; that the bytes are consumed exactly up
  to the root's end tag - the single-byte adaptor of `C13_adaptor_transparent` under the
  tokenizer - is the law TB-XML-stop, sampled by the `xfile` op and the chunked-reader oracle:
  trusted here; Mxj.Props.C13ExtTok proves its tokenizer half for the tokenizer model and says what
  stays trusted).  The statements are those of C19ExtXml, read as statements about streams.
-/
import Mxj.Props.C19ExtXml
namespace Mxj.C13
open Mxj Mxj.Files

/-- documents read one after another from a stream are the Maps of decoding each document on its
    own, in order, followed by io.EOF (`failed = false`), whatever non-element material
    (white space, comments, processing instructions, directives) separates them -/
theorem C13_xml_stream_docs (cfg : DecCfg) (S : Strconv) (docs : List (List Tok × Node))
    (hsep : ∀ d ∈ docs, ∀ t ∈ d.1, ¬ isStart t) (helem : ∀ d ∈ docs, isElem d.2 = true)
    (trail : List Tok) (htrail : ∀ t ∈ trail, ¬ isStart t) (f : Nat) (hf : docs.length < f) :
    ∃ rs, readMapsXml cfg S .eof f (fileToks docs trail) [] = ⟨rs, false⟩ ∧
      rs.length = docs.length ∧
      ∀ (i : Nat) (h1 : i < rs.length) (h2 : i < docs.length) (fin : StreamEnd),
        newMapXml cfg S (flatten docs[i].2) fin = .ok rs[i] :=
  let ⟨rs, h, hl, hi⟩ := C19.C19_xml_file_same_as_single cfg S docs hsep helem trail htrail f hf
  ⟨rs, h, hl, fun i h1 h2 fin => (hi i h1 h2 fin).1⟩

/-- no over-reading: after the first `k` documents the loop continues with exactly the tokens
    that follow them -/
theorem C13_xml_stream_no_overread (cfg : DecCfg) (S : Strconv) (fin : StreamEnd)
    (docs : List (List Tok × Node))
    (hsep : ∀ d ∈ docs, ∀ t ∈ d.1, ¬ isStart t) (helem : ∀ d ∈ docs, isElem d.2 = true)
    (f : Nat) (rest : List Tok) (acc : List Val) :
    readMapsXml cfg S fin (docs.length + f) (fileToks docs rest) acc
      = readMapsXml cfg S fin f rest ((docs.map (fun d => Fold.doc cfg S d.2)).reverse ++ acc) :=
  C19.C19_xml_file_then cfg S fin docs hsep helem f rest acc

/-- the bulk handler invokes the map handler once per document, in order, and stops when the
    handler returns false: nothing after the `b`-th document is looked at -/
theorem C13_xml_handler_stops (cfg : DecCfg) (S : Strconv) (fin : StreamEnd)
    (docs : List (List Tok × Node))
    (hsep : ∀ d ∈ docs, ∀ t ∈ d.1, ¬ isStart t) (helem : ∀ d ∈ docs, isElem d.2 = true)
    (b : Nat) (hb : b ≤ docs.length) (trail : List Tok) (f : Nat) (hf : b < f) :
    handleXml cfg S fin f b (fileToks docs trail) []
      = ⟨(docs.take b).map (fun d => Fold.doc cfg S d.2), false⟩ :=
  C19.C19_xml_handler_stops cfg S fin docs hsep helem b hb trail f hf

/-- whatever its budget `b`, the handler receives `min b n` of the `n` Maps (which ones:
    `C19_xml_handler_count`) -/
theorem C13_xml_handler_count (cfg : DecCfg) (S : Strconv) (fin : StreamEnd)
    (docs : List (List Tok × Node))
    (hsep : ∀ d ∈ docs, ∀ t ∈ d.1, ¬ isStart t) (helem : ∀ d ∈ docs, isElem d.2 = true)
    (b : Nat) (trail : List Tok) (htrail : ∀ t ∈ trail, ¬ isStart t)
    (f : Nat) (hf : docs.length < f) :
    (handleXml cfg S fin f b (fileToks docs trail) []).maps.length = min b docs.length :=
  (C19.C19_xml_handler_count cfg S fin docs hsep helem b trail htrail f hf).2

/-- a stream that ends inside document `k` delivers the first `k` Maps and then the tokenizer's
    error (`fin = .bad`: "unexpected EOF") -/
theorem C13_xml_stream_truncated (cfg : DecCfg) (S : Strconv) (docs : List (List Tok × Node))
    (hsep : ∀ d ∈ docs, ∀ t ∈ d.1, ¬ isStart t) (helem : ∀ d ∈ docs, isElem d.2 = true)
    (k : Nat) (hk : k < docs.length) (cut : List Tok)
    (hpre : cut <+: flatten docs[k].2) (hproper : cut ≠ flatten docs[k].2)
    (f : Nat) (hf : k < f) :
    readMapsXml cfg S .bad f (fileToks (docs.take k) (docs[k].1 ++ cut)) []
      = ⟨(docs.take k).map (fun d => Fold.doc cfg S d.2), true⟩ :=
  C19.C19_xml_truncated_error cfg S docs hsep helem k hk cut hpre hproper f hf

/-- non-vacuity: the sample file of C19ExtXml -/
example : ∃ rs, readMapsXml {} Dec.S0 .eof 4 (fileToks exDocs exTrail) [] = ⟨rs, false⟩ ∧ rs.length = 3 := by
  obtain ⟨rs, h, hl, _⟩ := C13_xml_stream_docs {} Dec.S0 exDocs (by decide +kernel) (by decide +kernel) exTrail (by decide +kernel) 4 (by decide +kernel)
  exact ⟨rs, h, by simpa [exDocs] using hl⟩

end Mxj.C13
