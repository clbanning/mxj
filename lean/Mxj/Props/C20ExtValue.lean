/-
  Mxj.Props.C20ExtValue — x2j-wrapper's value-extraction functions (x2j-wrapper/x2j.go: MapValue,
  hasAttributes, NewAttributeMap, ValuesForKey with its own walker), modelled in
  `Mxj.Model.WrapperValue` and tied to the Go functions by the driver ops `wmval`, `wvfk`, `wattr`.

  Not modelled: the recast flag `r` of MapValue (see Model/WrapperValue).
-/
import Mxj.Lemmas.Wrapper
import Mxj.Lemmas.Key
import Mxj.Lemmas.Mutate
import Mxj.Model.WrapperValue
import Mxj.Lemmas.DecEq
namespace Mxj.C20
open Mxj Mxj.Wrapper

/-- no keys: the value itself -/
theorem C20_value_walk_nil (m : Val) : mvStart m [] = .ok m := by
  cases m <;> simp [mvStart, mvLoop]

/-- a key at a map: "no key in map" when absent, else the loop goes on AT THE ENTRY (whatever its
    type) -/
theorem C20_value_walk_map (kvs : Entries) (k : Str) (ks : List Str) :
    mvStart (.map kvs) (k :: ks) = match lookup k kvs with
      | none => .error .noKeyInMap
      | some v => mvStart v ks := by
  simp only [mvStart, mvLoop, Bool.not_true, Bool.false_eq_true, if_false]
  cases hl : lookup k kvs with
  | none => rfl
  | some v =>
    -- with the flag off the map variable is not looked at: no keys left, or "no keys beyond"
    cases v <;> first | rfl | (cases ks <;> rfl)

/-- a key at anything that is not a map — a LIST included —: "no keys beyond" -/
theorem C20_value_walk_notMap (v : Val) (h : v.isMap = false) (k : Str) (ks : List Str) :
    mvStart v (k :: ks) = .error .noKeysBeyond := by
  cases v <;> first | exact Bool.noConfusion h | rfl

/-- the loop succeeds exactly when the keys name an entry through nested maps, and returns that
    entry (`getPath` is the declarative lookup of C11) -/
theorem C20_value_walk_iff : ∀ (ks : List Str) (m r : Val),
    mvStart m ks = .ok r ↔ getPath m ks = some r := by
  intro ks m r
  -- the loop follows the recursion of `getPath`
  fun_induction getPath m ks with
  | case1 v => rw [C20_value_walk_nil]; simp
  | case2 kvs k ks v hl ih => rw [C20_value_walk_map, hl]; exact ih
  | case3 kvs k ks hl => rw [C20_value_walk_map, hl]; simp
  | case4 x k ks h => rw [C20_value_walk_notMap x (isMap_of_ne h)]; simp

/-- its only errors are the two of the loop -/
theorem C20_value_walk_err : ∀ (ks : List Str) (m : Val) (e : WErr),
    mvStart m ks = .error e → e = .noKeysBeyond ∨ e = .noKeyInMap := by
  intro ks m e
  fun_induction getPath m ks with
  | case1 v => rw [C20_value_walk_nil]; intro h; cases h
  | case2 kvs k ks v hl ih => rw [C20_value_walk_map, hl]; exact ih
  | case3 kvs k ks hl => rw [C20_value_walk_map, hl]; intro h; cases h; exact Or.inr rfl
  | case4 x k ks h =>
    rw [C20_value_walk_notMap x (isMap_of_ne h)]; intro h; cases h; exact Or.inl rfl

/-- a split `pre ++ y :: post` of `x :: xs` is at the head or inside the tail -/
theorem exists_split_cons {α} {P : List α → α → List α → Prop} {x : α} {xs : List α} :
    (∃ pre y post, x :: xs = pre ++ y :: post ∧ P pre y post) ↔
      P [] x xs ∨ ∃ pre y post, xs = pre ++ y :: post ∧ P (x :: pre) y post := by
  constructor
  · rintro ⟨pre, y, post, he, h⟩
    cases pre with
    | nil => cases he; exact Or.inl h
    | cons p pre => cases he; exact Or.inr ⟨pre, y, post, rfl, h⟩
  · rintro (h | ⟨pre, y, post, rfl, h⟩)
    · exact ⟨[], x, xs, rfl, h⟩
    · exact ⟨x :: pre, y, post, rfl, h⟩

/-- "no key in map" is reported exactly when a proper prefix of the keys leads to a map that
    lacks the next key -/
theorem C20_value_walk_noKey : ∀ (ks : List Str) (m : Val),
    mvStart m ks = .error .noKeyInMap ↔
      ∃ pre k post kvs, ks = pre ++ k :: post ∧ getPath m pre = some (.map kvs) ∧
        lookup k kvs = none := by
  intro ks m
  simp only [exists_and_left]
  -- the failing key is the first one (`pre = []`) or lies behind the entry under it
  fun_induction getPath m ks with
  | case1 v => rw [C20_value_walk_nil]; simp
  | case2 kvs k ks v hl ih =>
    rw [exists_split_cons, C20_value_walk_map]
    simp only [hl, ih, getPath_nil, getPath_map_cons, Option.bind_some, Option.some.injEq,
      Val.map.injEq, exists_eq_left', reduceCtorEq, false_or]
  | case3 kvs k ks hl =>
    rw [exists_split_cons, C20_value_walk_map]
    simp only [hl, getPath_nil, getPath_map_cons, Option.bind_none, Option.some.injEq,
      Val.map.injEq, exists_eq_left', reduceCtorEq, false_and, and_false, exists_const, or_false]
  | case4 x k ks h =>
    rw [exists_split_cons, C20_value_walk_notMap x (isMap_of_ne h)]
    simp only [getPath_notMap_cons x _ _ (isMap_of_ne h), getPath_nil, Except.error.injEq,
      Option.some.injEq, reduceCtorEq, false_and, and_false, exists_const, or_false, false_iff,
      not_exists, not_and]
    intro kvs hx; exact (h kvs hx).elim

/-- MapValue(m, path, nil), first segment not empty, is the key loop -/
private theorem mapValue_none (m : Val) (path : Str) (h : (splitDot path).head? ≠ some []) :
    mapValue m path none = mvStart m (splitDot path) := by
  unfold mapValue
  simp only [h, decide_false, Bool.false_and, Bool.false_eq_true, if_false]
  cases mvStart m (splitDot path) <;> rfl

/-- MapValue(m, path, nil), first segment not empty: succeeds iff every key of the path names an
    entry of nested maps, and returns exactly that entry -/
theorem C20_value_mapValue_noattr (m : Val) (path : Str) (r : Val)
    (h : (splitDot path).head? ≠ some []) :
    mapValue m path none = .ok r ↔ getPath m (splitDot path) = some r := by
  rw [mapValue_none m path h, C20_value_walk_iff]

/-- … and fails with one of the loop's two errors otherwise -/
theorem C20_value_mapValue_noattr_err (m : Val) (path : Str) (e : WErr)
    (h : (splitDot path).head? ≠ some []) (he : mapValue m path none = .error e) :
    e = .noKeysBeyond ∨ e = .noKeyInMap :=
  C20_value_walk_err _ _ _ (mapValue_none m path h ▸ he)

/-- the shortcut: a path whose FIRST segment is empty ("" but also ".a.b") returns the whole Map
    when there are no attributes (nil or empty), whatever follows the dot -/
theorem C20_value_mapValue_emptyHead (m : Val) (path : Str) (attr : Option Entries)
    (h : (splitDot path).head? = some []) (ha : attr = none ∨ attr = some []) :
    mapValue m path attr = .ok m := by
  unfold mapValue
  rcases ha with ha | ha <;> subst ha <;> simp [h]

/-- the hypothesis of `C20_value_mapValue_noattr` is needed: ".zz" on `{"a":"x"}` returns the
    Map although no key "" exists -/
theorem C20_value_leadingDot_witness :
    ∃ m path, mapValue m path none = .ok m ∧ getPath m (splitDot path) = none :=
  ⟨.map [(['a'], .str ['x'])], ['.', 'z', 'z'], by rfl, by rfl⟩

/-- relation to the core walker: on a success of MapValue(m, path, nil) with no "*" key,
    `valuesForKeyPath` (the walker of Map.ValuesForPath) returns exactly that value — member by
    member when it is a list -/
theorem C20_value_mapValue_core (m : Val) (path : Str) (v : Val)
    (h : (splitDot path).head? ≠ some []) (hs : ∀ k ∈ splitDot path, k ≠ ['*'])
    (hv : mapValue m path none = .ok v) :
    walk none m (splitDot path) = wLeaf v := by
  rw [C20_value_mapValue_noattr m path v h] at hv
  rw [walk_getPath_some none _ m v hs hv, wLeaf_eq]

/-- … so, not a list: Map.ValuesForPath(path) = [v] -/
theorem C20_value_mapValue_valuesForPath (m : Val) (path : Str) (v : Val)
    (h : (splitDot path).head? ≠ some []) (hs : ∀ k ∈ splitDot path, k ≠ ['*'])
    (h1 : path.contains '[' = false) (h2 : (splitDot path).getLast? ≠ some [])
    (hl : v.isList = false) (hv : mapValue m path none = .ok v) :
    valuesForPath [':'] (fun _ => none) m path [] = .ok [v] := by
  rw [valuesForPath_splitDot m path h1 h2, C20_value_mapValue_core m path v h hs hv]
  cases v <;> first | exact Bool.noConfusion hl | rfl

/-- … and a list: Map.ValuesForPath(path) returns its members -/
theorem C20_value_mapValue_valuesForPath_list (m : Val) (path : Str) (xs : List Val)
    (h : (splitDot path).head? ≠ some []) (hs : ∀ k ∈ splitDot path, k ≠ ['*'])
    (h1 : path.contains '[' = false) (h2 : (splitDot path).getLast? ≠ some [])
    (hv : mapValue m path none = .ok (.list xs)) :
    valuesForPath [':'] (fun _ => none) m path [] = .ok xs := by
  rw [valuesForPath_splitDot m path h1 h2, C20_value_mapValue_core m path _ h hs hv]
  rfl

/-- the "*" hypothesis is needed: MapValue takes "*" as a plain key, the core as a wildcard -/
theorem C20_value_star_witness :
    ∃ m path v, mapValue m path none = .ok v ∧ walk none m (splitDot path) ≠ wLeaf v := by
  refine ⟨.map [(['*'], .str ['x']), (['a'], .str ['y'])], ['*'], .str ['x'], by rfl, ?_⟩
  decide +kernel

/-- a map node holds a pair: the name is present and the values are equal in Go's sense -/
def holdsPair (nv : Entries) (p : Str × Val) : Prop :=
  ∃ vv, lookup p.1 nv = some vv ∧ attrEq p.2 vv = true

/-- what a qualifying node yields: its "#text" entry when it has one, else the node -/
def nodeResult (nv : Entries) : Val :=
  match lookup ['#', 't', 'e', 'x', 't'] nv with
  | some vv => vv
  | none => .map nv

/-- the pair loop succeeds exactly when the node holds ALL the pairs (a statement about the set
    of pairs: the order in which Go ranges over the attribute map does not matter for success) -/
theorem C20_value_attrsMatch_ok_iff (nv : Entries) : ∀ a : Entries,
    attrsMatch nv a = .ok () ↔ ∀ p ∈ a, holdsPair nv p := by
  intro a
  induction a with
  | nil => simp [attrsMatch]
  | cons p rest ih =>
    obtain ⟨k, val⟩ := p
    rw [List.forall_mem_cons, ← ih]
    simp only [attrsMatch, holdsPair]
    cases lookup k nv with
    | none => simp
    | some vv => cases he : attrEq val vv <;> simp [he]

/-- its errors: a missing name or an unequal value -/
theorem C20_value_attrsMatch_err (nv : Entries) : ∀ (a : Entries) (e : WErr),
    attrsMatch nv a = .error e → e = .noAttrName ∨ e = .noAttrPair := by
  intro a
  fun_induction attrsMatch nv a <;> intro e h
  · cases h
  · cases h; exact Or.inl rfl
  · rename_i ih; exact ih e h
  · cases h; exact Or.inr rfl

/-- map node: a value is returned exactly when ALL pairs are held, and it is the "#text" entry
    when present, else the node itself -/
theorem C20_value_hasAttr_map (a nv : Entries) (r : Val) :
    hasAttributes a (.map nv) = .ok r ↔ (∀ p ∈ a, holdsPair nv p) ∧ r = nodeResult nv := by
  rw [← C20_value_attrsMatch_ok_iff]
  simp only [hasAttributes, nodeResult]
  cases attrsMatch nv a with
  | error e => simp
  | ok u =>
    cases lookup ['#', 't', 'e', 'x', 't'] nv <;> simp [eq_comm]

/-- anything that is neither a list nor a map has no attributes -/
theorem C20_value_hasAttr_scalar (a : Entries) (v : Val) (h1 : v.isMap = false)
    (h2 : v.isList = false) : hasAttributes a v = .error .noAttrMatch := by
  cases v with
  | list xs => exact Bool.noConfusion h2
  | map kvs => exact Bool.noConfusion h1
  | _ => rfl

/-- list: the answer of the FIRST member that answers — every member before it fails -/
theorem C20_value_hasAttr_list_first (a : Entries) : ∀ (xs : List Val) (r : Val),
    hasAttributes a (.list xs) = .ok r ↔
      ∃ pre x post, xs = pre ++ x :: post ∧ (∀ y ∈ pre, ∀ r', hasAttributes a y ≠ .ok r') ∧
        hasAttributes a x = .ok r := by
  intro xs r
  simp only [hasAttributes]
  induction xs with
  | nil => simp [hasAttributesList]
  | cons x xs ih =>
    -- the answering member is `x` itself (`pre = []`) or lies in `xs`, and then `x` fails
    rw [exists_split_cons]
    simp only [hasAttributesList, List.forall_mem_cons]
    cases hx : hasAttributes a x with
    | ok v =>
      simp only [Except.ok.injEq, List.not_mem_nil, false_implies, implies_true, true_and, ne_eq,
        forall_eq', false_and, and_false, exists_const, or_false]
    | error e =>
      simp only [ih, reduceCtorEq, ne_eq, not_false_eq_true, implies_true, true_and, and_false, false_or]

/-- list: the only error is "no list member …", exactly when no member answers (the members'
    own errors are swallowed) -/
theorem C20_value_hasAttr_list_err (a : Entries) : ∀ (xs : List Val) (e : WErr),
    hasAttributes a (.list xs) = .error e ↔
      e = .noListMember ∧ ∀ y ∈ xs, ∀ r', hasAttributes a y ≠ .ok r' := by
  intro xs e
  simp only [hasAttributes]
  induction xs with
  | nil => simp [hasAttributesList, eq_comm]
  | cons x xs ih =>
    simp only [hasAttributesList, List.forall_mem_cons]
    cases hx : hasAttributes a x with
    | ok v => simp only [reduceCtorEq, ne_eq, Except.ok.injEq, forall_eq', false_and, and_false]
    | error e' => simp only [ih, reduceCtorEq, ne_eq, not_false_eq_true, implies_true, true_and]

mutual
/-- `nv` is `v` itself or a member of `v` reached through lists only -/
def listNode (nv : Entries) : Val → Prop
  | .map kvs => kvs = nv
  | .list xs => listNodeAny nv xs
  | _ => False
def listNodeAny (nv : Entries) : List Val → Prop
  | [] => False
  | x :: xs => listNode nv x ∨ listNodeAny nv xs
end

mutual
/-- whatever hasAttributes returns comes from a map node that holds ALL the pairs (the node is
    `v` or found inside `v` through lists only) -/
theorem C20_value_hasAttr_sound (a : Entries) : ∀ (v r : Val), hasAttributes a v = .ok r →
    ∃ nv, listNode nv v ∧ (∀ p ∈ a, holdsPair nv p) ∧ r = nodeResult nv
  | .map nv, r, h => by
      rw [C20_value_hasAttr_map] at h
      exact ⟨nv, rfl, h.1, h.2⟩
  | .list xs, r, h => hasAttr_sound_list a xs r h
  | .null, r, h | .bool _, r, h | .num _, r, h | .str _, r, h => by simp [hasAttributes] at h
theorem hasAttr_sound_list (a : Entries) : ∀ (xs : List Val) (r : Val),
    hasAttributesList a xs = .ok r →
    ∃ nv, listNodeAny nv xs ∧ (∀ p ∈ a, holdsPair nv p) ∧ r = nodeResult nv
  | [], r, h => by simp [hasAttributesList] at h
  | x :: xs, r, h => by
      simp only [hasAttributesList] at h
      cases hx : hasAttributes a x with
      | ok v =>
        rw [hx] at h; cases h
        obtain ⟨nv, hn, h2⟩ := C20_value_hasAttr_sound a x r hx
        exact ⟨nv, Or.inl hn, h2⟩
      | error e =>
        rw [hx] at h
        obtain ⟨nv, hn, h2⟩ := hasAttr_sound_list a xs r h
        exact ⟨nv, Or.inr hn, h2⟩
end

/-- MapValue with attributes (a pair present, or a first segment that is not empty): the key
    loop — whose errors are passed on —, then hasAttributes on the entry reached -/
theorem C20_value_mapValue_attr (m : Val) (path : Str) (a : Entries)
    (h : (splitDot path).head? ≠ some [] ∨ a ≠ []) :
    mapValue m path (some a) = match mvStart m (splitDot path) with
      | .ok v => hasAttributes a v
      | .error e => .error e := by
  unfold mapValue
  rw [if_neg]
  · cases mvStart m (splitDot path) <;> rfl
  · rcases h with h | h <;> simp [h]

/-- … so it answers exactly when the path names an entry through nested maps and hasAttributes
    answers on that entry -/
theorem C20_value_mapValue_attr_iff (m : Val) (path : Str) (a : Entries) (r : Val)
    (h : (splitDot path).head? ≠ some [] ∨ a ≠ []) :
    mapValue m path (some a) = .ok r ↔
      ∃ v, getPath m (splitDot path) = some v ∧ hasAttributes a v = .ok r := by
  rw [C20_value_mapValue_attr m path a h]
  simp only [← C20_value_walk_iff]
  cases mvStart m (splitDot path) <;> simp

/-- NaN: Go's `!=` holds of two NaN attribute values, so a NaN pair never matches -/
theorem C20_value_attrEq_nan : attrEq (.num "f:NaN".toList) (.num "f:NaN".toList) = false := by
  decide +kernel

mutual
/-- the core walker of Map.ValuesForKey (no sub-keys, key not "*") returns what the wrapper's
    walker returns, with every LIST stored under the key taken apart into its members -/
theorem C20_value_valuesForKey_core (key : Str) (hk : key ≠ ['*']) : ∀ v : Val,
    hasKey key [] v = (wHasKey key v).flatMap wLeaf
  | .map kvs => by
      simp only [hasKey, wHasKey, hk, if_false, List.append_nil, List.flatMap_append,
        ← valuesForKey_core_entries key hk kvs]
      cases lookup key kvs with
      | none => rfl
      | some v => simp [loadKeyVal_nil, wLeaf_members]
  | .list xs => valuesForKey_core_list key hk xs
  | .null | .bool _ | .num _ | .str _ => by simp [hasKey, wHasKey]
theorem valuesForKey_core_list (key : Str) (hk : key ≠ ['*']) : ∀ xs : List Val,
    hasKeyList key [] xs = (wHasKeyList key xs).flatMap wLeaf
  | [] => by simp [hasKeyList, wHasKeyList]
  | x :: xs => by
      simp only [hasKeyList, wHasKeyList, List.flatMap_append,
        ← C20_value_valuesForKey_core key hk x, ← valuesForKey_core_list key hk xs]
theorem valuesForKey_core_entries (key : Str) (hk : key ≠ ['*']) : ∀ kvs : Entries,
    hasKeyEntries key [] kvs = (wHasKeyEntries key kvs).flatMap wLeaf
  | [] => by simp [hasKeyEntries, wHasKeyEntries]
  | (_, v) :: rest => by
      simp only [hasKeyEntries, wHasKeyEntries, List.flatMap_append,
        ← C20_value_valuesForKey_core key hk v, ← valuesForKey_core_entries key hk rest]
end

/-- Map.ValuesForKey(key) itself, in terms of the wrapper's ValuesForKey -/
theorem C20_value_valuesForKey (m : Val) (key : Str) (hk : key ≠ ['*']) :
    valuesForKey [':'] (fun _ => none) m key [] = .ok ((wValuesForKey m key).flatMap wLeaf) := by
  simp [valuesForKey, subKeyArg, wValuesForKey, C20_value_valuesForKey_core key hk m]

/-- the domain on which the two agree as lists: no list is stored under the key -/
theorem C20_value_valuesForKey_eq (m : Val) (key : Str) (hk : key ≠ ['*'])
    (hl : ∀ v ∈ wValuesForKey m key, v.isList = false) :
    hasKey key [] m = wValuesForKey m key := by
  rw [C20_value_valuesForKey_core key hk m]
  exact flatMap_expand_of_notList _ hl

/-- outside it they differ: a list under the key is one value for the wrapper, its members for
    the core -/
theorem C20_value_valuesForKey_list_witness :
    ∃ m key, key ≠ ['*'] ∧ hasKey key [] m ≠ wValuesForKey m key :=
  ⟨.map [(['a'], .list [.str ['x'], .str ['y']])], ['a'], by decide, by decide⟩

/-- … and "*" is a wildcard for the core only -/
theorem C20_value_valuesForKey_star_witness :
    ∃ m, hasKey ['*'] [] m ≠ wValuesForKey m ['*'] :=
  ⟨.map [(['a'], .str ['x'])], by decide⟩

/-- no arguments: (nil, nil) -/
theorem C20_value_newAttr_none : newAttributeMap [] = .ok none := rfl

private theorem namLoop_ok_iff (kv : List Str) (acc : Entries) :
    (∃ a, namLoop kv acc = .ok a) ↔ ∀ v ∈ kv, v.count ':' = 1 := by
  fun_induction namLoop kv acc with
  | case1 => simp
  | case2 v rest acc n x hs ih =>
    have hlen := splitOn_length ':' v
    rw [hs] at hlen
    rw [ih, List.forall_mem_cons]
    exact ⟨fun h => ⟨by simpa using hlen.symm, h⟩, fun h => h.2⟩
  | case3 v rest acc hne =>
    have hlen := splitOn_length ':' v
    simp only [List.forall_mem_cons, reduceCtorEq, exists_false, false_iff, not_and]
    intro h1
    exfalso
    match hs : splitOn [':'] v with
    | [] => rw [hs] at hlen; simp at hlen
    | [_] => rw [hs] at hlen; simp at hlen; omega
    | [n, x] => exact hne n x hs
    | _ :: _ :: _ :: _ => rw [hs] at hlen; simp at hlen; omega

private theorem namLoop_err (kv : List Str) (acc : Entries) : ∀ e,
    namLoop kv acc = .error e → e = .badAttrPair := by
  fun_induction namLoop kv acc with
  | case1 => nofun
  | case2 v rest acc n x hs ih => exact ih
  | case3 => intro e h; cases h; rfl

private theorem namLoop_shape (kv : List Str) (acc : Entries) : ∀ a,
    namLoop kv acc = .ok a → (∀ e ∈ acc, isDashKey e.1 = true ∧ ∃ s, e.2 = .str s) →
    ∀ e ∈ a, isDashKey e.1 = true ∧ ∃ s, e.2 = .str s := by
  fun_induction namLoop kv acc with
  | case1 => intro a h hacc; cases h; exact hacc
  | case2 v rest acc n x hs ih =>
    intro a h hacc
    refine ih a h fun e he => ?_
    rcases mem_insert he with he | he
    · rw [he]; exact ⟨rfl, x, rfl⟩
    · exact hacc e he
  | case3 => nofun

/-- NewAttributeMap succeeds exactly when every argument holds exactly ONE ':' -/
theorem C20_value_newAttr_ok_iff (kv : List Str) :
    (∃ r, newAttributeMap kv = .ok r) ↔ ∀ v ∈ kv, v.count ':' = 1 := by
  unfold newAttributeMap
  cases kv with
  | nil => simp
  | cons v rest =>
    rw [← namLoop_ok_iff (v :: rest) []]
    simp only [List.isEmpty_cons, Bool.false_eq_true, if_false]
    cases namLoop (v :: rest) [] <;> simp

/-- … its only error is the malformed pair -/
theorem C20_value_newAttr_err (kv : List Str) (e : WErr) (h : newAttributeMap kv = .error e) :
    e = .badAttrPair := by
  unfold newAttributeMap at h
  cases kv with
  | nil => simp at h
  | cons v rest =>
    simp only [List.isEmpty_cons, Bool.false_eq_true, if_false] at h
    cases hn : namLoop (v :: rest) [] with
    | ok a => rw [hn] at h; cases h
    | error e' => rw [hn] at h; cases h; exact namLoop_err _ _ _ hn

/-- every key of the result carries the "-" prefix and every value is a string -/
theorem C20_value_newAttr_shape (kv : List Str) (a : Entries)
    (h : newAttributeMap kv = .ok (some a)) :
    ∀ e ∈ a, isDashKey e.1 = true ∧ ∃ s, e.2 = .str s := by
  unfold newAttributeMap at h
  cases kv with
  | nil => simp at h
  | cons v rest =>
    simp only [List.isEmpty_cons, Bool.false_eq_true, if_false] at h
    cases hn : namLoop (v :: rest) [] with
    | error e' => rw [hn] at h; cases h
    | ok a' =>
      rw [hn] at h; cases h
      exact namLoop_shape _ [] a hn (by simp)

/-- round trip of one pair: "name:value" ↦ {"-name": "value"} (neither part holds a ':') -/
theorem C20_value_newAttr_single (n x : Str) (hn : ':' ∉ n) (hx : ':' ∉ x) :
    newAttributeMap [n ++ ':' :: x] = .ok (some [('-' :: n, .str x)]) := by
  have hs := splitOn_pair ':' n x hn hx
  simp [newAttributeMap, namLoop, hs, insert]

/-- … and what it produces is what MapValue wants: the pair selects the member carrying the
    attribute, and its "#text" is returned -/
theorem C20_value_newAttr_select (n x : Str) (nv : Entries)
    (h : lookup ('-' :: n) nv = some (.str x)) :
    hasAttributes [('-' :: n, .str x)] (.map nv) = .ok (nodeResult nv) := by
  rw [C20_value_hasAttr_map]
  refine ⟨?_, rfl⟩
  intro p hp
  rw [List.mem_singleton.1 hp]
  exact ⟨.str x, h, by simp [attrEq]⟩

/-! ### the hypotheses are satisfiable; concrete instances -/

/-- `{"doc": {"item": [ {"-id":"1","#text":"a"}, {"-id":"2","#text":"b"}, {"-id":"2","#text":"c"} ],
              "name": {"first": "x"} }}` -/
def vsample : Val :=
  .map [("doc".toList, .map [
    ("item".toList, .list [
      .map [("-id".toList, .str ['1']), ("#text".toList, .str ['a'])],
      .map [("-id".toList, .str ['2']), ("#text".toList, .str ['b'])],
      .map [("-id".toList, .str ['2']), ("#text".toList, .str ['c'])]]),
    ("name".toList, .map [("first".toList, .str ['x'])])])]

example : (splitDot "doc.name.first".toList).head? ≠ some [] := by
  repeat rw [String.toList_ofList]
  decide +kernel
example : ∀ k ∈ splitDot "doc.name.first".toList, k ≠ ['*'] := by
  repeat rw [String.toList_ofList]
  decide +kernel
example : mapValue vsample "doc.name.first".toList none = .ok (.str ['x']) := by
  repeat rw [String.toList_ofList]
  decide +kernel
example : getPath vsample (splitDot "doc.name.first".toList) = some (.str ['x']) := by
  repeat rw [String.toList_ofList]
  decide +kernel
/-- lists are not looked through -/
example : mapValue vsample "doc.item.-id".toList none = .error .noKeysBeyond := by decide +kernel
example : mapValue vsample "doc.zip".toList none = .error .noKeyInMap := by decide +kernel
/-- FIRST match: of the two members with id 2 the earlier one answers -/
example : mapValue vsample "doc.item".toList (some [("-id".toList, .str ['2'])])
    = .ok (.str ['b']) := by decide +kernel
example : mapValue vsample "doc.item".toList (some [("-id".toList, .str ['3'])])
    = .error .noListMember := by decide +kernel
example : mapValue vsample "doc.name".toList (some [("-id".toList, .str ['3'])])
    = .error .noAttrName := by decide +kernel
/-- a node without "#text" is returned itself -/
example : mapValue vsample "doc.name".toList (some [("first".toList, .str ['x'])])
    = .ok (.map [("first".toList, .str ['x'])]) := by decide +kernel
example : wValuesForKey vsample "-id".toList = [.str ['1'], .str ['2'], .str ['2']] := by
  decide +kernel
example : ∀ v ∈ wValuesForKey vsample "-id".toList, v.isList = false := by decide +kernel
example : wValuesForKey vsample "item".toList ≠ hasKey "item".toList [] vsample := by decide +kernel
example : newAttributeMap ["id:2".toList, "x:y".toList]
    = .ok (some [("-id".toList, .str ['2']), ("-x".toList, .str ['y'])]) := by decide +kernel
example : newAttributeMap ["id:2".toList, "a:b:c".toList] = .error .badAttrPair := by decide +kernel
example : newAttributeMap ["novalue".toList] = .error .badAttrPair := by decide +kernel
example : ':' ∉ "id".toList ∧ ':' ∉ "2".toList := by decide +kernel

end Mxj.C20
