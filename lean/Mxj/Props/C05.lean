/-
  "Special characters survive encoding".

  With value escaping enabled every string placed in an element or attribute value is passed
  through `escapeChars` (sequential replace over the regenerated table
  `Mxj.Generated.escapeTable`).  The theorems: the sequential replace is a single pass; the
  tokenizer's entity expansion `unesc` recovers exactly the original string (no double
  escaping) for EVERY string; the escaped text is well-formed character data / attribute value;
  decoder-side escaping makes decode-then-encode the identity on escaped text.
-/
import Mxj.Lemmas.Escape
import Mxj.Model.Xml
namespace Mxj.C05
open Mxj

/-- the sequential replace over the (regenerated) table is a single pass: '&' first means the
    '&' of an inserted entity is never escaped again -/
theorem C05_escape_single_pass (s : Str) : escapeChars s = s.flatMap escOne :=
  escapeChars_flatMap s

/-- exact value recovery, no double escaping, for EVERY string -/
theorem C05_unescape_escape (s : Str) : unesc (escapeChars s) = some s :=
  unesc_escapeChars s

/-- consequence: `escapeChars` is injective (distinct values stay distinct on the wire) -/
theorem C05_escape_injective (s t : Str) (h : escapeChars s = escapeChars t) : s = t := by
  have h1 := C05_unescape_escape s
  rw [h, C05_unescape_escape t] at h1
  exact (Option.some.inj h1).symm

/-- the escaped text contains no raw '<', '>', '"', '\'' -/
theorem C05_escaped_no_specials (s : Str) :
    ∀ c ∈ escapeChars s, c ≠ '<' ∧ c ≠ '>' ∧ c ≠ '"' ∧ c ≠ '\'' :=
  escapeChars_no_specials s

/-- the five predefined entity texts, as the tokenizer knows them -/
theorem C05_entityTexts :
    entityTexts = ["&amp;".toList, "&lt;".toList, "&gt;".toList, "&quot;".toList, "&apos;".toList] := by
  decide +kernel

/-- every '&' of the escaped text starts one of the five predefined entities: every suffix of
    `escapeChars s` that starts with '&' has an entity text as a prefix -/
theorem C05_escaped_amp_is_entity (s : Str) (t : Str) (h : ('&' :: t) <:+ escapeChars s) :
    ∃ e ∈ entityTexts, e <+: ('&' :: t) := by
  induction s with
  | nil =>
    rw [escapeChars_nil] at h
    simp at h
  | cons a s ih =>
    rw [escapeChars_cons] at h
    cases hs : special a with
    | false =>
      rw [escOne_plain hs] at h
      exact ih (suffix_append_of_not_mem [a] (by simpa using (not_special hs).1.symm) h)
    | true =>
      obtain ⟨u, hu, hmem, hp, _⟩ := escOne_special hs
      rw [hu] at h hmem
      rcases List.suffix_cons_iff.1 h with h | h
      · exact ⟨_, hmem, h ▸ List.prefix_append _ _⟩
      · exact ih (suffix_append_of_not_mem u (fun m => by cases hp _ m) h)

/-- the same, by position -/
theorem C05_escaped_amp_is_entity_at (s : Str) (i : Nat) (h : (escapeChars s)[i]? = some '&') :
    ∃ e ∈ entityTexts, e <+: (escapeChars s).drop i := by
  obtain ⟨hi, hget⟩ := List.getElem?_eq_some_iff.1 h
  have hd : (escapeChars s).drop i = '&' :: (escapeChars s).drop (i + 1) := by
    rw [List.drop_eq_getElem_cons hi, hget]
  rw [hd]
  apply C05_escaped_amp_is_entity s
  rw [← hd]
  exact List.drop_suffix _ _

/-- no CDATA terminator in the escaped text -/
theorem C05_escaped_no_cdata_end (s : Str) : ¬ ("]]>".toList <:+: escapeChars s) := by
  intro h
  have hmem : '>' ∈ escapeChars s := h.subset (by decide)
  exact (C05_escaped_no_specials s '>' hmem).2.1 rfl

/-- the tokenizer accepts the escaped text (no bare '&', unknown entity or raw '<') -/
theorem C05_escaped_well_formed (s : Str) : (unesc (escapeChars s)).isSome = true := by
  rw [C05_unescape_escape]; rfl

/-- decoder-side mode: on escaped text, unescape-then-escape is the identity -/
theorem C05_decoder_mode_fixed_point (s : Str) :
    (unesc (escapeChars s)).map escapeChars = some (escapeChars s) := by
  rw [C05_unescape_escape]; rfl

/-- the same through the decoder's switch `escDecIf` (XMLEscapeCharsDecoder on) -/
theorem C05_decoder_mode_escDecIf (cfg : DecCfg) (h : cfg.escDec = true) (s : Str) :
    (unesc (escapeChars s)).map (escDecIf cfg) = some (escapeChars s) := by
  rw [C05_unescape_escape]; simp [escDecIf, h]

/-- idempotence fails, as documented ("&amp;" is re-escaped): the theorem above is about
    unesc∘esc, and double escaping is real -/
theorem C05_double_escape_witness : escapeChars (escapeChars ['&']) ≠ escapeChars ['&'] := by
  simp only [escapeChars_flatMap]
  decide

example : escapeChars "a<b & \"c\" 'd' >".toList = "a&lt;b &amp; &quot;c&quot; &apos;d&apos; &gt;".toList := by
  -- the kernel unfolds `String.toList` of a literal through the UTF-8 decoding of its bytes, at a
  -- cost quadratic in its length: a long literal is first turned into its list of characters
  repeat rw [String.toList_ofList]
  decide +kernel

example : unesc "a&lt;b &amp;amp; &#65;&#x42;".toList = some "a<b &amp; AB".toList := by
  repeat rw [String.toList_ofList]
  decide +kernel

example : unesc "a & b".toList = none := by decide +kernel

end Mxj.C05
