/-
  Mxj.Props.C12ExtFrame — frame of C12's API over the package-level state, on facts regenerated from
  /repo's current source on every run: NewMap reads the field separator and the initial result
  capacity only;
  and none of them (nor any function they can reach) assigns a package-level variable, so what they
  return is a function of their arguments and of exactly those variables - no hidden state carried
  from one call to the next.
-/
import Mxj.Lemmas.Facts
namespace Mxj.C12
open Mxj

/-- the package-level variables C12's functions may read -/
def frameAllowed : List String := ["defaultArraySize", "fieldSep"]

theorem frame_cert :
    Facts.cert Generated.c12FrameRoots Generated.c12FrameRootsClosure (Facts.frameOk frameAllowed)
      = true := by decide +kernel

theorem C12_frame_reads (root g v : String) (hr : root ∈ Generated.c12FrameRoots)
    (h : Facts.Reach root g) (hv : v ∈ Facts.readsOf g) : v ∈ frameAllowed :=
  Facts.reads_of_frame frame_cert hr h hv

theorem C12_frame_no_hidden_state (root g : String) (hr : root ∈ Generated.c12FrameRoots)
    (h : Facts.Reach root g) : Facts.writesOf g = [] :=
  Facts.writes_of_frame frame_cert hr h

/-- the statements are not vacuous: the API group is present in the source -/
theorem C12_frame_roots_present : Generated.c12FrameRoots.length ≥ 1 := by decide +kernel

end Mxj.C12
