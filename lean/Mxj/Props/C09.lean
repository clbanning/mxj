/-
  Mxj.Props.C09 — LeafNodes returns exactly one entry per scalar value in the Map, with the
  value itself and a path that resolves to exactly that one value; LeafPaths / LeafValues are
  its projections; the no-attributes option removes exactly the attribute entries and the
  text-key path segment.

  Model: Mxj.Model.Leaf (`getLeafNodes`, `leafNodes`, `leafPaths`, `leafValues`).
  Specification: Mxj.Model.Leaf (`leafSegs`, `scalars`, `segIsAttr`, `stripSegs`, `renderSegs`)
  and, for resolution, Mxj.Model.Denote (`Denote.path`, `Denote.valuesForPath`).
-/
import Mxj.Lemmas.Leaf

namespace Mxj

/-- `{"doc": {"-x": "1", "#text": "hi", "it": [{"a": 1}, {"a": 2, "-y": true}]}}` -/
def leafExMap : Entries :=
  [(['d','o','c'], .map
    [(['-','x'], .str ['1']),
     (['#','t','e','x','t'], .str ['h','i']),
     (['i','t'], .list
        [.map [(['a'], .num ['i',':','1'])],
         .map [(['a'], .num ['i',':','2']), (['-','y'], .bool true)]])])]

def leafExCfg : LeafCfg := ⟨['-'], ['#','t','e','x','t'], false⟩

end Mxj

namespace Mxj.C09
open Mxj

/-- the model is the segment-level specification: every scalar with its rendered segment path;
    with the no-attributes option, scalars below an attribute entry are dropped and text-key
    segments are skipped.
    `htext` (which only constrains `noattr = true`) is needed: `getLeafNodes` drops ANY node
    string equal to the text key when `noattr` is set — also the node string "[i]" (or "i" in dot
    notation) of a list member.  With the text key "[0]", `LeafNodes(true)` of `{"a": ["x"]}` has
    the path "a" where the specification says "a[0]" (`C09_is_spec_needs_htext`). -/
theorem C09_is_spec (cfg : LeafCfg) (noattr : Bool) (m : Val)
    (htext : noattr = true → ∀ i, listNode cfg i ≠ cfg.textK) :
    leafNodes cfg noattr m =
      ((if noattr then
          ((leafSegs m).filter fun pv => !pv.1.any (segIsAttr cfg)).map fun pv => (stripSegs cfg pv.1, pv.2)
        else leafSegs m).map fun pv => (⟨renderSegs cfg [] pv.1, pv.2⟩ : Leaf)) :=
  leafNodes_spec cfg noattr htext m

/-- with attributes kept the statement holds for every configuration, unconditionally -/
theorem C09_is_spec_keep_attrs (cfg : LeafCfg) (m : Val) :
    leafNodes cfg false m = (leafSegs m).map fun pv => (⟨renderSegs cfg [] pv.1, pv.2⟩ : Leaf) := by
  simpa using C09_is_spec cfg false m (fun h => by cases h)

/-- one entry per scalar, in traversal order, whatever the keys look like -/
theorem C09_enumerates (cfg : LeafCfg) (m : Val) :
    (leafNodes cfg false m).map (·.value) = scalars m := by
  rw [C09_is_spec_keep_attrs, List.map_map]
  exact leafSegs_values m

/-- `htext` holds for every text key that does not start with "[" and is not all digits
    (in particular for "#text"), in both notations -/
theorem C09_is_spec_sane_textkey (cfg : LeafCfg) (noattr : Bool) (m : Val)
    (hb : hasPrefix ['['] cfg.textK = false) (hd : cfg.textK.all isDigit = false) :
    leafNodes cfg noattr m =
      ((if noattr then
          ((leafSegs m).filter fun pv => !pv.1.any (segIsAttr cfg)).map fun pv => (stripSegs cfg pv.1, pv.2)
        else leafSegs m).map fun pv => (⟨renderSegs cfg [] pv.1, pv.2⟩ : Leaf)) :=
  C09_is_spec cfg noattr m (fun _ => listNode_ne_of cfg hb hd)

/-- the counterexample that forces `htext`: text key "[0]", Map `{"a": ["x"]}`, no-attributes -/
theorem C09_is_spec_needs_htext :
    let cfg : LeafCfg := ⟨['-'], ['[', '0', ']'], false⟩
    let m : Val := .map [(['a'], .list [.str ['x']])]
    (leafNodes cfg true m).map (·.path) = [['a']]
    ∧ (((leafSegs m).filter fun pv => !pv.1.any (segIsAttr cfg)).map
          fun pv => renderSegs cfg [] (stripSegs cfg pv.1)) = [['a', '[', '0', ']']] := by
  decide +kernel

theorem C09_projections (cfg : LeafCfg) (noattr : Bool) (m : Val) :
    leafPaths cfg noattr m = (leafNodes cfg noattr m).map (·.path)
    ∧ leafValues cfg noattr m = (leafNodes cfg noattr m).map (·.value) :=
  ⟨rfl, rfl⟩

/-- every leaf of a path-safe Map without nested lists: its rendered path parses back to its
    keys, and the path denotes exactly that one value.
    `hfit` (every list has at most 2^31 members) is needed: `parsePath` reads an index with
    `strconv.ParseInt(·, 10, 32)`, whose range check rejects every index above 2147483647
    (`parseInt32_natToStr`, `C09_resolves_bound_forced`), so the leaf path of member number
    2147483648 of a list does not parse. -/
theorem C09_resolves_denote (cfg : LeafCfg) (hdot : cfg.useDot = false) (kvs : Entries)
    (hs : KeySpec.pathSafe (.map kvs) = true) (hn : Denote.noListInList (.map kvs) = true)
    (hwf : (Val.map kvs).wf = true) (hfit : listsFit (.map kvs) = true) :
    ∀ pv ∈ leafSegs (.map kvs), ∃ keys, parsePath (renderSegs cfg [] pv.1) = .ok keys
      ∧ Denote.path (keys.map Denote.keyStep) (.map kvs) = [pv.2] := fun pv hpv =>
  let ⟨ks, hk, hr, h⟩ := leaf_resolves cfg hdot kvs ⟨hs, hn, hwf, hfit⟩ pv hpv
  ⟨ks, hr ▸ parsePath_renderKeys ks hk, h⟩

/-- the same, read off the entries `LeafNodes` returns: every returned path parses, and the
    parsed keys denote exactly the returned value -/
theorem C09_resolves_leafNodes (cfg : LeafCfg) (hdot : cfg.useDot = false) (kvs : Entries)
    (hs : KeySpec.pathSafe (.map kvs) = true) (hn : Denote.noListInList (.map kvs) = true)
    (hwf : (Val.map kvs).wf = true) (hfit : listsFit (.map kvs) = true) :
    ∀ l ∈ leafNodes cfg false (.map kvs),
      ∃ keys, parsePath l.path = .ok keys
        ∧ Denote.path (keys.map Denote.keyStep) (.map kvs) = [l.value] := by
  rw [C09_is_spec_keep_attrs]
  exact List.forall_mem_map.2 (C09_resolves_denote cfg hdot kvs hs hn hwf hfit)

/-- every path `LeafNodes` returns lies in the domain of the C07 specification of
    `ValuesForPath` (`Denote.valuesForPath`, no sub-keys), which yields exactly the returned
    value — whether or not the path contains an index -/
theorem C09_resolves_spec (cfg : LeafCfg) (hdot : cfg.useDot = false) (kvs : Entries)
    (hs : KeySpec.pathSafe (.map kvs) = true) (hn : Denote.noListInList (.map kvs) = true)
    (hwf : (Val.map kvs).wf = true) (hfit : listsFit (.map kvs) = true)
    (sep : Str) (pf : Str → Option Str) :
    ∀ l ∈ leafNodes cfg false (.map kvs),
      Denote.valuesForPath sep pf (.map kvs) l.path [] = some [l.value] := by
  rw [C09_is_spec_keep_attrs]
  refine List.forall_mem_map.2 fun pv hpv => ?_
  obtain ⟨ks, hk, hr, hpath⟩ := leaf_resolves cfg hdot kvs ⟨hs, hn, hwf, hfit⟩ pv hpv
  simp only [hr, valuesForPath_renderKeys sep pf _ hn ks hk, hpath]

/-- the int32 bound is forced, not an artefact: an index above 2147483647 never parses back -/
theorem C09_resolves_bound_forced (i : Nat) (hi : 2147483647 < i) :
    parseInt32 (natToStr i) = none := by
  rw [parseInt32_natToStr, if_neg (Nat.not_le.2 hi)]

/-- the hypotheses of `C09_resolves_denote` and `htext` hold of the example -/
example : KeySpec.pathSafe (.map leafExMap) = true ∧ Denote.noListInList (.map leafExMap) = true
    ∧ (Val.map leafExMap).wf = true ∧ listsFit (.map leafExMap) = true
    ∧ leafExCfg.useDot = false ∧ (∀ i, listNode leafExCfg i ≠ leafExCfg.textK) :=
  ⟨by decide +kernel, by decide +kernel, by decide +kernel, by decide +kernel, by decide +kernel,
    listNode_ne_of leafExCfg (by decide +kernel) (by decide +kernel)⟩

/-- what LeafNodes returns on it, attributes kept -/
example : (leafNodes leafExCfg false (.map leafExMap)).map (fun l => (l.path, l.value)) =
    [("doc.-x".toList, .str ['1']), ("doc.#text".toList, .str ['h','i']),
     ("doc.it[0].a".toList, .num ['i',':','1']), ("doc.it[1].a".toList, .num ['i',':','2']),
     ("doc.it[1].-y".toList, .bool true)] := by
  repeat rw [String.toList_ofList]
  decide +kernel

/-- … and with the no-attributes option: "-x", "-y" gone, "#text" skipped in the path -/
example : (leafNodes leafExCfg true (.map leafExMap)).map (fun l => (l.path, l.value)) =
    [("doc".toList, .str ['h','i']),
     ("doc.it[0].a".toList, .num ['i',':','1']), ("doc.it[1].a".toList, .num ['i',':','2'])] := by
  repeat rw [String.toList_ofList]
  decide +kernel

/-- the resolution clause instantiated at the fourth leaf, "doc.it[1].a" -/
example :
    parsePath ['d','o','c','.','i','t','[','1',']','.','a']
      = .ok [⟨['d','o','c'], false, 0⟩, ⟨['i','t'], true, 1⟩, ⟨['a'], false, 0⟩]
    ∧ Denote.path ([⟨['d','o','c'], false, 0⟩, ⟨['i','t'], true, 1⟩, ⟨['a'], false, 0⟩].map Denote.keyStep)
        (.map leafExMap) = [.num ['i',':','2']] := by
  obtain ⟨keys, hparse, hpath⟩ := C09_resolves_denote leafExCfg rfl leafExMap (by decide +kernel)
    (by decide +kernel) (by decide +kernel) (by decide +kernel)
    ([.key ['d','o','c'], .key ['i','t'], .idx 1, .key ['a']], .num ['i',':','2']) (by decide +kernel)
  have e : renderSegs leafExCfg [] [.key ['d','o','c'], .key ['i','t'], .idx 1, .key ['a']]
      = ['d','o','c','.','i','t','[','1',']','.','a'] := by decide +kernel
  have hp : parsePath ['d','o','c','.','i','t','[','1',']','.','a']
      = .ok [⟨['d','o','c'], false, 0⟩, ⟨['i','t'], true, 1⟩, ⟨['a'], false, 0⟩] := rfl
  rw [e, hp] at hparse
  cases hparse
  exact ⟨hp, hpath⟩

end Mxj.C09
