/-
  Mxj.Props.C18 — "Package options have only their documented effect and can always be restored".

  The option variables are modelled as the state machine `Mxj.Model.Opt` (one field per variable,
  one `Call` constructor per setter form).  The theorems: explicit calls are idempotent
  (`C18_idempotent`), argument-less forms do what the documentation says (`C18_argless_*`), the
  two escaping switches are never both on (`C18_never_both`), any history with punctuation key
  prefixes can be undone by the explicit restore calls (`C18_restore`; the hypothesis is needed:
  `C18_restore_needs_punct`), two derived variables are functions of their masters, the model's
  fresh state and set of writers agree with the regenerated facts of the Go source, and the facts
  part of non-interference (`C18_seq_json_ignore_prefix_and_case`,
  `C18_decoders_ignore_encoder_switches`).
-/
import Mxj.Lemmas.Opt
import Mxj.Lemmas.Facts
namespace Mxj.C18
open Mxj Mxj.Opt

/-! ### idempotence -/

/-- every setter called with an explicit value is idempotent (`explicit`: toggling setters with
    `some b`, the string/number/flag setters, the two empty-element setters, the non-toggling
    argument-less forms; for SetGlobalKeyMapPrefix the argument must be a single character) -/
theorem C18_idempotent (st : St) (c : Call) (h : explicit c = true) :
    step (step st c) c = step st c := by
  cases c with
  | setGlobalKeyMapPrefix s =>
    match s, h with
    | [p], _ => simp [step, rekey_idem]
  | disableTrimWhiteSpace b => cases b <;> simp [step]
  | prependAttrWithHyphen v => cases v <;> simp [step]
  | setFieldSeparator s =>
    cases s with
    | none => simp [step]
    | some x => cases x <;> simp [step]
  | setArraySize n => by_cases hn : n > 32 <;> simp [step, hn]
  | xmlEscapeChars b => match b, h with | some v, _ => simp [step, tog]
  | xmlEscapeCharsDecoder b =>
    match b, h with
    | some v, _ => cases v <;> cases hx : st.xmlEscapeChars <;> simp [step, tog, hx]
  | setAttrPrefix s => simp [step]
  | setCheckTagToSkipFunc r => simp [step]
  | xmlGoEmptyElemSyntax => simp [step]
  | xmlDefaultEmptyElemSyntax => simp [step]
  -- the eleven pure toggles: the argument is a `b : Option Bool`, and `h` rules out `none`
  | _ =>
    rename_i b
    match b, h with
    | some v, _ => simp [step, tog]

/-- the one-character condition on SetGlobalKeyMapPrefix is needed: with a two-character (or an
    empty) prefix a second identical call changes the keys again -/
theorem C18_idempotent_needs_single_char :
    (∃ s, step (step dflt (.setGlobalKeyMapPrefix s)) (.setGlobalKeyMapPrefix s)
        ≠ step dflt (.setGlobalKeyMapPrefix s)) :=
  ⟨['a', 'b'], by decide⟩

/-! ### the argument-less forms -/

/-- the argument-less form of each of the eleven pure toggling setters flips its field, and
    applying it twice restores the whole state -/
theorem C18_argless_toggle (st : St) (t : Toggle) :
    t.field (step st (t.call none)) = !t.field st ∧
    step (step st (t.call none)) (t.call none) = st := by
  cases t <;> simp [Toggle.field, Toggle.call, step, tog]

/-- with an explicit value a toggling setter sets its field -/
theorem C18_toggle_explicit (st : St) (t : Toggle) (b : Bool) :
    t.field (step st (t.call (some b))) = b := by
  cases t <;> simp [Toggle.field, Toggle.call, step, tog]

/-- XMLEscapeCharsDecoder() flips its own field, and twice restores that field -/
theorem C18_argless_toggle_escape_decoder (st : St) :
    (step st (.xmlEscapeCharsDecoder none)).xmlEscapeCharsDecoder = !st.xmlEscapeCharsDecoder ∧
    (step (step st (.xmlEscapeCharsDecoder none)) (.xmlEscapeCharsDecoder none)).xmlEscapeCharsDecoder
      = st.xmlEscapeCharsDecoder := by
  simp [step, tog]

/-- XMLEscapeChars() is a toggle while the decoder switch is off … -/
theorem C18_argless_toggle_escape (st : St) (h : st.xmlEscapeCharsDecoder = false) :
    (step st (.xmlEscapeChars none)).xmlEscapeChars = !st.xmlEscapeChars ∧
    step (step st (.xmlEscapeChars none)) (.xmlEscapeChars none) = st := by
  cases st; simp only at h; subst h; simp [step, tog]

/-- … and has no effect while it is on (in a reachable state: `C18_never_both`) -/
theorem C18_argless_escape_blocked (st : St) (h : st.xmlEscapeCharsDecoder = true)
    (h' : st.xmlEscapeChars = false) : step st (.xmlEscapeChars none) = st := by
  cases st; simp only at h h'; subst h h'; simp [step, tog]

/-- the call forms that are not `explicit` are exactly the argument-less forms of the eleven pure
    toggles and of the two escaping switches (covered by the theorems above), and
    SetGlobalKeyMapPrefix with an argument that is not one character -/
theorem C18_argless_cover (c : Call) (h : explicit c = false) :
    (∃ t : Toggle, c = t.call none) ∨ c = .xmlEscapeChars none ∨ c = .xmlEscapeCharsDecoder none
      ∨ ∃ s, c = .setGlobalKeyMapPrefix s := by
  cases c with
  | setGlobalKeyMapPrefix s => exact .inr (.inr (.inr ⟨s, rfl⟩))
  -- a toggle or an escaping switch with argument `b`: `h` rules out `b = some _`
  | includeTagSeqNum b => match b, h with | none, _ => exact .inl ⟨.includeTagSeqNum, rfl⟩
  | coerceKeysToLower b => match b, h with | none, _ => exact .inl ⟨.coerceKeysToLower, rfl⟩
  | coerceKeysToSnakeCase b => match b, h with | none, _ => exact .inl ⟨.coerceKeysToSnakeCase, rfl⟩
  | castValuesToInt b => match b, h with | none, _ => exact .inl ⟨.castValuesToInt, rfl⟩
  | handleXMPPStreamTag b => match b, h with | none, _ => exact .inl ⟨.handleXMPPStreamTag, rfl⟩
  | decodeSimpleValuesAsMap b => match b, h with | none, _ => exact .inl ⟨.decodeSimpleValuesAsMap, rfl⟩
  | castNanInf b => match b, h with | none, _ => exact .inl ⟨.castNanInf, rfl⟩
  | castValuesToFloat b => match b, h with | none, _ => exact .inl ⟨.castValuesToFloat, rfl⟩
  | castValuesToBool b => match b, h with | none, _ => exact .inl ⟨.castValuesToBool, rfl⟩
  | xmlCheckIsValid b => match b, h with | none, _ => exact .inl ⟨.xmlCheckIsValid, rfl⟩
  | leafUseDotNotation b => match b, h with | none, _ => exact .inl ⟨.leafUseDotNotation, rfl⟩
  | xmlEscapeChars b => match b, h with | none, _ => exact .inr (.inl rfl)
  | xmlEscapeCharsDecoder b => match b, h with | none, _ => exact .inr (.inr (.inl rfl))
  | _ => cases h

/-- XMLEscapeCharsDecoder() twice does not restore the whole state: it clears the encoder switch -/
theorem C18_argless_decoder_twice_clears_encoder :
    run (run dflt [.xmlEscapeChars (some true)]) [.xmlEscapeCharsDecoder none, .xmlEscapeCharsDecoder none]
      ≠ run dflt [.xmlEscapeChars (some true)] := by decide +kernel

/-- DisableTrimWhiteSpace() disables (it does not toggle) -/
theorem C18_argless_disable_trim (st : St) :
    (step st (.disableTrimWhiteSpace none)).disableTrimWhiteSpace = true ∧
    (step st (.disableTrimWhiteSpace none)).trimRunes = trimKeep ∧
    step st (.disableTrimWhiteSpace none) = step st (.disableTrimWhiteSpace (some true)) := by
  simp [step]

/-- SetFieldSeparator() and SetFieldSeparator("") reset to ":" -/
theorem C18_argless_fieldsep (st : St) :
    (step st (.setFieldSeparator none)).fieldSep = [':'] ∧
    (step st (.setFieldSeparator (some []))).fieldSep = [':'] ∧
    step st (.setFieldSeparator none) = step st (.setFieldSeparator (some [':'])) ∧
    step st (.setFieldSeparator (some [])) = step st (.setFieldSeparator (some [':'])) := by
  simp [step]

/-! ### invariants over all histories -/

/-- the two escaping switches are never both on, after any history from the fresh state -/
theorem C18_never_both (calls : List Call) :
    ¬ ((run dflt calls).xmlEscapeChars = true ∧ (run dflt calls).xmlEscapeCharsDecoder = true) :=
  (inv_run calls).1

/-- trimRunes is a function of the flag -/
theorem C18_trim_invariant (calls : List Call) :
    (run dflt calls).trimRunes
      = if (run dflt calls).disableTrimWhiteSpace then trimKeep else trimAll :=
  (inv_run calls).2.1

/-- lenAttrPrefix is the byte length of attrPrefix -/
theorem C18_lenAttrPrefix_invariant (calls : List Call) :
    (run dflt calls).lenAttrPrefix = (String.ofList (run dflt calls).attrPrefix).utf8ByteSize :=
  (inv_run calls).2.2

/-! ### restoring -/

/-- after ANY finite history of calls whose key-prefix arguments are single punctuation
    characters (one character, not a lower-case ASCII letter), setting every option back to its
    default yields exactly the fresh state -/
theorem C18_restore (calls : List Call) (h : punctPrefixes calls = true) :
    run (run dflt calls) restoreCalls = dflt :=
  restore_of_keysOK _ (keysOK_run calls h)

/-- and the hypothesis is needed: after SetGlobalKeyMapPrefix("t") the keys are "ttext" …, and
    SetGlobalKeyMapPrefix("#") then replaces every 't': "#ex#" -/
theorem C18_restore_needs_punct : ∃ calls, run (run dflt calls) restoreCalls ≠ dflt :=
  ⟨[.setGlobalKeyMapPrefix ['t']], by decide⟩

/-- the same for an empty prefix: the keys lose their first character ("text"), and the restore
    then rewrites every 't' ("#ex#") … -/
theorem C18_restore_needs_nonempty :
    run (run dflt [.setGlobalKeyMapPrefix []]) restoreCalls ≠ dflt := by decide +kernel

/-- … and for a two-character prefix: "##text" stays "##text" under SetGlobalKeyMapPrefix("#") -/
theorem C18_restore_needs_single :
    run (run dflt [.setGlobalKeyMapPrefix ['#', '#']]) restoreCalls ≠ dflt := by decide +kernel

/-! ### agreement with the Go source (regenerated facts) -/

/-- the model's fresh state is the source's initialisers: for every (name, value) in
    `dump dflt`, `Generated.defaults` maps the same name to the same value -/
theorem C18_defaults_match_source :
    (dump dflt).all (fun kv => (Generated.defaults.lookup kv.1) == some kv.2) = true := by
  decide +kernel

/-- only the option setters write package-level variables: every entry of
    `Generated.globalWriters` is one of the setters named in the model -/
theorem C18_only_setters_write_globals :
    (Generated.globalWriters.map (·.1)).all (fun f => setterNames.contains f) = true := by
  decide +kernel

/-- conversely every modelled setter is a writer in the source, and it assigns exactly the
    variables the model's `step` assigns (`modelWrites`, cf. `C18_frame`) -/
theorem C18_writers_match_model (c : Call) :
    Generated.globalWriters.lookup (goName c) = some (modelWrites c) := by
  cases c <;> rfl

/-- entry-wise agreement outside the names in `w` may be shown after overwriting position `i` of
    the second list, if the entry at `i` is named in `w` -/
theorem frame_set {w : List String} {n : String} (hn : n ∈ w) {kv : String × Str} :
    ∀ {d d' : List (String × Str)} (i : Nat), d[i]?.map Prod.fst = some n →
      (∀ p ∈ List.zip d (d'.set i kv), p.1 = p.2 ∨ p.1.1 ∈ w) →
      ∀ p ∈ List.zip d d', p.1 = p.2 ∨ p.1.1 ∈ w := by
  intro d
  induction d with
  | nil => intro _ _ _ _ p hp; simp at hp
  | cons a as ih =>
    intro d' i hi h
    cases d' with
    | nil => intro p hp; simp at hp
    | cons b bs =>
      cases i with
      | zero =>
        simp only [List.set_cons_zero, List.zip_cons_cons, List.forall_mem_cons] at h ⊢
        simp only [List.getElem?_cons_zero, Option.map_some, Option.some.injEq] at hi
        exact ⟨.inr (hi ▸ hn), h.2⟩
      | succ i =>
        simp only [List.set_cons_succ, List.zip_cons_cons, List.forall_mem_cons] at h ⊢
        exact ⟨h.1, ih i (by simpa using hi) h.2⟩

theorem frame_refl {w : List String} {d : List (String × Str)} :
    ∀ p ∈ List.zip d d, p.1 = p.2 ∨ p.1.1 ∈ w := by
  rw [List.zip_eq_zipWith, List.zipWith_self]
  exact List.forall_mem_map.2 fun _ _ => .inl rfl

/-- frame ("only their documented effect"): a call changes no variable outside `modelWrites`
    (the dumps before and after agree entry-wise except at those names) -/
theorem C18_frame (st : St) (c : Call) :
    ∀ p ∈ List.zip (dump st) (dump (step st c)), p.1 = p.2 ∨ p.1.1 ∈ modelWrites c := by
  -- per call: the positions of `dump` it writes; with the old entries put back there the new dump
  -- is the old one, which the closing `frame_refl` checks by unification (all 29 entries at once)
  cases c with
  | setGlobalKeyMapPrefix s =>
    exact frame_set (by simp [modelWrites]) 0 rfl <| frame_set (by simp [modelWrites]) 1 rfl <|
      frame_set (by simp [modelWrites]) 2 rfl <| frame_set (by simp [modelWrites]) 3 rfl <|
      frame_set (by simp [modelWrites]) 4 rfl <| frame_set (by simp [modelWrites]) 5 rfl <|
      frame_set (by simp [modelWrites]) 6 rfl <| frame_set (by simp [modelWrites]) 7 rfl frame_refl
  | includeTagSeqNum b => exact frame_set (.head _) 8 rfl frame_refl
  | coerceKeysToLower b => exact frame_set (.head _) 9 rfl frame_refl
  | disableTrimWhiteSpace b =>
    exact frame_set (.head _) 10 rfl (frame_set (.tail _ (.head _)) 11 rfl frame_refl)
  | prependAttrWithHyphen v =>
    cases v <;> exact frame_set (.head _) 12 rfl (frame_set (.tail _ (.head _)) 13 rfl frame_refl)
  | setAttrPrefix s =>
    exact frame_set (.head _) 12 rfl (frame_set (.tail _ (.head _)) 13 rfl frame_refl)
  | coerceKeysToSnakeCase b => exact frame_set (.head _) 14 rfl frame_refl
  | castValuesToInt b => exact frame_set (.head _) 15 rfl frame_refl
  | handleXMPPStreamTag b => exact frame_set (.head _) 16 rfl frame_refl
  | decodeSimpleValuesAsMap b => exact frame_set (.head _) 17 rfl frame_refl
  | castNanInf b => exact frame_set (.head _) 18 rfl frame_refl
  | castValuesToFloat b => exact frame_set (.head _) 19 rfl frame_refl
  | castValuesToBool b => exact frame_set (.head _) 20 rfl frame_refl
  | setCheckTagToSkipFunc r => exact frame_set (.head _) 21 rfl frame_refl
  | xmlGoEmptyElemSyntax | xmlDefaultEmptyElemSyntax => exact frame_set (.head _) 22 rfl frame_refl
  | xmlCheckIsValid b => exact frame_set (.head _) 23 rfl frame_refl
  | xmlEscapeChars b => exact frame_set (.head _) 24 rfl frame_refl
  | xmlEscapeCharsDecoder b =>
    exact frame_set (.head _) 24 rfl (frame_set (.tail _ (.head _)) 25 rfl frame_refl)
  | setFieldSeparator s =>
    rcases s with _ | _ | _ <;> exact frame_set (.head _) 26 rfl frame_refl
  | leafUseDotNotation b => exact frame_set (.head _) 27 rfl frame_refl
  | setArraySize n => exact frame_set (.head _) 28 rfl frame_refl

/-! ### non-interference (facts) -/

/-- attribute prefix and case folding are not read anywhere in the transitive callees of the
    sequence codec and the JSON functions -/
theorem C18_seq_json_ignore_prefix_and_case (root g : String)
    (hr : root ∈ Generated.seqJsonRoots) (h : Facts.Reach root g) :
    "lowerCase" ∉ Facts.readsOf g ∧ "attrPrefix" ∉ Facts.readsOf g ∧
      "lenAttrPrefix" ∉ Facts.readsOf g := by
  have key := fun v => Facts.not_reads_of_cert (v := v)
    (show Facts.cert Generated.seqJsonRoots Generated.seqJsonRootsClosure
      (Facts.readsNone ["lowerCase", "attrPrefix", "lenAttrPrefix"]) = true by decide +kernel) hr h
  exact ⟨key _ (by simp), key _ (by simp), key _ (by simp)⟩

/-- … and the encoder switches are not read by any decoder -/
theorem C18_decoders_ignore_encoder_switches (root g : String)
    (hr : root ∈ Generated.decoderRoots) (h : Facts.Reach root g) :
    "xmlEscapeChars" ∉ Facts.readsOf g ∧ "useGoXmlEmptyElemSyntax" ∉ Facts.readsOf g ∧
      "xmlCheckIsValid" ∉ Facts.readsOf g := by
  have key := fun v => Facts.not_reads_of_cert (v := v)
    (show Facts.cert Generated.decoderRoots Generated.decoderRootsClosure
      (Facts.readsNone ["xmlEscapeChars", "useGoXmlEmptyElemSyntax", "xmlCheckIsValid"]) = true
      by decide +kernel) hr h
  exact ⟨key _ (by simp), key _ (by simp), key _ (by simp)⟩

/-- the root sets are not vacuous -/
theorem C18_roots_nonempty :
    18 ≤ Generated.seqJsonRoots.length ∧ 13 ≤ Generated.decoderRoots.length := by decide +kernel

/-! ### non-vacuity: a concrete history -/

def sampleHistory : List Call :=
  [.xmlEscapeChars none, .setGlobalKeyMapPrefix ['_'], .xmlEscapeCharsDecoder (some true),
   .setAttrPrefix ['@'], .disableTrimWhiteSpace none, .xmlEscapeChars (some true)]

example : punctPrefixes sampleHistory = true := by decide +kernel

/-- its final state: keys re-prefixed, decoder switch on and (because of it) the encoder
    switch off although it was requested last -/
example : run dflt sampleHistory =
    { dflt with textK := "_text".toList, seqK := "_seq".toList, commentK := "_comment".toList,
                attrK := "_attr".toList, directiveK := "_directive".toList,
                procinstK := "_procinst".toList, targetK := "_target".toList,
                instK := "_inst".toList, attrPrefix := ['@'], lenAttrPrefix := 1,
                disableTrimWhiteSpace := true, trimRunes := trimKeep,
                xmlEscapeChars := false, xmlEscapeCharsDecoder := true } := by
  repeat rw [String.toList_ofList]
  decide +kernel

example : run dflt sampleHistory ≠ dflt := by decide +kernel
example : run (run dflt sampleHistory) restoreCalls = dflt := by decide +kernel
example : run (run dflt sampleHistory) restoreCalls = dflt := C18_restore _ (by decide +kernel)

/-- while the decoder switch is on, XMLEscapeChars(true) is ignored -/
example : (run (run dflt [.xmlEscapeCharsDecoder none]) [.xmlEscapeChars (some true)]).xmlEscapeChars
    = false := by decide +kernel

end Mxj.C18
