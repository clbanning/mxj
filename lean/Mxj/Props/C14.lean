/-
  Mxj.Props.C14 — "Casting changes only leaf types, predictably, and never yields NaN or Inf".

  * the decision chain of `cast` (documented order: skip-tag, cast flag, NaN/Inf word guard, int,
    uint, float with the special-value guard, bool screen), one characterisation per branch;
  * no numeric result is NaN/±Inf unless CastNanInf is on — for ANY `Strconv`;
  * un-cast decoding yields only string leaves (plus the `_seq` numbers);
  * decoding with the cast flag yields the same structure and keys as decoding without it, each
    string leaf `s` replaced by `cast S c s t` — for every token stream, fuel and outcome.
-/
import Mxj.Lemmas.Cast
namespace Mxj.C14
open Mxj

/-! ### the decision chain -/

/-- cast flag off: nothing is cast -/
theorem C14_cast_off (S : Strconv) (c : CastCfg) (s t : Str) (h : c.r = false) :
    cast S c s t = .str s := cast_off S c s t h

/-- a registered skip function that accepts the (non-empty) key: nothing is cast -/
theorem C14_cast_skip (S : Strconv) (c : CastCfg) (s t : Str)
    (h : c.skipSet = true) (ht : t ≠ []) (hm : t ∈ c.skip) : cast S c s t = .str s := by
  rw [cast_eq, if_pos]
  simp [castSkipped, h, ht, hm]

/-- the result is the identical string, a number or a boolean — never a list, map or null -/
theorem C14_cast_result (S : Strconv) (c : CastCfg) (s t : Str) :
    cast S c s t = .str s ∨ (∃ x, cast S c s t = .num x) ∨ (∃ b, cast S c s t = .bool b) :=
  cast_result S c s t

/-- "past the first two guards": not skipped and the cast flag is on -/
def Active (c : CastCfg) (t : Str) : Prop := castSkipped c t = false ∧ c.r = true

/-- not skipped ⇔ no function registered, or empty key, or the function rejects the key -/
theorem C14_not_skipped_iff (c : CastCfg) (t : Str) :
    castSkipped c t = false ↔ (c.skipSet = false ∨ t = [] ∨ t ∉ c.skip) := by
  cases t with
  | nil => simp [castSkipped]
  | cons a r =>
    cases hs : c.skipSet <;> simp [castSkipped, hs]

/-- the whole chain as one equation (`castChain` is the int / uint / float / bool part) -/
theorem C14_cast_eq (S : Strconv) (c : CastCfg) (s t : Str) :
    cast S c s t =
      if castSkipped c t then .str s
      else if !c.r then .str s
      else if !c.nanInf && isNanInfWord S s then .str s
      else castChain S c s := cast_eq S c s t

/-- NaN/Inf word guard: unless CastNanInf, "nan", "inf", "-inf" in any letter case stay strings -/
theorem C14_cast_nanword (S : Strconv) (c : CastCfg) (s t : Str)
    (hn : c.nanInf = false) (hw : isNanInfWord S s = true) : cast S c s t = .str s := by
  rw [cast_eq, hn, hw]; cases castSkipped c t <;> cases c.r <;> rfl

/-- the NaN/Inf word guard does not fire -/
def Unguarded (S : Strconv) (c : CastCfg) (s : Str) : Prop :=
  c.nanInf = true ∨ isNanInfWord S s = false

theorem cast_active (S : Strconv) (c : CastCfg) (s t : Str) (ha : Active c t)
    (hg : Unguarded S c s) : cast S c s t = castChain S c s := by
  apply cast_eq_chain S c s t ha.1 ha.2
  rcases hg with h | h <;> simp [h]

/-- int: CastValuesToInt on and ParseInt succeeds -/
theorem C14_cast_int (S : Strconv) (c : CastCfg) (s t x : Str) (ha : Active c t)
    (hg : Unguarded S c s) (hi : c.toInt = true) (hp : S.parseInt s = some x) :
    cast S c s t = .num x := by
  rw [cast_active S c s t ha hg]; exact castChain_int S c s x hi hp

/-- uint: ParseInt fails, ParseUint succeeds -/
theorem C14_cast_uint (S : Strconv) (c : CastCfg) (s t x : Str) (ha : Active c t)
    (hg : Unguarded S c s) (hi : c.toInt = true) (hp : S.parseInt s = none)
    (hu : S.parseUint s = some x) : cast S c s t = .num x := by
  rw [cast_active S c s t ha hg]; exact castChain_uint S c s x hi hp hu

/-- float: no integer result, ParseFloat succeeds with an ordinary value (or CastNanInf is on) -/
theorem C14_cast_float (S : Strconv) (c : CastCfg) (s t x : Str) (sp : Bool) (ha : Active c t)
    (hg : Unguarded S c s) (hi : noInt S c s) (hf : c.toFloat = true)
    (hp : S.parseFloat s = some (x, sp)) (hsp : c.nanInf = true ∨ sp = false) :
    cast S c s t = .num x := by
  rw [cast_active S c s t ha hg]; exact castChain_float S c s x sp hi hf hp hsp

/-- float guard: ParseFloat yields NaN/±Inf (any spelling, e.g. "1e999", "Infinity") and
    CastNanInf is off: the string is returned — the bool step is NOT tried -/
theorem C14_cast_float_special (S : Strconv) (c : CastCfg) (s t x : Str) (ha : Active c t)
    (hg : Unguarded S c s) (hi : noInt S c s) (hf : c.toFloat = true)
    (hp : S.parseFloat s = some (x, true)) (hn : c.nanInf = false) : cast S c s t = .str s := by
  rw [cast_active S c s t ha hg]; exact castChain_float_special S c s x hi hf hp hn

/-- bool: no integer, no float, passes the screen, ParseBool succeeds -/
theorem C14_cast_bool (S : Strconv) (c : CastCfg) (s t : Str) (b : Bool) (ha : Active c t)
    (hg : Unguarded S c s) (hi : noInt S c s) (hf : noFloat S c s) (hb : c.toBool = true)
    (hscr : boolScreen s = true) (hp : parseBool s = some b) : cast S c s t = .bool b := by
  rw [cast_active S c s t ha hg]; exact castChain_bool S c s b hi hf hb hscr hp

/-- otherwise: the identical string -/
theorem C14_cast_fallthrough (S : Strconv) (c : CastCfg) (s t : Str) (ha : Active c t)
    (hg : Unguarded S c s) (hi : noInt S c s) (hf : noFloat S c s)
    (hb : c.toBool = false ∨ boolScreen s = false ∨ parseBool s = none) : cast S c s t = .str s := by
  rw [cast_active S c s t ha hg]; exact castChain_str S c s hi hf hb

/-- the key is consulted by the skip test only -/
theorem C14_cast_key_irrelevant (S : Strconv) (c : CastCfg) (s t t' : Str) (h : c.skipSet = false) :
    cast S c s t = cast S c s t' := by
  rw [cast_eq, cast_eq]; simp [castSkipped, h]

/-- a boolean result is what ParseBool says -/
theorem C14_cast_bool_sound (S : Strconv) (c : CastCfg) (s t : Str) (b : Bool)
    (h : cast S c s t = .bool b) : c.toBool = true ∧ parseBool s = some b := by
  have hne : cast S c s t ≠ .str s := by rw [h]; intro e; cases e
  obtain ⟨_, _, _, hc⟩ := cast_ne_str_guards S c s t hne
  rw [hc] at h
  rcases castChain_cases S c s with ⟨y, e, _⟩ | ⟨y, sp, e, _⟩ | ⟨b', e, hb⟩ | e <;> rw [e] at h <;> cases h
  exact hb

/-! ### never NaN / Inf unless CastNanInf -/

/-- for ANY Strconv, a numeric result came from an integer parser or from a ParseFloat that
    reported a non-special value -/
theorem C14_no_naninf (S : Strconv) (c : CastCfg) (s t x : Str) (hn : c.nanInf = false)
    (h : cast S c s t = .num x) :
    (c.toInt = true ∧ (S.parseInt s = some x ∨ S.parseUint s = some x)) ∨
    (c.toFloat = true ∧ S.parseFloat s = some (x, false)) := by
  have hne : cast S c s t ≠ .str s := by rw [h]; intro e; cases e
  obtain ⟨_, _, _, hc⟩ := cast_ne_str_guards S c s t hne
  rw [hc] at h
  rcases castChain_cases S c s with ⟨y, e, hi, hp⟩ | ⟨y, sp, e, _, hf, hpf, hsp⟩ | ⟨b, e, _⟩ | e <;>
    rw [e] at h <;> cases h
  · exact .inl ⟨hi, hp.imp_right And.right⟩
  · rcases hsp with hsp | hsp
    · rw [hn] at hsp; cases hsp
    · subst hsp; exact .inr ⟨hf, hpf⟩

/-- and the text was none of the NaN/Inf words -/
theorem C14_no_naninf_word (S : Strconv) (c : CastCfg) (s t : Str) (hn : c.nanInf = false)
    (h : cast S c s t ≠ .str s) : isNanInfWord S s = false := by
  obtain ⟨_, _, hg, _⟩ := cast_ne_str_guards S c s t h
  simpa [hn] using hg

/-! ### un-cast decoding -/

/-- un-cast decoding yields only string leaves (apart from the `_seq` numbers) -/
theorem C14_uncast_strings (cfg : DecCfg) (S : Strconv) (fin : StreamEnd) (toks : List Tok) (v : Val)
    (hr : cfg.cast.r = false) (h : newMapXml cfg S toks fin = .ok v) : onlyStrLeaves v = true := by
  have h := strLeaves_newMapXml cfg S fin toks v hr h
  revert h
  cases cfg.seqNum
  · exact strLeaves_mono v
  · exact id

/-- without tag sequence numbers there is no number anywhere -/
theorem C14_uncast_strings_noseq (cfg : DecCfg) (S : Strconv) (fin : StreamEnd) (toks : List Tok)
    (v : Val) (hr : cfg.cast.r = false) (hs : cfg.seqNum = false)
    (h : newMapXml cfg S toks fin = .ok v) : allStrLeaves v = true := by
  have := strLeaves_newMapXml cfg S fin toks v hr h
  rw [hs] at this; exact this

/-! ### same structure, leaf-wise cast -/

/-- decoding with the cast flag relates leaf-wise to decoding the same tokens without it; the
    error / eof / panic outcomes are identical -/
theorem C14_structure (cfg : DecCfg) (S : Strconv) (fin : StreamEnd) (toks : List Tok) :
    let cfg0 := { cfg with cast := { cfg.cast with r := false } }
    match newMapXml cfg0 S toks fin, newMapXml cfg S toks fin with
    | .ok v0, .ok v => CastRel S cfg.cast v0 v
    | .eof, .eof => True | .syntax, .syntax => True | .err a, .err b => a = b | .panic a, .panic b => a = b
    | _, _ => False := by
  intro cfg0
  have h : Outcome.Rel (CastRel S cfg.cast) (newMapXml cfg0 S toks fin) (newMapXml cfg S toks fin) := by
    rw [Dec.newMapXml_eq, Dec.newMapXml_eq]
    exact (CastRel_decodeTop cfg S fin _ toks).bind fun _ _ _ _ h => (CastRel_iff S cfg.cast _ _).2 h.1
  revert h
  cases newMapXml cfg0 S toks fin <;> cases newMapXml cfg S toks fin <;> exact id

/-- the same at every fuel, for the element loop from related states (also: same unread tokens) -/
theorem C14_structure_parseElem (cfg : DecCfg) (S : Strconv) (fin : StreamEnd) (f : Nat) (skey : Str)
    (na nb : Entries) (n m : Option Val) (seq : Nat) (pend : Option Str) (toks : List Tok)
    (hE : CastRelEntries S cfg.cast na nb) (hn : CastRelOpt S cfg.cast n m) :
    CastRelOut S cfg.cast (parseElem (uncastCfg cfg) S fin f skey na n seq pend toks)
      (parseElem cfg S fin f skey nb m seq pend toks) :=
  (CastRelOut_iff ..).2 (CastRel_parseElem cfg S fin f
    ((CastRelEntries_iff ..).1 hE)
    (by cases n <;> cases m <;> first | exact hn | exact (CastRel_iff ..).1 hn))

theorem C14_structure_decodeTop (cfg : DecCfg) (S : Strconv) (fin : StreamEnd) (f : Nat)
    (toks : List Tok) :
    CastRelOut S cfg.cast (decodeTop (uncastCfg cfg) S fin f toks) (decodeTop cfg S fin f toks) :=
  (CastRelOut_iff ..).2 (CastRel_decodeTop cfg S fin f toks)

/-- what the relation says at a map: same keys, same order -/
theorem C14_rel_keys (S : Strconv) (c : CastCfg) (a : Entries) (w : Val)
    (h : CastRel S c (.map a) w) : ∃ b, w = .map b ∧ keys a = keys b ∧ CastRelEntries S c a b := by
  obtain ⟨b, rfl, hb⟩ := h
  exact ⟨b, rfl, CastSeq.LRelEntries_keys ((CastRelEntries_iff S c a b).1 hb), hb⟩

/-- at a list: same length, element-wise related -/
theorem C14_rel_list (S : Strconv) (c : CastCfg) (xs : List Val) (w : Val)
    (h : CastRel S c (.list xs) w) : ∃ ys, w = .list ys ∧ xs.length = ys.length ∧ CastRelList S c xs ys := by
  obtain ⟨ys, rfl, hb⟩ := h
  exact ⟨ys, rfl, CastSeq.LRelList_length ((CastRelList_iff S c xs ys).1 hb), hb⟩

/-- at a string leaf: the cast of that very text (the empty value of an empty element is not
    passed to `cast` and stays "") -/
theorem C14_rel_leaf (S : Strconv) (c : CastCfg) (s : Str) (w : Val) (h : CastRel S c (.str s) w) :
    (s = [] ∧ w = .str []) ∨ ∃ t, w = cast S c s t := h

theorem rel_off_list (S : Strconv) (c : CastCfg) (hr : c.r = false) :
    ∀ (xs ys : List Val), CastRelList S c xs ys → ys = xs :=
  fun xs ys h => CastSeq.LRelList_eq (castLeaf_off S c hr) xs ys ((CastRelList_iff S c xs ys).1 h)
theorem rel_off_entries (S : Strconv) (c : CastCfg) (hr : c.r = false) :
    ∀ (a b : Entries), CastRelEntries S c a b → b = a :=
  fun a b h => CastSeq.LRelEntries_eq (castLeaf_off S c hr) a b ((CastRelEntries_iff S c a b).1 h)

/-- the relation is not vacuous: with the cast flag off it is equality -/
theorem C14_rel_off (S : Strconv) (c : CastCfg) (hr : c.r = false) (v w : Val)
    (h : CastRel S c v w) : w = v :=
  CastSeq.LRel_eq (castLeaf_off S c hr) v w ((CastRel_iff S c v w).1 h)

/-! ### non-vacuity: a small concrete `Strconv` -/

/-- knows the integers "42", "-7", the floats "3.5", "1e999" (= +Inf), "NaN", "Inf";
    lower-cases ASCII -/
def demoConv : Strconv where
  parseInt s := if s = "42".toList then some "i:42".toList
    else if s = "-7".toList then some "i:-7".toList else none
  parseUint s := if s = "42".toList then some "u:42".toList else none
  parseFloat s :=
    if s = "3.5".toList then some ("f:3.5".toList, false)
    else if s = "42".toList then some ("f:42".toList, false)
    else if s = "1e999".toList then some ("f:+Inf".toList, true)
    else if s = "NaN".toList then some ("f:NaN".toList, true)
    else if s = "Inf".toList then some ("f:+Inf".toList, true)
    else none
  lower s := s.map Char.toLower

def onCfg : CastCfg := { r := true }
def intCfg : CastCfg := { r := true, toInt := true }
def nanCfg : CastCfg := { r := true, nanInf := true }
def skipCfg : CastCfg := { r := true, skipSet := true, skip := ["id".toList] }

example : cast demoConv onCfg "3.5".toList "k".toList = .num "f:3.5".toList := by decide +kernel
example : cast demoConv onCfg "true".toList "k".toList = .bool true := by decide +kernel
example : cast demoConv onCfg "False".toList "k".toList = .bool false := by decide +kernel
example : cast demoConv onCfg "NaN".toList "k".toList = .str "NaN".toList := by decide +kernel
example : cast demoConv onCfg "Inf".toList "k".toList = .str "Inf".toList := by decide +kernel
example : cast demoConv onCfg "1e999".toList "k".toList = .str "1e999".toList := by decide +kernel
example : cast demoConv nanCfg "NaN".toList "k".toList = .num "f:NaN".toList := by decide +kernel
example : cast demoConv nanCfg "1e999".toList "k".toList = .num "f:+Inf".toList := by decide +kernel
example : cast demoConv onCfg "42".toList "k".toList = .num "f:42".toList := by decide +kernel
example : cast demoConv intCfg "42".toList "k".toList = .num "i:42".toList := by decide +kernel
example : cast demoConv onCfg "hello".toList "k".toList = .str "hello".toList := by decide +kernel
example : cast demoConv onCfg "truthy".toList "k".toList = .str "truthy".toList := by decide +kernel
example : cast demoConv {} "3.5".toList "k".toList = .str "3.5".toList := by decide +kernel
example : cast demoConv skipCfg "3.5".toList "id".toList = .str "3.5".toList := by decide +kernel
example : cast demoConv skipCfg "3.5".toList "k".toList = .num "f:3.5".toList := by decide +kernel

def okVal : Outcome Val → Option Val
  | .ok v => some v
  | _ => none

/-- `<a id="42"><b>3.5</b><b>true</b><c>NaN</c><d/></a>` -/
def demoToks : List Tok :=
  [.start [] "a".toList [⟨[], "id".toList, "42".toList⟩],
   .start [] "b".toList [], .text "3.5".toList, .stop [] "b".toList,
   .start [] "b".toList [], .text "true".toList, .stop [] "b".toList,
   .start [] "c".toList [], .text "NaN".toList, .stop [] "c".toList,
   .start [] "d".toList [], .stop [] "d".toList,
   .stop [] "a".toList]

example : okVal (newMapXml { cast := onCfg } demoConv demoToks .eof) =
    some (.map [("a".toList, .map [("-id".toList, .num "f:42".toList),
      ("b".toList, .list [.num "f:3.5".toList, .bool true]),
      ("c".toList, .str "NaN".toList), ("d".toList, .str [])])]) := by
  decide +kernel

example : okVal (newMapXml {} demoConv demoToks .eof) =
    some (.map [("a".toList, .map [("-id".toList, .str "42".toList),
      ("b".toList, .list [.str "3.5".toList, .str "true".toList]),
      ("c".toList, .str "NaN".toList), ("d".toList, .str [])])]) := by
  decide +kernel

/-- why `CastRel` has the disjunct "`s = []` and the leaf stays `\"\"`": the value `""` of an empty
    element is produced by the EndElement case without calling `cast`; for an arbitrary `Strconv`
    (here one whose ParseInt accepts the empty text) `cast` of `""` is not `""` -/
def emptyIntConv : Strconv where
  parseInt s := if s = [] then some "i:0".toList else none
  parseUint _ := none
  parseFloat _ := none
  lower s := s

example : okVal (newMapXml { cast := intCfg } emptyIntConv [.start [] "a".toList [], .stop [] "a".toList] .eof)
    = some (.map [("a".toList, .str [])]) := by decide +kernel
example (t : Str) : cast emptyIntConv intCfg [] t = .num "i:0".toList := by
  rw [C14_cast_key_irrelevant emptyIntConv intCfg [] t [] rfl]; decide

end Mxj.C14
