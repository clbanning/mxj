/-
  Mxj.Props.C18ExtCfg — what an option history means for the codecs.

  `Opt.cfgOfState` / `Opt.encOfState` say which package variables the decoder and encoder models
  read (the driver's `optdoc` op decodes under `cfgOfState (run dflt history)` and is compared
  with `NewMapXml` after the same history on every run).  The theorems: restoring the defaults
  restores the default configurations; the decoder configuration evolves on its own
  (`stepCfg`: no call makes it depend on an encoder-side variable), so the encoder-side calls -
  wherever they stand in a history - never change what a decoder does afterwards.
-/
import Mxj.Props.C18
import Mxj.Model.OptCfg
namespace Mxj.C18
open Mxj Mxj.Opt

/-- a fresh process decodes with the default configuration -/
theorem C18_cfg_fresh (cast : Bool) : cfgOfState dflt cast = { cast := { r := cast } } := rfl

theorem C18_enc_fresh : encOfState dflt = {} := rfl

/-- after ANY history (punctuation key prefixes) followed by the restoring calls, the decoders
    and the encoders are configured as in a fresh process -/
theorem C18_cfg_restore (calls : List Call) (h : punctPrefixes calls = true) (cast : Bool) :
    cfgOfState (run (run dflt calls) restoreCalls) cast = { cast := { r := cast } }
      ∧ encOfState (run (run dflt calls) restoreCalls) = {} := by
  rw [C18_restore calls h]; exact ⟨rfl, rfl⟩

/-- the decoder configuration is a state machine of its own: what a call does to it is a
    function of the decoder configuration alone (no encoder-side variable is ever read) -/
theorem C18_cfg_step (st : St) (c : Call) (cast : Bool) :
    cfgOfState (step st c) cast = stepCfg (cfgOfState st cast) c := by
  cases c with
  | prependAttrWithHyphen v => cases v <;> rfl
  | setFieldSeparator s => rcases s with _ | _ | _ <;> rfl
  | _ => rfl

theorem C18_cfg_run (calls : List Call) (st : St) (cast : Bool) :
    cfgOfState (run st calls) cast = calls.foldl stepCfg (cfgOfState st cast) := by
  induction calls generalizing st with
  | nil => rfl
  | cons c cs ih =>
    show cfgOfState (run (step st c) cs) cast = _
    rw [ih (step st c), C18_cfg_step]; rfl

/-- an encoder-side call does nothing to the decoder configuration -/
theorem C18_cfg_encoder_call (cfg : DecCfg) (c : Call) (hc : encoderOnly c = true) :
    stepCfg cfg c = cfg := by
  cases c <;> simp [encoderOnly] at hc <;> rfl

/-- decoders ignore the encoder switches: the decoder configuration after a history is the one
    after the same history with every encoder-side call (Go empty-element syntax, validity check,
    encoder-side escaping, field separator, dot notation, array size, skip function, XMPP switch)
    removed, wherever those calls stand -/
theorem C18_decoder_ignores_encoder_calls (calls : List Call) (st : St) (cast : Bool) :
    cfgOfState (run st calls) cast
      = cfgOfState (run st (calls.filter (fun c => !encoderOnly c))) cast := by
  rw [C18_cfg_run, C18_cfg_run]
  generalize cfgOfState st cast = cfg
  induction calls generalizing cfg with
  | nil => rfl
  | cons c cs ih =>
    by_cases hc : encoderOnly c = true
    · rw [List.filter_cons_of_neg (by simpa using hc)]
      show cs.foldl stepCfg (stepCfg cfg c) = _
      rw [C18_cfg_encoder_call cfg c hc]; exact ih cfg
    · rw [List.filter_cons_of_pos (by simpa using hc)]
      exact ih (stepCfg cfg c)

/-- non-vacuity: a history mixing both kinds of calls -/
example : cfgOfState (run dflt [.xmlEscapeChars (some true), .coerceKeysToLower none, .xmlGoEmptyElemSyntax,
      .setGlobalKeyMapPrefix ['%'], .setFieldSeparator (some ['|']), .castValuesToInt (some true)]) true
    = { lowerCase := true, textK := "%text".toList, cast := { r := true, toInt := true } } := by
  rfl

end Mxj.C18
