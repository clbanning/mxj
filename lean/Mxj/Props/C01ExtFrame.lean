/-
  Mxj.Props.C01ExtFrame — frame of C01's API over the package-level state, on facts regenerated from
  /repo's current source on every run: the Map decoders read decoder options only (with the text key
  and the escape table; no encoder switch, no query option, no variable added later);
  and none of them (nor any function they can reach) assigns a package-level variable, so what they
  return is a function of their arguments and of exactly those variables - no hidden state carried
  from one call to the next.
-/
import Mxj.Lemmas.Facts
namespace Mxj.C01
open Mxj

/-- the package-level variables C01's functions may read -/
def frameAllowed : List String := ["CustomDecoder", "XmlCharsetReader", "attrPrefix", "castNanInf", "castToBool", "castToFloat", "castToInt", "checkTagToSkip", "decodeSimpleValuesAsMap", "escapechars", "handleXMPPStreamTag", "includeTagSeqNum", "lowerCase", "snakeCaseKeys", "textK", "trimRunes", "xmlEscapeCharsDecoder"]

theorem frame_cert :
    Facts.cert Generated.c01FrameRoots Generated.c01FrameRootsClosure (Facts.frameOk frameAllowed)
      = true := by decide +kernel

theorem C01_frame_reads (root g v : String) (hr : root ∈ Generated.c01FrameRoots)
    (h : Facts.Reach root g) (hv : v ∈ Facts.readsOf g) : v ∈ frameAllowed :=
  Facts.reads_of_frame frame_cert hr h hv

theorem C01_frame_no_hidden_state (root g : String) (hr : root ∈ Generated.c01FrameRoots)
    (h : Facts.Reach root g) : Facts.writesOf g = [] :=
  Facts.writes_of_frame frame_cert hr h

/-- the statements are not vacuous: the API group is present in the source -/
theorem C01_frame_roots_present : Generated.c01FrameRoots.length ≥ 1 := by decide +kernel

end Mxj.C01
