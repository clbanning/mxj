/-
  "JSON-shaped data survives encoding", carried over to the INDENTED encoder
  `Map.XmlIndent(prefix, indent, rootTag...)` (model `mapXmlIndent`): nothing is lost,
  duplicated or moved by `XmlIndent` either.

  Level: tree / token.  The statement THROUGH BYTES and the tokenizer model exists for the
  compact encoder (Props/C03ExtTok); for the indented bytes it is not composed, for two reasons:
  (i) the tokenizer law `C02.TokLaw` (proved for the model in Props/C02ExtTok) speaks about
  `tokens (render cfg n)` for a `WellNamed n` only, and `WellNamed` includes `noAdjText`; the
  layout tree has ADJACENT text nodes wherever an element has element children (the `"\n"` behind
  a child is followed by the padding of the next one, and an element's own text by the first
  `"\n" ++ padding`), for which a tokenizer reports ONE CharData token; (ii) the prefix stands in
  front of the root element, outside any `render`.  The decoder's half is there: it does not see
  how a run of character data is split into text tokens (`C01.C01_bytes_run_split_irrelevant`,
  `Surf.onText_split`; for the sequence decoder `C04_indent_decode_merged`).  What is missing is
  the tokenizer's half: the tokens of the rendering of a tree with adjacent text nodes.
-/
import Mxj.Lemmas.IndentCor
import Mxj.Props.C01
import Mxj.Props.C02
import Mxj.Props.C02ExtIndent
import Mxj.Props.C03
namespace Mxj.C03
open Mxj Mxj.Enc

theorem C03_indent_root_domain (m : Entries) (rt : Option Str) (hdom : EncDomain (.map m) = true) :
    EncDomain (mapXmlIndentRoot m rt).2 = true ∧ (mapXmlIndentRoot m rt).2.isList = false :=
  ⟨mapXmlIndentRoot_domain m rt hdom, mapXmlIndentRoot_not_list m rt⟩

/-- TREE / TOKEN LEVEL, every Map of the C03 domain, every root tag, prefix and indent:
    the encoder builds ONE tree `n` for the root `XmlIndent` picks; the decoding conventions
    applied to `n` give `{root: image}`; and if every character of prefix and indent is in the
    (default) decoder's trim set, decoding the INDENTED token stream — the prefix as a text
    token, then the tokens of the layout tree — gives a Map equal, up to the order of map
    entries, to `{root: image}`: every key with its value, every list in list order, attributes
    as attributes, text as text; the layout contributes nothing -/
theorem C03_indent_tree_preserves (S : Strconv) (fin : StreamEnd) (pfx indent : Str) (m : Entries)
    (rootTag : Option Str) (hdom : EncDomain (.map m) = true)
    (hpfx : inTrim dc pfx) (hind : inTrim dc indent) :
    ∃ n, encTree ec (mapXmlIndentRoot m rootTag).1 (mapXmlIndentRoot m rootTag).2.norm = .ok [n]
      ∧ siblingsValue dc S [n]
          = imageUnder (mapXmlIndentRoot m rootTag).1 (mapXmlIndentRoot m rootTag).2.norm
      ∧ Conv.doc dc S n
          ≈ᵥ imageUnder (mapXmlIndentRoot m rootTag).1 (mapXmlIndentRoot m rootTag).2
      ∧ ∃ v, newMapXml dc S (docToksI pfx indent n) fin = .ok v
          ∧ v ≈ᵥ imageUnder (mapXmlIndentRoot m rootTag).1 (mapXmlIndentRoot m rootTag).2 := by
  obtain ⟨hd, hl⟩ := C03_indent_root_domain m rootTag hdom
  generalize (mapXmlIndentRoot m rootTag).1 = key at *
  generalize (mapXmlIndentRoot m rootTag).2 = v at *
  have hwf := EncDomain_wf v hd
  obtain ⟨attrs, kids, hns⟩ := encTree_root key hd hl
  have heq : Conv.doc dc S (.elem [] key attrs kids) ≈ᵥ imageUnder key v := by
    rw [← siblingsValue_doc]
    exact C03_encode_preserves' S key v hwf _ hns
  refine ⟨_, hns, C03_encode_preserves_norm S key v hwf _ hns, heq, ?_⟩
  have hin : Conv.inDomain dc S (.elem [] key attrs kids) = true :=
    (encTree_dom S key v.norm _ hns).inDomain (List.mem_singleton.2 rfl)
  have hadj : noAdjText (.elem [] key attrs kids) = true := encTree_noAdjText key v.norm _ hns
  obtain ⟨w, hw, hwe⟩ :=
    C01.C01_decode_conventions dc S fin [] [] (by simp) [] key attrs kids hin hadj
  refine ⟨w, ?_, Val.equiv_trans hwe heq⟩
  rw [C02.C02_indent_same_decode_trim dc S fin pfx indent hpfx hind]
  simpa using hw

/-- BYTES: with `Plain` and `Regular` (the hypotheses of the indent theorem
    `C02_indent_bytes_eq_renderI`; `Regular` is forced, see below) and a prefix and an indent
    that need no escaping, `XmlIndent` succeeds on the domain and writes the prefix followed by
    the canonical rendering of the layout tree of the tree `n` of `C03_indent_tree_preserves`;
    the compact encoder writes the canonical rendering of `n` itself -/
theorem C03_indent_bytes (pfx indent : Str) (m : Entries) (rootTag : Option Str) (n : Node)
    (hp : Plain ec (.map m) = true) (hr : Regular ec (.map m) = true)
    (hpfx : plainText ec pfx = true) (hind : plainText ec indent = true)
    (hn : encTree ec (mapXmlIndentRoot m rootTag).1 (mapXmlIndentRoot m rootTag).2.norm = .ok [n]) :
    mapXmlIndent ec pfx indent m rootTag = .ok (pfx ++ render ec (layI indent 0 pfx n))
      ∧ marshal ec (mapXmlIndentRoot m rootTag).1 (mapXmlIndentRoot m rootTag).2
          = .ok (render ec n) := by
  constructor
  · rw [C02.C02_indent_bytes_eq_renderI ec pfx indent m rootTag hp hr, hn]
    simp only [Except.map, List.flatMap_cons, List.flatMap_nil, List.append_nil]
    rw [C02.C02_indent_renderI_eq_render ec indent 0 pfx hind hpfx n
      (encTree_isElem ec _ _ _ hn n (List.mem_singleton.2 rfl))]
    simp [nlOf]
  · rw [C02.C02_render_eq_bytes ec _ _ [n] (mapXmlIndentRoot_plain ec m rootTag hp) hn]
    simp

/-- C03 for `XmlIndent`, end to end: a Map of the C03
    domain that is `Plain` and `Regular`, blank / tab prefix and indent.  `XmlIndent` succeeds;
    its bytes are the prefix and the rendering of the layout tree of ONE tree `n`, the tree whose
    conventions-decoding is `{root: image}` (`C03_tree_preserves`); and decoding the indented
    token stream gives a Map `≈ᵥ {root: image}` — the same image the compact encoder is shown to
    preserve, so `XmlIndent` loses, duplicates and moves nothing -/
theorem C03_indent_preserves (S : Strconv) (fin : StreamEnd) (pfx indent : Str) (m : Entries)
    (rootTag : Option Str) (hdom : EncDomain (.map m) = true)
    (hp : Plain ec (.map m) = true) (hr : Regular ec (.map m) = true)
    (hpfx : ∀ c ∈ pfx, c = ' ' ∨ c = '\t') (hind : ∀ c ∈ indent, c = ' ' ∨ c = '\t') :
    ∃ n, encTree ec (mapXmlIndentRoot m rootTag).1 (mapXmlIndentRoot m rootTag).2.norm = .ok [n]
      ∧ mapXmlIndent ec pfx indent m rootTag = .ok (pfx ++ render ec (layI indent 0 pfx n))
      ∧ siblingsValue dc S [n]
          = imageUnder (mapXmlIndentRoot m rootTag).1 (mapXmlIndentRoot m rootTag).2.norm
      ∧ ∃ v, newMapXml dc S (docToksI pfx indent n) fin = .ok v
          ∧ v ≈ᵥ imageUnder (mapXmlIndentRoot m rootTag).1 (mapXmlIndentRoot m rootTag).2 := by
  obtain ⟨n, hn, hs, _, hv⟩ := C03_indent_tree_preserves S fin pfx indent m rootTag hdom
    (inTrim_of_blank dc rfl pfx hpfx) (inTrim_of_blank dc rfl indent hind)
  exact ⟨n, hn, (C03_indent_bytes pfx indent m rootTag n hp hr (plainText_of_blank ec pfx hpfx)
    (plainText_of_blank ec indent hind) hn).1, hs, hv⟩

/-- with a root tag the image is that of the whole Map under the tag -/
theorem C03_indent_preserves_rootTag (S : Strconv) (fin : StreamEnd) (pfx indent : Str)
    (m : Entries) (rt : Str) (hdom : EncDomain (.map m) = true)
    (hp : Plain ec (.map m) = true) (hr : Regular ec (.map m) = true)
    (hpfx : ∀ c ∈ pfx, c = ' ' ∨ c = '\t') (hind : ∀ c ∈ indent, c = ' ' ∨ c = '\t') :
    ∃ n, mapXmlIndent ec pfx indent m (some rt) = .ok (pfx ++ render ec (layI indent 0 pfx n))
      ∧ ∃ v, newMapXml dc S (docToksI pfx indent n) fin = .ok v
          ∧ v ≈ᵥ .map [(rt, image (.map m))] := by
  obtain ⟨n, _, hb, _, hv⟩ := C03_indent_preserves S fin pfx indent m (some rt) hdom hp hr hpfx hind
  exact ⟨n, hb, hv⟩

/-- the extra tokens are white space only and the tree's tokens all survive, in order -/
theorem C03_indent_nothing_dropped (pfx indent : Str) (n : Node) :
    (flatten n).Sublist (docToksI pfx indent n)
      ∧ WsExt (wsOk (pfx ++ indent)) (docToksI pfx indent n) (flatten n) :=
  ⟨C02.C02_indent_tokens_sublist pfx indent n, C02.C02_indent_tokens pfx indent n⟩

/-- outside the domain `XmlIndent` fails as the compact encoder does (every Map) -/
theorem C03_indent_fails_alike (pfx indent : Str) (m : Entries) (rootTag : Option Str)
    (e : ErrKind) :
    mapXmlIndent ec pfx indent m rootTag = .error e
      ↔ marshal ec (mapXmlIndentRoot m rootTag).1 (mapXmlIndentRoot m rootTag).2 = .error e :=
  C02.C02_indent_error_iff ec pfx indent m rootTag e

/-- the C03 sample without its empty list (an empty list is not `Regular`): an attribute entry,
    a text entry with a special character, a list of two maps, a null -/
def indentSample : Entries := [("doc".toList, .map [
  ("note".toList, .map [("-id".toList, .num "i:7".toList), ("#text".toList, .str " a<b ".toList)]),
  ("item".toList, .list [.map [("n".toList, .num "f:1.5".toList)], .map [("n".toList, .bool true)]]),
  ("z".toList, .null)])]

example : EncDomain (.map indentSample) = true := by decide +kernel
example : Plain ec (.map indentSample) = true := by decide +kernel
example : Regular ec (.map indentSample) = true := by decide +kernel

set_option maxRecDepth 4096 in
example : mapXmlIndent ec " ".toList "\t".toList indentSample none = .ok
    (" <doc>\n \t<item>\n \t\t<n>1.5</n>\n \t</item>\n \t<item>\n \t\t<n>true</n>\n \t</item>\n"
      ++ " \t<note id=\"7\"> a&lt;b </note>\n \t<z/>\n </doc>").toList := by
  rw [String.toList_append]
  -- the kernel unfolds `String.toList` of a literal through the UTF-8 decoding of its bytes, at a
  -- cost quadratic in its length: a long literal is first turned into its list of characters
  repeat rw [String.toList_ofList]
  decide +kernel

def indentSampleTree : Node :=
  .elem [] "doc".toList []
    [.elem [] "item".toList [] [.elem [] "n".toList [] [.text "1.5".toList]],
     .elem [] "item".toList [] [.elem [] "n".toList [] [.text "true".toList]],
     .elem [] "note".toList [⟨[], "id".toList, "7".toList⟩] [.text " a<b ".toList],
     .elem [] "z".toList [] []]

example : encTree ec (mapXmlIndentRoot indentSample none).1 (mapXmlIndentRoot indentSample none).2.norm
    = .ok [indentSampleTree] := by decide +kernel

example : newMapXml dc C02.indentS0 (docToksI " ".toList "\t".toList indentSampleTree) .eof
    = .ok (.map [("doc".toList, .map [
        ("item".toList, .list [.map [("n".toList, .str "1.5".toList)],
                               .map [("n".toList, .str "true".toList)]]),
        ("note".toList, .map [("-id".toList, .str "7".toList), ("#text".toList, .str "a<b".toList)]),
        ("z".toList, .str [])])]) := by decide +kernel

example : imageUnder (mapXmlIndentRoot indentSample none).1 (mapXmlIndentRoot indentSample none).2
    = .map [("doc".toList, .map [
        ("note".toList, .map [("-id".toList, .str "7".toList), ("#text".toList, .str "a<b".toList)]),
        ("item".toList, .list [.map [("n".toList, .str "1.5".toList)],
                               .map [("n".toList, .str "true".toList)]]),
        ("z".toList, .str [])])] := by decide +kernel

example : ∃ n v, mapXmlIndent ec " ".toList "\t".toList indentSample none
        = .ok (" ".toList ++ render ec (layI "\t".toList 0 " ".toList n))
      ∧ newMapXml dc C02.indentS0 (docToksI " ".toList "\t".toList n) .eof = .ok v
      ∧ v ≈ᵥ imageUnder (mapXmlIndentRoot indentSample none).1 (mapXmlIndentRoot indentSample none).2 := by
  obtain ⟨n, _, h1, _, v, h2, h3⟩ := C03_indent_preserves C02.indentS0 .eof " ".toList "\t".toList
    indentSample none (by decide +kernel) (by decide +kernel) (by decide +kernel) (by decide +kernel) (by decide +kernel)
  exact ⟨n, v, h1, h2, h3⟩

/-- prefix / indent in the trim set: with `indent = "x"` the layout comes back as a `#text`
    entry that is not in the image -/
example : newMapXml dc C02.indentS0
      (docToksI [] "x".toList (.elem [] "a".toList [] [.elem [] "b".toList [] [.text "v".toList]])) .eof
    = .ok (.map [("a".toList, .map [("b".toList, .str "v".toList), ("#text".toList, .str "x".toList)])]) := by
  decide +kernel
example : imageUnder "a".toList (.map [("b".toList, .str "v".toList)])
    = .map [("a".toList, .map [("b".toList, .str "v".toList)])] := by decide +kernel

/-- `Regular` (for the bytes): the full C03 sample has an empty list, and `XmlIndent` writes it
    (directly below the root) without the newline behind it — `<none/>` and `<note …>` share a
    line; deeper down the padding goes INSIDE the tag (`C02ExtIndent`, counterexample (a)).  That
    is not `prefix ++ render (layI …)` of the encoder's tree. -/
example : Regular ec (.map [("doc".toList, sample)]) = false := by decide +kernel
set_option maxRecDepth 4096 in
example : mapXmlIndent ec [] "  ".toList [("doc".toList, sample)] none = .ok
    ("<doc>\n  <item>\n    <n>1.5</n>\n  </item>\n  <item>\n    <n>true</n>\n  </item>\n"
      ++ "  <none/>  <note id=\"7\"> a&lt;b </note>\n  <z/>\n</doc>").toList := by
  rw [String.toList_append]
  repeat rw [String.toList_ofList]
  decide +kernel

set_option maxRecDepth 4096 in
/-- … whereas the rendering of the layout tree of the encoder's tree has the newline -/
example : (encTree ec "doc".toList sample.norm).map
      (fun ns => ns.flatMap (fun n => render ec (layI "  ".toList 0 [] n))) = .ok
    ("<doc>\n  <item>\n    <n>1.5</n>\n  </item>\n  <item>\n    <n>true</n>\n  </item>\n"
      ++ "  <none/>\n  <note id=\"7\"> a&lt;b </note>\n  <z/>\n</doc>").toList := by
  rw [String.toList_append]
  repeat rw [String.toList_ofList]
  decide +kernel

/-- `EncDomain`: an attribute with a list value is rejected by both encoders -/
example : EncDomain (.map [("r".toList, .map [("-a".toList, .list [])])]) = false := by
  decide +kernel
example : mapXmlIndent ec [] "  ".toList [("r".toList, .map [("-a".toList, .list [])])] none
    = .error .other := by decide +kernel

end Mxj.C03
