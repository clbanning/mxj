/-
  Mxj.Props.C03ExtTok — C03 at BYTE level, through the executable tokenizer model.

  `Props/C03.lean` says that the encoder's TREE decodes to the declared `image`; there "the output
  is well-formed XML" is a matter for the harness.  Here the sentence is proved for the bytes, "well-formed"
  meaning `balanced` (Model/Balanced.lean), a one-pass stack check: start and end tags properly
  nested with matching names, exactly one root element, no character data outside it.

  Tie to Go: for every generated Map the op `xenct` (Driver/OpsEnc.lean) prints the model's
  bytes, the model tokenizer's tokens of them and the verdict of `balanced`; harness/c03.go
  compares them with `mv.Xml()`, the tokens `encoding/xml` reads from it and a Go stack check of
  those tokens (oracle TOKBAL).
-/
import Mxj.Lemmas.EncTok
import Mxj.Props.C02ExtTok
import Mxj.Props.C03
import Mxj.Props.C16
namespace Mxj.C03
open Mxj Mxj.Enc Mxj.Tokz Mxj.EncTok

/-- the token sequence of every element tree — any names, attributes, depth, kinds of
    children — is balanced -/
theorem C03_tok_balanced (sp name : Str) (attrs : List Attr) (kids : List Node) :
    balanced (flatten (.elem sp name attrs kids)) = true := by
  unfold balanced
  rw [← List.append_nil (flatten _), balGo_root]
  rfl

/-- two roots are not balanced: `balanced` does check "exactly one root" -/
theorem C03_tok_two_roots_unbalanced (sp nm sp' nm' : Str) (as as' : List Attr)
    (ks ks' : List Node) (rest : List Tok) :
    balanced (flatten (.elem sp nm as ks) ++ flatten (.elem sp' nm' as' ks') ++ rest) = false := by
  unfold balanced
  rw [List.append_assoc, balGo_root, balGo_root]
  rfl

/-- from a single well-named tree to its bytes, tokens and Map: the tokenizer accepts the
    rendering, the tokens are balanced, and decoding them gives the conventions' document -/
theorem C03_tok_tree (S : Strconv) (fin : StreamEnd) (cfg : EncCfg) (hesc : cfg.escape = true)
    (key : Str) (as : List Attr) (ks : List Node)
    (hW : WellNamed (.elem [] key as ks) = true)
    (hd : Conv.inDomain dc S (.elem [] key as ks) = true) :
    ∃ toks m', tokenize (render cfg (.elem [] key as ks)) = some toks
      ∧ balanced toks = true
      ∧ newMapXml dc S toks fin = .ok m'
      ∧ m' ≈ᵥ siblingsValue dc S [.elem [] key as ks] := by
  obtain ⟨m', hm', hme⟩ := C01.C01_decode_conventions dc S fin [] [] (by simp) [] key as ks hd
    (noAdjText_of_wellNamed hW)
  refine ⟨flatten (.elem [] key as ks), m', C02.C02_tok_escaped cfg _ hesc hW,
    C03_tok_balanced _ _ _ _, by simpa using hm', ?_⟩
  rw [siblingsValue_doc]
  exact hme

/-- C03 at byte level.  For every value of the domain of C03 that is not a list and whose
    encoder tree is well-named, with escaping on: `marshal` succeeds with bytes `out`; the
    tokenizer model accepts `out`; the token stream is balanced (well-formed: properly nested
    matching tags, one root); and the decoder model on those tokens returns a Map equivalent to
    `{key: image v}`. -/
theorem C03_tok_well_formed_tree (S : Strconv) (fin : StreamEnd) (key : Str) (v : Val)
    (hdom : EncDomain v = true) (hp : Plain ec v = true) (hnl : v.isList = false)
    (hW : ∀ n, encTree ec key v.norm = .ok [n] → WellNamed n = true) :
    ∃ out toks m', marshal ec key v = .ok out
      ∧ tokenize out = some toks
      ∧ balanced toks = true
      ∧ newMapXml dc S toks fin = .ok m'
      ∧ m' ≈ᵥ imageUnder key v := by
  obtain ⟨as, ks, hns⟩ := encTree_root key hdom hnl
  obtain ⟨toks, m', ht, hb, hm, he⟩ := C03_tok_tree S fin ec rfl key as ks (hW _ hns)
    ((encTree_dom S key _ _ hns).inDomain (List.mem_singleton.2 rfl))
  refine ⟨render ec (.elem [] key as ks), toks, m', ?_, ht, hb, hm, ?_⟩
  · rw [C02.C02_render_eq_bytes ec key v _ hp hns]
    simp
  · exact Val.equiv_trans he (C03_encode_preserves S key v hdom _ hns)

/-- the bridge from the VALUE to the tree: if the key is an XML name and the value is
    `ValNamed` (Lemmas/EncTok.lean, executable: every element key a colon-free ASCII XML name,
    every attribute key the prefix plus such a name, attribute values scalars, every string /
    number / text-key text made of XML characters other than '\r', numbers and text-key texts
    non-empty), every tree the encoder builds is `WellNamed` -/
theorem C03_tok_named_tree (key : Str) (v : Val) (ns : List Node)
    (hk : xmlNameOk key = true) (hv : ValNamed v = true) (h : encTree ec key v.norm = .ok ns) :
    ∀ n ∈ ns, WellNamed n = true :=
  encTree_wellNamed key v.norm ns hk (ValNamed_norm v hv) h

/-- C03 at byte level, all hypotheses executable predicates of the KEY and the VALUE: for every
    value of the domain of C03 (`EncDomain`, `Plain`) that is not a list, under a key that is an
    XML name, with `ValNamed v`: the encoder succeeds, the tokenizer model accepts the bytes,
    the token stream is balanced, and the decoder model on those tokens returns a Map
    equivalent to `{key: image v}` -/
theorem C03_tok_well_formed (S : Strconv) (fin : StreamEnd) (key : Str) (v : Val)
    (hdom : EncDomain v = true) (hp : Plain ec v = true) (hnl : v.isList = false)
    (hk : xmlNameOk key = true) (hv : ValNamed v = true) :
    ∃ out toks m', marshal ec key v = .ok out
      ∧ tokenize out = some toks
      ∧ balanced toks = true
      ∧ newMapXml dc S toks fin = .ok m'
      ∧ m' ≈ᵥ imageUnder key v :=
  C03_tok_well_formed_tree S fin key v hdom hp hnl
    (fun n hn => C03_tok_named_tree key v [n] hk hv hn n (List.mem_singleton.2 rfl))

/-- the same for `mv.Xml(rootTag)`: the Map itself under the given root tag -/
theorem C03_tok_mapXml_well_formed (S : Strconv) (fin : StreamEnd) (rt : Str) (m : Entries)
    (hdom : EncDomain (.map m) = true) (hp : Plain ec (.map m) = true)
    (hk : xmlNameOk rt = true) (hv : ValNamed (.map m) = true) :
    ∃ out toks m', mapXml ec m (some rt) = .ok out
      ∧ tokenize out = some toks
      ∧ balanced toks = true
      ∧ newMapXml dc S toks fin = .ok m'
      ∧ m' ≈ᵥ imageUnder rt (.map m) :=
  C03_tok_well_formed S fin rt (.map m) hdom hp rfl hk hv

/-- `mv.Xml()` without a root tag on a Map with a single entry that is not a list: the entry's
    key is the root -/
theorem C03_tok_mapXml_single_well_formed (S : Strconv) (fin : StreamEnd) (k : Str) (v : Val)
    (hdom : EncDomain v = true) (hp : Plain ec v = true) (hnl : v.isList = false)
    (hk : xmlNameOk k = true) (hv : ValNamed v = true) :
    ∃ out toks m', mapXml ec [(k, v)] none = .ok out
      ∧ tokenize out = some toks
      ∧ balanced toks = true
      ∧ newMapXml dc S toks fin = .ok m'
      ∧ m' ≈ᵥ imageUnder k v := by
  rw [C16.mapXml_single_of_not_list ec k v hnl]
  exact C03_tok_well_formed S fin k v hdom hp hnl hk hv

/-- the same for `AnyXml(v, rt, et)` whenever its tree is a single well-named element in the
    decoder's domain (it always is one element `rt`; the hypotheses are executable) -/
theorem C03_tok_anyXml_well_formed (S : Strconv) (fin : StreamEnd) (v : Val) (rt et : Str)
    (as : List Attr) (ks : List Node)
    (hwf : v.wf = true) (hp : Plain ec v = true)
    (h : anyTree ec v rt et = .ok [.elem [] rt as ks])
    (hW : WellNamed (.elem [] rt as ks) = true)
    (hd : Conv.inDomain dc S (.elem [] rt as ks) = true) :
    ∃ out toks m', anyXml ec v rt et = .ok out
      ∧ tokenize out = some toks
      ∧ balanced toks = true
      ∧ newMapXml dc S toks fin = .ok m'
      ∧ m' ≈ᵥ .map [(rt, anyImage v et)] := by
  obtain ⟨toks, m', ht, hb, hm, he⟩ := C03_tok_tree S fin ec rfl rt as ks hW hd
  refine ⟨render ec (.elem [] rt as ks), toks, m', ?_, ht, hb, hm, ?_⟩
  · rw [C02.C02_anyXml_eq_render ec v rt et hp, h]
    simp [Except.map]
  · rw [C03_anyXml_preserves S v rt et _ hwf h] at he
    exact he

/-! ### non-vacuity, and the hypotheses are needed -/

/-- the sample of `Props/C03.lean` (attribute, text with '<', a list of maps, empties): its
    tree is well-named, so the theorem applies; the bytes tokenize, balanced -/
example : EncDomain sample = true ∧ Plain ec sample = true ∧ sample.isList = false :=
  ⟨by decide +kernel, by decide +kernel, by decide +kernel⟩
example : ∃ n, encTree ec "doc".toList sample.norm = .ok [n] ∧ WellNamed n = true :=
  ⟨_, rfl, by decide +kernel⟩
example : xmlNameOk "doc".toList = true ∧ ValNamed sample = true :=
  ⟨by decide +kernel, by decide +kernel⟩
/-- `ValNamed` is needed: '\r' in a string comes back as '\n' (the tokens are not the
    tree's), an empty number text or an empty text-key value gives an empty text node, a key
    with a blank is rejected by the tokenizer -/
example : ValNamed (.str "x\ry".toList) = false := by decide +kernel
example : (tokenize "<a>x\ry</a>".toList)
    = some [.start [] "a".toList [], .text "x\ny".toList, .stop [] "a".toList] := by
  repeat rw [String.toList_ofList]
  decide +kernel
example : ValNamed (.map [("a b".toList, .null)]) = false := by decide +kernel
example : ValNamed (.map [("-a b".toList, .str [])]) = false := by decide +kernel
example : ((tokenize
    "<doc><item><n>1.5</n></item><item><n>true</n></item><none/><note id=\"7\"> a&lt;b </note><z/></doc>".toList).map
      balanced) = some true := by
  repeat rw [String.toList_ofList]
  decide +kernel

/-- "not a list" is needed: a two-member list under a key writes two roots — the tokenizer
    accepts the bytes, but the stream is not balanced -/
theorem C03_tok_list_not_well_formed :
    let v := Val.list [.str "x".toList, .str "y".toList]
    marshal ec "a".toList v = .ok "<a>x</a><a>y</a>".toList
      ∧ (tokenize "<a>x</a><a>y</a>".toList).map balanced = some false :=
  ⟨by decide +kernel, by decide +kernel⟩

/-- `WellNamed` is needed: a key that is not an XML name is written as it is, and the
    tokenizer rejects the bytes -/
example : marshal ec "a b".toList (.str "x".toList) = .ok "<a b>x</a b>".toList := by
  decide +kernel
example : tokenize "<a b>x</a b>".toList = none := by decide +kernel

/-- mismatched / unclosed / stray tags are not balanced -/
example : balanced [.start [] "a".toList [], .stop [] "b".toList] = false := by decide +kernel
example : balanced [.start [] "a".toList []] = false := by decide +kernel
example : balanced [.text "x".toList, .start [] "a".toList [], .stop [] "a".toList] = false := by
  decide +kernel
example : balanced [.comment "c".toList, .start [] "a".toList [], .text "x".toList,
    .start [] "b".toList [], .stop [] "b".toList, .stop [] "a".toList] = true := by decide +kernel

end Mxj.C03
