/-
  Mxj.Props.C06 — JSON encode/decode is lossless.

  Model: Mxj.Model.Json — `quoteChar`/`quote` (encoding/json's string-literal encoder, with and
  without EscapeHTML), `encN`/`mapJson` (compact encoder of key-sorted values), the JSON text
  grammar as encoding/json implements it (`strBody`, `numberLit`, fuel-indexed `value`/
  `elements`/`members`), `firstValue`, `newMapJson`.  Helper lemmas and the vocabulary used
  below live in Mxj.Lemmas.Json (namespace `Mxj.Json`):
    `unquote t`       a whole string literal, nothing after the closing quote
    `NumOk lit`       `numberLit lit = some (lit, [])` : the number grammar recognises all of it
    `numEnd rest`     `rest` is empty or starts with no digit, '.', 'e', 'E'
    `JsonShaped v`    every `num` is `"jn:" ++ lit` with `NumOk lit`; maps have distinct keys
    `sz v`            fuel that suffices to decode the encoding of `v`
    `wrapObj s`       `{"object":` ++ s ++ `}` — what the PINNED `NewMapJson` decoded for a leading '['
                      (repaired defect F-JSON-ARRAYTAIL, kept as documentation)
    `objKey`          the characters of `object`
    `rewriteUnsafe`   the pinned byte rewrite of the three HTML escape sequences
    `esc00 x y`       the six characters backslash, u, 0, 0, x, y
  Property theorems and non-vacuity examples only.
-/
import Mxj.Lemmas.Json
namespace Mxj.C06
open Mxj Mxj.Json

/-- decoding what the encoder wrote gives the string back — both escaping modes, EVERY string
    (every `Char`, i.e. every Unicode scalar value), any continuation `rest`, any fuel above the
    number of characters of `s` -/
theorem C06_unquote_quote (html : Bool) (s rest : Str) (n : Nat) (hn : s.length < n) :
    strBody n (s.flatMap (quoteChar html) ++ '"' :: rest) [] = some (s, rest) := by
  rw [strBody_flatMap html s n rest [] hn]; rfl

/-- with the fuel `value` and `members` actually use: length of the remaining text + 1 -/
theorem C06_unquote_quote_fuel (html : Bool) (s rest : Str) :
    strBody ((s.flatMap (quoteChar html) ++ '"' :: rest).length + 1)
      (s.flatMap (quoteChar html) ++ '"' :: rest) [] = some (s, rest) :=
  strBody_quote html s rest

theorem C06_unquote_quote_literal (html : Bool) (s : Str) : unquote (quote html s) = some s :=
  unquote_quote html s

theorem C06_string_value (html : Bool) (s rest : Str) (f : Nat) :
    value (f + 1) (quote html s ++ rest) = some (.str s, rest) :=
  value_str html s rest f

/-- with EscapeHTML the literal contains none of '<', '>', '&' -/
theorem C06_safe_has_no_html (s : Str) : ∀ c ∈ quote true s, c ≠ '<' ∧ c ≠ '>' ∧ c ≠ '&' :=
  noHtml_quote s

/-- without it they appear literally -/
theorem C06_default_literal (s : Str) (c : Char) (hc : c = '<' ∨ c = '>' ∨ c = '&') (h : c ∈ s) :
    c ∈ quote false s := by
  simp only [quote, List.mem_append, List.mem_cons, List.not_mem_nil, or_false,
    List.mem_flatMap]
  exact Or.inl (Or.inr ⟨c, h, by rw [quoteChar_default_html c hc]; simp⟩)

/-- decoding the compact encoding of a JSON-shaped value returns it, for every fuel from `sz w`
    on and any continuation that cannot extend a trailing number literal.  (Distinct keys are
    enough here; sortedness is not needed.) -/
theorem C06_roundtrip_value_enc (html : Bool) (w : Val) (hw : JsonShaped w = true) (rest : Str)
    (hrest : ∀ t, w = .num t → numEnd rest = true) (f : Nat) (hf : sz w ≤ f) :
    value f (encN html w ++ rest) = some (w, rest) :=
  rt_value w html rest f hw hrest hf

/-- … in particular of the key-sorted normal form `Map.Json` writes -/
theorem C06_roundtrip_value (html : Bool) (v : Val) (hv : JsonShaped v = true) (rest : Str)
    (hrest : ∀ t, v = .num t → numEnd rest = true) :
    ∃ f0, ∀ f ≥ f0, value f (encN html v.norm ++ rest) = some (v.norm, rest) := by
  refine ⟨sz v.norm, fun f hf => rt_value v.norm html rest f (jsonShaped_norm v hv) ?_ hf⟩
  intro t ht
  -- `norm` leaves a number as it is and makes a number of nothing else
  cases v with
  | num _ => exact hrest t ht
  | _ => simp [Val.norm] at ht

/-- the `rest` condition cannot be dropped: a digit after a number is swallowed -/
example : value 5 (encN false (.num "jn:1".toList) ++ "2".toList)
    = some (.num "jn:12".toList, []) := by decide +kernel
/-- … and "e+" after a number makes the text invalid -/
example : value 5 (encN false (.num "jn:1".toList) ++ "e+".toList) = none := by decide +kernel

/-- the decoder's own fuel (text length + 1) is always enough -/
theorem C06_firstValue_enc (html : Bool) (w : Val) (hw : JsonShaped w = true) :
    firstValue (encN html w) = some w := by
  have := firstValue_encN html w hw [] (fun _ _ => rfl)
  rwa [List.append_nil] at this

/-- `NewMapJson (Json m)` is exactly the key-sorted normal form of `m`, for both encodings -/
theorem C06_roundtrip_exact (safe : Bool) (m : Entries) (hm : JsonShaped (.map m) = true) :
    newMapJson (mapJson safe (.map m)) = some (Val.norm (.map m)) :=
  newMapJson_mapJson safe m hm

/-- hence `NewMapJson (Json m) = m` up to the order of entries -/
theorem C06_roundtrip (safe : Bool) (m : Entries) (hm : JsonShaped (.map m) = true) :
    ∃ r, newMapJson (mapJson safe (.map m)) = some r ∧ r ≈ᵥ .map m :=
  ⟨_, newMapJson_mapJson safe m hm, Json.norm_idem (.map m) hm⟩

/-- distinct keys cannot be dropped (a Go map has them anyway): with a repeated key the text
    has the key twice and the decoder keeps one entry -/
example : newMapJson (mapJson false (.map [("a".toList, .null), ("a".toList, .bool true)]))
    = some (.map [("a".toList, .null)]) := by decide +kernel

/-- the pinned byte rewrite was unsound: the value `<` (six characters: backslash, u, 0,
    0, 3, c) is encoded as backslash backslash u 0 0 3 c; the rewrite turns the second backslash
    and the five characters after it into '<', leaving backslash '<' — not a JSON escape.
    Kept as documentation of the repaired defect (F-JSON-REWRITE). -/
theorem C06_rewrite_unsound_witness :
    firstValue (rewriteUnsafe (quote true (esc00 '3' 'c'))) = none ∧
    firstValue (quote true (esc00 '3' 'c')) = some (.str (esc00 '3' 'c')) ∧
    firstValue (quote false (esc00 '3' 'c')) = some (.str (esc00 '3' 'c')) := by decide +kernel

/-- what the rewrite produced for that value -/
example : rewriteUnsafe (quote true (esc00 '3' 'c')) = ['"', '\\', '<', '"'] := by decide +kernel
/-- on harmless strings the rewrite did what was intended -/
example : rewriteUnsafe (quote true "a<b>&".toList) = quote false "a<b>&".toList := by
  decide +kernel

/-! ### what `NewMapJson` accepts

  The property's sentence: "NewMapJson accepts exactly the inputs whose first value
  encoding/json decodes as an object (or array, wrapped under "object") and returns the same
  value".  Since the repair of F-JSON-ARRAYTAIL the array branch decodes the first value on its
  own, so the sentence holds for arrays too (the recorded finding F-JSON-NULL - `null` gives a nil
  Map and no error - stays as it is and is part of every statement below). -/

/-- `NewMapJson` accepts a non-empty input exactly when
      * it does not start (after white space) with '[' and its first value is an object, or the
        recorded case `null` (a nil Map and no error);
      * it starts with '[' and its first value is an array (equivalently: it has a first value,
        see `C06_accepts_iff_first_value` and `C06_bracket_first_value_is_array`). -/
theorem C06_accepts_iff (s : Str) (hs : s ≠ []) :
    (newMapJson s).isSome ↔
      if (skipWs s).head? = some '[' then ∃ xs, firstValue s = some (.list xs)
      else (∃ m, firstValue s = some (.map m)) ∨ firstValue s = some .null := by
  rw [newMapJson_spec s hs]
  cases hfv : firstValue s with
  | none => simp
  | some v =>
    -- the test for '[' is the test whether the first value is an array
    have hl := firstValue_list_iff hfv
    cases v <;> simp [hl]

/-- the same without looking at the first character: a non-empty input is accepted exactly when
    its first value is an object, `null`, or an array -/
theorem C06_accepts_iff_first_value (s : Str) (hs : s ≠ []) :
    (newMapJson s).isSome ↔
      (∃ m, firstValue s = some (.map m)) ∨ firstValue s = some .null ∨
        (∃ xs, firstValue s = some (.list xs)) := by
  rw [newMapJson_spec s hs]
  cases hfv : firstValue s with
  | none => simp
  | some v => cases v <;> simp

theorem C06_accepts_empty : newMapJson [] = some (.map []) := rfl

/-- `NewMapJson` is a function of the first value alone: object and `null` as they are, an array
    under "object", any other first value - or none - is an error -/
theorem C06_first_value_spec (s : Str) (hs : s ≠ []) :
    newMapJson s =
      (match firstValue s with
        | some (.map m) => some (.map m)
        | some .null => some .null
        | some (.list xs) => some (.map [(objKey, .list xs)])
        | _ => none) :=
  newMapJson_spec s hs

/-- "… and returns the same value": `r` is returned exactly when the first value is `r` itself
    (an object, or `null`) or an array `xs` and `r` is `{"object": xs}` - one key, nothing else -/
theorem C06_array_first_value (s : Str) (hs : s ≠ []) (r : Val) :
    newMapJson s = some r ↔
      (firstValue s = some r ∧ ((∃ m, r = .map m) ∨ r = .null)) ∨
        (∃ xs, firstValue s = some (.list xs) ∧ r = .map [(objKey, .list xs)]) := by
  rw [newMapJson_spec s hs]
  cases firstValue s with
  | none => simp
  | some v =>
    constructor
    · intro h
      cases v <;> cases h
      · exact .inl ⟨rfl, .inr rfl⟩
      · exact .inr ⟨_, rfl, rfl⟩
      · exact .inl ⟨rfl, .inl ⟨_, rfl⟩⟩
    · rintro (⟨h, ⟨m, rfl⟩ | rfl⟩ | ⟨xs, h, rfl⟩) <;> cases h <;> rfl

/-- the accepted value is the first value itself, resp. `null` -/
theorem C06_accepted_value (s : Str) (hs : s ≠ []) (hb : (skipWs s).head? ≠ some '[') (r : Val)
    (h : newMapJson s = some r) : firstValue s = some r ∧ ((∃ m, r = .map m) ∨ r = .null) := by
  rcases (C06_array_first_value s hs r).1 h with h | ⟨xs, hx, _⟩
  · exact h
  · exact absurd ((firstValue_list_iff hx).2 ⟨xs, rfl⟩) hb

/-- behind a leading '[' a first value can only be an array (a malformed array is an error of
    the decoder, never some other value) -/
theorem C06_bracket_first_value_is_array (s : Str) (hb : (skipWs s).head? = some '[') (v : Val)
    (h : firstValue s = some v) : ∃ xs, v = .list xs :=
  (firstValue_list_iff h).1 hb

/-- with a leading '[' the result is EXACTLY `{"object": xs}` where `xs` is the first value of
    the input: "object" is the only key and it is bound to the array.  (Before the repair only
    "the first key is object" held: see the pinned-wrapper examples below.) -/
theorem C06_wrapper_shape (s : Str) (hs : s ≠ []) (hb : (skipWs s).head? = some '[') (r : Val)
    (h : newMapJson s = some r) :
    ∃ xs, firstValue s = some (.list xs) ∧ r = .map [(objKey, .list xs)] := by
  rcases (C06_array_first_value s hs r).1 h with ⟨hf, hr⟩ | h
  · obtain ⟨xs, rfl⟩ := (firstValue_list_iff hf).1 hb
    rcases hr with ⟨m, hm⟩ | hn
    · cases hm
    · cases hn
  · exact h

/-- what follows the array is not looked at (the reproducers of F-JSON-ARRAYTAIL) -/
example : newMapJson "[1],\"x\":2".toList = some (.map [(objKey, .list [.num "jn:1".toList])]) := by
  decide +kernel
example : newMapJson "[1],\"object\":5".toList
    = some (.map [(objKey, .list [.num "jn:1".toList])]) := by
  -- the kernel unfolds `String.toList` of a literal through the UTF-8 decoding of its bytes, at a
  -- cost quadratic in its length: a long literal is first turned into its list of characters
  repeat rw [String.toList_ofList]
  decide +kernel
example : newMapJson "[1,2] x".toList
    = some (.map [(objKey, .list [.num "jn:1".toList, .num "jn:2".toList])]) := by
  decide +kernel
example : newMapJson "[1,2]}".toList
    = some (.map [(objKey, .list [.num "jn:1".toList, .num "jn:2".toList])]) := by
  decide +kernel
example : newMapJson " \n[1]\n<!--".toList = some (.map [(objKey, .list [.num "jn:1".toList])]) := by
  decide +kernel
/-- a malformed array is an error -/
example : newMapJson "[1,2".toList = none := by decide +kernel
example : newMapJson "[1 2]".toList = none := by decide +kernel
example : newMapJson "[".toList = none := by decide +kernel
/-- the pinned wrapper (`{"object":` ++ input ++ `}` decoded as one text) read the tail as part
    of the wrapper object: two keys, the key rebound, an accepted stray brace, a refused tail -/
example : firstValue (wrapObj "[1],\"x\":2".toList)
    = some (.map [(objKey, .list [.num "jn:1".toList]), ("x".toList, .num "jn:2".toList)]) := by
  decide +kernel
example : firstValue (wrapObj "[1],\"object\":5".toList)
    = some (.map [(objKey, .num "jn:5".toList)]) := by
  repeat rw [String.toList_ofList]
  decide +kernel
example : firstValue (wrapObj "[1,2] x".toList) = none := by decide +kernel
example : (firstValue (wrapObj "[1,2]}".toList)).isSome = true := by decide +kernel

/-- an encoded array is accepted and comes back under "object" -/
theorem C06_array_wrapped (html : Bool) (xs : List Val) (hx : JsonShaped (.list xs) = true) :
    newMapJson (encN html (.list xs)) = some (.map [(objKey, .list xs)]) :=
  newMapJson_array html xs hx

theorem C06_array_wrapped_tail (html : Bool) (xs : List Val) (hx : JsonShaped (.list xs) = true)
    (rest : Str) :
    newMapJson (encN html (.list xs) ++ rest) = some (.map [(objKey, .list xs)]) :=
  newMapJson_array_tail html xs hx rest

/-- an encoded Map followed by anything is accepted and comes back as the same value -/
theorem C06_roundtrip_exact_tail (safe : Bool) (m : Entries) (hm : JsonShaped (.map m) = true)
    (rest : Str) :
    newMapJson (mapJson safe (.map m) ++ rest) = some (Val.norm (.map m)) :=
  newMapJson_mapJson_tail safe m hm rest

/-- trailing bytes are never looked at: `NewMapJson` is a function of the first value
    (`C06_first_value_spec`), so a tail `t` that leaves the first value alone leaves the result
    alone.  The hypothesis is discharged for every accepted text and every tail in
    Mxj.Props.C06ExtTail (`C06_trailing_ignored`, from the prefix stability of the grammar). -/
theorem C06_trailing_ignored_partial (s t : Str) (hs : s ≠ [])
    (h : firstValue (s ++ t) = firstValue s) : newMapJson (s ++ t) = newMapJson s := by
  rw [newMapJson_spec s hs, newMapJson_spec (s ++ t) (by simp [hs]), h]

/-- the hypothesis is needed: a tail can complete a value that was not one (`[1,2` alone is an
    error), and it is satisfiable on every reproducer of the finding -/
example : newMapJson "[1,2".toList = none ∧
    newMapJson ("[1,2".toList ++ "]".toList)
      = some (.map [(objKey, .list [.num "jn:1".toList, .num "jn:2".toList])]) := by
  decide +kernel
example : firstValue ("[1,2]".toList ++ " x".toList) = firstValue "[1,2]".toList := by
  decide +kernel
example : firstValue ("[1]".toList ++ ",\"x\":2".toList) = firstValue "[1]".toList := by
  decide +kernel

/-- other first values are refused; trailing bytes are not looked at -/
example : newMapJson "\"str\"".toList = none := by decide +kernel
example : newMapJson "12".toList = none := by decide +kernel
example : newMapJson " null".toList = some .null := by decide +kernel
example : newMapJson "{\"a\":1} trailing }{".toList
    = some (.map [("a".toList, .num "jn:1".toList)]) := by
  repeat rw [String.toList_ofList]
  decide +kernel

/-- a Map with hostile strings: quotes, backslashes, control characters, HTML characters,
    U+2028, a non-BMP character, the six-character sequence of the rewrite witness, numbers,
    nested containers, keys out of order -/
def exMap : Entries :=
  [ ("z<\"\\".toList, .str ['a', '\n', '\x01', '\x08', Char.ofNat 0x2028, '&', '>', Char.ofNat 0x1F600]),
    ("k".toList, .str (esc00 '3' 'c')),
    ("a".toList, .list [.num "jn:-1.5e+3".toList, .null, .bool true, .map [], .list []]),
    ("m".toList, .map [("b".toList, .num "jn:0".toList), ("a".toList, .str [])]) ]

example : JsonShaped (.map exMap) = true := by decide +kernel
example : newMapJson (mapJson true (.map exMap)) = some (Val.norm (.map exMap)) := by
  decide +kernel
example : newMapJson (mapJson false (.map exMap)) = some (Val.norm (.map exMap)) := by
  decide +kernel
example : mapJson true (.map exMap) ≠ mapJson false (.map exMap) := by decide +kernel
example : ∃ r, newMapJson (mapJson false (.map exMap)) = some r ∧ r ≈ᵥ .map exMap :=
  C06_roundtrip false exMap (by decide +kernel)

end Mxj.C06
