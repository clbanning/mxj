/-
  Mxj.Props.C04ExtTok — the sequence codec at BYTE level, through the executable tokenizer model
  (`Model/Tokenizer.lean`, `Mxj.Tokz.tokenize` = `xml.Decoder.RawToken` until EOF).

  `Props/C04.lean` proves the round trip NewMapXmlSeq → MapSeq.Xml at token/tree level and
  "bytes = rendering" (`C04_bytes_are_rendering_goEmpty`, `C04_roundtrip_bytes`); the step from the
  bytes back to tokens is not part of it.  Here, `C04_tok_law_seq`: tokenizing the canonical
  rendering `renderSeq true ge n` (escaping on, either empty-element syntax) of a sequence tree —
  elements, text, COMMENTS and PROCESSING INSTRUCTIONS in any positions — yields exactly
  `flatten n`, for every tree satisfying the executable predicate `SeqTokOk` (Lemmas/SeqTok.lean):
    - name spaces empty, element / attribute names and PI targets ASCII colon-free XML names
      (`xmlNameOk`), attribute values and text made of round-trippable XML characters
      (`xmlCharsOk`), no empty text node, no two adjacent text nodes;
    - comment texts without `--` and not ending in `-` (`commentOk`);
    - PI texts without `?>` (`piTextOk`) and not beginning with white space (`noLeadSp`);
    - NO directive node (`<!…>`): directives are outside the tokenizer model.
  Each condition is needed: `decide`d witnesses below.
  The same with name-space prefixes (`SeqTokOkQ`, Lemmas/SeqTokQ.lean), and the byte-level round
  trips with no tokenizer law assumed.
-/
import Mxj.Lemmas.SeqTokQ
namespace Mxj.C04
open Mxj Mxj.SeqL Mxj.SeqIL Mxj.Dec Mxj.Tokz

/-- the tokenizer law for the sequence renderer: the tokens of the rendering are the flattening
    of the tree -/
theorem C04_tok_law_seq (ge : Bool) (n : Node) (h : SeqTokOk n = true) :
    tokenize (renderSeq true ge n) = some (flatten n) := by
  simp only [SeqTokOk, Bool.and_eq_true] at h
  simpa using tok_seq_node ge n [] [] h.1 h.2 (fun _ => rfl) rfl

/-- … in the total form (`tokens`: a syntax error yields no tokens) -/
theorem C04_tok_law_seq_tokens (ge : Bool) (n : Node) (h : SeqTokOk n = true) :
    tokens (renderSeq true ge n) = flatten n := by
  simp [tokens, C04_tok_law_seq ge n h]

/-- … in front of any input the tokenizer accepts (markup nodes: the rendering is closed, nothing
    of what follows is read into it) -/
theorem C04_tok_law_seq_then (ge : Bool) (n : Node) (h : SeqTokOk n = true)
    (hn : Tokz.isTextNode n = false) (rest : Str) (ts : List Tok) (hr : tokenize rest = some ts) :
    tokenize (renderSeq true ge n ++ rest) = some (flatten n ++ ts) := by
  simp only [SeqTokOk, Bool.and_eq_true] at h
  exact tok_seq_node ge n rest ts h.1 h.2 (fun ht => by simp [hn] at ht) hr

/-- … for a run of sibling nodes (the content of an element) followed by markup -/
theorem C04_tok_law_seq_kids (ge : Bool) (ks : List Node) (hw : seqTokKids ks = true)
    (ha : noAdjTextKids ks = true) (rest : Str) (ts : List Tok) (hl : startsLt rest = true)
    (hr : tokenize rest = some ts) :
    tokenize (renderSeqKids true ge ks ++ rest) = some (flattenKids ks ++ ts) := by
  have := tok_seq_kids_q ge ks rest ts (seqTokKidsQ_of ks hw) ha hl hr
  rwa [qualifyKids_id ks hw] at this

/-- the pieces: a comment / a processing instruction is one token whatever follows -/
theorem C04_tok_comment (s rest : Str) (ts : List Tok) (h : commentOk s = true)
    (hr : tokenize rest = some ts) :
    tokenize (renderSeq true true (.comment s) ++ rest) = some (Tok.comment s :: ts) :=
  C04_tok_law_seq_then true (.comment s) (by simpa [SeqTokOk, seqTokNode, noAdjText] using h) rfl
    rest ts hr

theorem C04_tok_procinst (t i rest : Str) (ts : List Tok) (ht : xmlNameOk t = true)
    (hl : noLeadSp i = true) (hi : piTextOk i = true) (hr : tokenize rest = some ts) :
    tokenize (renderSeq true true (.procinst t i) ++ rest) = some (Tok.procinst t i :: ts) :=
  C04_tok_law_seq_then true (.procinst t i) (by simp [SeqTokOk, seqTokNode, noAdjText, ht, hl, hi])
    rfl rest ts hr

/-- trees in the law's domain are their own qualified form (all name spaces empty), so
    `C04_roundtrip_bytes` (bytes = `renderSeq` of the QUALIFIED normal form) speaks about
    `renderSeq` of the normalised document itself -/
theorem C04_tok_qualify_id (n : Node) (h : SeqTokOk n = true) : qualify seqDflt n = n := by
  simp only [SeqTokOk, Bool.and_eq_true] at h
  exact qualify_id n h.1

/-! ### prefixed names -/

/-- the tokenizer law for the sequence renderer with prefixes: the rendering of the QUALIFIED tree
    (names as the MapSeq keys spell them, `prefix:local`) tokenizes to the flattening of the tree
    itself (name space = prefix, as `RawToken` hands it over) -/
theorem C04_tok_law_seq_qualified (ge : Bool) (n : Node) (h : SeqTokOkQ n = true) :
    tokenize (renderSeq true ge (qualify seqDflt n)) = some (flatten n) := by
  simp only [SeqTokOkQ, Bool.and_eq_true] at h
  simpa using tok_seq_node_q ge n [] [] h.1 h.2 (fun _ => rfl) rfl

/-- … in front of any accepted input -/
theorem C04_tok_law_seq_qualified_then (ge : Bool) (n : Node) (h : SeqTokOkQ n = true)
    (hn : Tokz.isTextNode n = false) (rest : Str) (ts : List Tok) (hr : tokenize rest = some ts) :
    tokenize (renderSeq true ge (qualify seqDflt n) ++ rest) = some (flatten n ++ ts) := by
  simp only [SeqTokOkQ, Bool.and_eq_true] at h
  exact tok_seq_node_q ge n rest ts h.1 h.2 (fun ht => by simp [hn] at ht) hr

/-- BYTE-LEVEL ROUND TRIP with name-space prefixes, no tokenizer hypothesis: decode the token
    stream of an in-domain document, call `msv.Xml()` (escaping on, `XmlGoEmptyElemSyntax`),
    tokenize the bytes with the tokenizer model, decode the tokens: the same MapSeq.  The bytes are
    the rendering of the QUALIFIED normal form (names as the keys spell them), the tokens in
    between those of the normalised document. -/
theorem C04_tok_roundtrip_bytes_qualified (S : Strconv) (fin fin' : StreamEnd)
    (pre post : List Tok) (hpre : ∀ t ∈ pre, isText t = true) (sp name : Str)
    (attrs : List Attr) (kids : List Node)
    (hd : SeqDomain (.elem sp name attrs kids) = true)
    (hw : SeqTokOkQ (normalize (.elem sp name attrs kids)) = true) :
    ∃ m bytes toks,
      newMapXmlSeq seqDflt S (pre ++ flatten (.elem sp name attrs kids) ++ post) fin
        = .ok (.doc (.map m))
      ∧ mapSeqXml seqDflt true true m = .ok bytes
      ∧ bytes = renderSeq true true (qualify seqDflt (normalize (.elem sp name attrs kids)))
      ∧ tokenize bytes = some toks
      ∧ toks = flatten (normalize (.elem sp name attrs kids))
      ∧ newMapXmlSeq seqDflt S toks fin' = .ok (.doc (.map m)) := by
  have h1 := newMapXmlSeq_tree seqDflt S fin pre post hpre sp name attrs kids
  have h2 := mapSeqXml_roundtrip seqDflt S cfgOk_dflt true sp name attrs kids hd
  unfold normalize at hw
  have h3 := C04_tok_law_seq_qualified true _ hw
  refine ⟨_, _, _, h1, h2, rfl, h3, rfl, ?_⟩
  -- the second decoding: the tokens of the normal form decode to its fold (`h5`), and the fold of
  -- the normal form is the fold of the document itself (`hv`)
  have h5 := newMapXmlSeq_tree seqDflt S fin' [] [] (by simp) sp name attrs
    (normalizeKidsC seqDflt kids)
  simp only [List.nil_append, List.append_nil] at h5
  have hv := value_normalize seqDflt S cfgOk_dflt.ts _ (tfAll_of_domain seqDflt _ hd)
  simp only [normalizeC] at hv
  simp only [normalizeC, h5, SeqFold.doc, hv]

/-- BYTE-LEVEL ROUND TRIP, no tokenizer hypothesis, for documents without prefixes (`SeqTokOk`):
    decode the token stream of an in-domain document, call `msv.Xml()` (escaping on,
    `XmlGoEmptyElemSyntax`), tokenize the bytes with the tokenizer model, decode the tokens: the
    same MapSeq.  The bytes are the rendering of the normalised document itself, the tokens in
    between its tokens. -/
theorem C04_tok_roundtrip_bytes (S : Strconv) (fin fin' : StreamEnd) (pre post : List Tok)
    (hpre : ∀ t ∈ pre, isText t = true) (sp name : Str) (attrs : List Attr) (kids : List Node)
    (hd : SeqDomain (.elem sp name attrs kids) = true)
    (hw : SeqTokOk (normalize (.elem sp name attrs kids)) = true) :
    ∃ m bytes toks,
      newMapXmlSeq seqDflt S (pre ++ flatten (.elem sp name attrs kids) ++ post) fin
        = .ok (.doc (.map m))
      ∧ mapSeqXml seqDflt true true m = .ok bytes
      ∧ bytes = renderSeq true true (normalize (.elem sp name attrs kids))
      ∧ tokenize bytes = some toks
      ∧ toks = flatten (normalize (.elem sp name attrs kids))
      ∧ newMapXmlSeq seqDflt S toks fin' = .ok (.doc (.map m)) := by
  have hq := C04_tok_qualify_id _ hw
  simp only [SeqTokOk, Bool.and_eq_true] at hw
  have := C04_tok_roundtrip_bytes_qualified S fin fin' pre post hpre sp name attrs kids hd
    (by simp [SeqTokOkQ, seqTokNodeQ_of _ hw.1, hw.2])
  rwa [hq] at this

/-- `<p:r xmlns:p="urn:p" p:k="a&amp;b"> t <p:a></p:a><!--c--><b x="1"></b></p:r>` -/
def nsTree : Node :=
  .elem "p".toList "r".toList
    [⟨"xmlns".toList, "p".toList, "urn:p".toList⟩, ⟨"p".toList, "k".toList, "a&b".toList⟩]
    [.text " t ".toList,
     .elem "p".toList "a".toList [] [],
     .comment "c".toList,
     .elem [] "b".toList [⟨[], "x".toList, "1".toList⟩] []]

example : SeqDomain nsTree = true := by decide +kernel
theorem nsTree_ok : SeqTokOkQ (normalize nsTree) = true := by decide +kernel
example : SeqTokOkQ (normalize nsTree) = true := nsTree_ok
example : SeqTokOk (normalize nsTree) = false := by decide +kernel
example : renderSeq true true (qualify seqDflt (normalize nsTree))
    = "<p:r xmlns:p=\"urn:p\" p:k=\"a&amp;b\">t<p:a></p:a><!--c--><b x=\"1\"></b></p:r>".toList := by
  repeat rw [String.toList_ofList]
  decide +kernel
example : tokenize (renderSeq true true (qualify seqDflt (normalize nsTree)))
    = some (flatten (normalize nsTree)) :=
  C04_tok_law_seq_qualified true _ nsTree_ok
/-- a prefix that is not a name (here: with a colon of its own) is outside the domain: error -/
example : tokenize (renderSeq true true (qualify seqDflt (.elem "a:b".toList "c".toList [] [])))
    = none := by decide +kernel

/-! ### non-vacuity: a document with text, attributes that need escaping, a comment, a PI -/

/-- `<r x="1&lt;2" y="&quot;">hi &amp; lo<a>1</a><!--a - note--><?go run? now?><b></b></r>` -/
def tokTree : Node :=
  .elem [] "r".toList [⟨[], "x".toList, "1<2".toList⟩, ⟨[], "y".toList, "\"".toList⟩]
    [.text "hi & lo".toList,
     .elem [] "a".toList [] [.text "1".toList],
     .comment "a - note".toList,
     .procinst "go".toList "run? now".toList,
     .elem [] "b".toList [] []]

theorem tokTree_ok : SeqTokOk tokTree = true := by decide +kernel
example : SeqTokOk tokTree = true := tokTree_ok
example : renderSeq true true tokTree
    = "<r x=\"1&lt;2\" y=\"&quot;\">hi &amp; lo<a>1</a><!--a - note--><?go run? now?><b></b></r>".toList := by
  repeat rw [String.toList_ofList]
  decide +kernel
example : tokenize (renderSeq true true tokTree) = some (flatten tokTree) :=
  C04_tok_law_seq true tokTree tokTree_ok
example : tokenize (renderSeq true false tokTree) = some (flatten tokTree) :=
  C04_tok_law_seq false tokTree tokTree_ok

/-- a source document for the round trip: blank text between the children, text to be trimmed -/
def srcTree : Node :=
  .elem [] "r".toList [⟨[], "x".toList, "1<2".toList⟩]
    [.text " hi ".toList,
     .elem [] "a".toList [] [.text "1".toList],
     .text "\n".toList,
     .comment "note".toList,
     .procinst "go".toList "now".toList,
     .elem [] "a".toList [⟨[], "k".toList, "v".toList⟩] []]

example : SeqDomain srcTree = true := by decide +kernel
example : SeqTokOk (normalize srcTree) = true := by decide +kernel
example : flatten (normalize srcTree) ≠ flatten srcTree := by decide +kernel

/-! ### every condition is needed -/

/-- `--` inside a comment: syntax error -/
example : tokenize (renderSeq true true (.elem [] "r".toList [] [.comment "a--b".toList])) = none := by
  decide +kernel
/-- a comment ending in `-`: `--->` is a syntax error -/
example : tokenize (renderSeq true true (.elem [] "r".toList [] [.comment "a-".toList])) = none := by
  decide +kernel
example : commentOk "a--b".toList = false ∧ commentOk "a-".toList = false
    ∧ commentOk "a-b -".toList = false ∧ commentOk "-a - b".toList = true := by decide +kernel
/-- `?>` inside a PI text: the instruction ends early, the remainder is character data -/
example : tokens (renderSeq true true (.elem [] "r".toList [] [.procinst "p".toList "a?>b".toList]))
    ≠ flatten (.elem [] "r".toList [] [.procinst "p".toList "a?>b".toList]) := by decide +kernel
/-- a PI text beginning with white space loses it -/
example : tokens (renderSeq true true (.elem [] "r".toList [] [.procinst "p".toList " x".toList]))
    ≠ flatten (.elem [] "r".toList [] [.procinst "p".toList " x".toList]) := by decide +kernel
/-- a PI target that is not a name -/
example : tokenize (renderSeq true true (.elem [] "r".toList [] [.procinst "1p".toList "x".toList]))
    = none := by decide +kernel
/-- directives are outside the tokenizer MODEL (Go's tokenizer accepts them) -/
example : tokenize (renderSeq true true (.elem [] "r".toList [] [.directive "DOCTYPE x".toList]))
    = none := by decide +kernel
/-- escaping off: a `<` in the text is a syntax error -/
example : tokenize (renderSeq false true (.elem [] "r".toList [] [.text "1<2".toList])) = none := by
  decide +kernel
/-- adjacent text nodes come back as one token; an empty text node as none -/
example : tokens (renderSeq true true (.elem [] "r".toList [] [.text "x".toList, .text "y".toList]))
    ≠ flatten (.elem [] "r".toList [] [.text "x".toList, .text "y".toList]) := by decide +kernel
example : tokens (renderSeq true true (.elem [] "r".toList [] [.text [], .comment "c".toList]))
    ≠ flatten (.elem [] "r".toList [] [.text [], .comment "c".toList]) := by decide +kernel
/-- a colon in a name: the tokenizer splits it into space and local part -/
example : tokens (renderSeq true true (.elem [] "p:a".toList [] []))
    ≠ flatten (.elem [] "p:a".toList [] []) := by decide +kernel
/-- a carriage return in a text is rewritten to a line feed -/
example : tokens (renderSeq true true (.elem [] "r".toList [] [.text "x\ry".toList]))
    ≠ flatten (.elem [] "r".toList [] [.text "x\ry".toList]) := by decide +kernel

end Mxj.C04
