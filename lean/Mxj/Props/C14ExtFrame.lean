/-
  Mxj.Props.C14ExtFrame — frame of C14's API over the package-level state, on facts regenerated from
  /repo's current source on every run: the decoders that cast read the cast options, the other
  decoder options and hooks, the reserved key names, the escape table and the error value `NoRoot`,
  nothing else;
  and none of them (nor any function they can reach) assigns a package-level variable, so what they
  return is a function of their arguments and of exactly those variables - no hidden state carried
  from one call to the next.
-/
import Mxj.Lemmas.Facts
namespace Mxj.C14
open Mxj

/-- the package-level variables C14's functions may read -/
def frameAllowed : List String := ["CustomDecoder", "NoRoot", "XmlCharsetReader", "attrK", "attrPrefix", "castNanInf", "castToBool", "castToFloat", "castToInt", "checkTagToSkip", "commentK", "decodeSimpleValuesAsMap", "directiveK", "escapechars", "handleXMPPStreamTag", "includeTagSeqNum", "instK", "lowerCase", "procinstK", "seqK", "snakeCaseKeys", "targetK", "textK", "trimRunes", "xmlEscapeCharsDecoder"]

theorem frame_cert :
    Facts.cert Generated.c14FrameRoots Generated.c14FrameRootsClosure (Facts.frameOk frameAllowed)
      = true := by decide +kernel

theorem C14_frame_reads (root g v : String) (hr : root ∈ Generated.c14FrameRoots)
    (h : Facts.Reach root g) (hv : v ∈ Facts.readsOf g) : v ∈ frameAllowed :=
  Facts.reads_of_frame frame_cert hr h hv

theorem C14_frame_no_hidden_state (root g : String) (hr : root ∈ Generated.c14FrameRoots)
    (h : Facts.Reach root g) : Facts.writesOf g = [] :=
  Facts.writes_of_frame frame_cert hr h

/-- the statements are not vacuous: the API group is present in the source -/
theorem C14_frame_roots_present : Generated.c14FrameRoots.length ≥ 1 := by decide +kernel

end Mxj.C14
