/-
  Mxj.Props.C14ExtSeq — property C14 ("casting changes only leaf types, predictably, and never
  yields NaN or Inf") at the observation point `NewMapXmlSeq(doc, true)`: the sequence-preserving
  decoder `newMapXmlSeq` of Mxj.Model.Seq (the entry point the driver's `xseq` operation calls).

  The sequence decoder casts the text run of an element and every attribute value with the EMPTY
  key (`cast S c.cast tt []`); comment, directive and processing-instruction texts, and the `""`
  of an empty element, are stored as strings without going through `cast`.

  * `CastRelSeq S c`: the leaf-wise relation between an un-cast and a cast sequence decoding
    (same shape, same keys in the same order, `#seq` numbers identical, a string leaf `s` is
    either left alone or replaced by `cast S c s []`), the instance `LRel (castLeafSeq S c)` of
    Mxj.Lemmas.LRel, whose lemmas on lists and maps apply as they stand; reflexive, equality when
    the flag is off;
  * `C14_seq_structure`: decoding with the cast flag is `CastRelSeq`-related to decoding the same
    tokens under the same configuration without it; identical outcome kind (document / no-root /
    eof / syntax error / other error);  `C14_seq_structure_exact` sharpens "either … or" to an
    exact description of WHICH leaves are cast, by decoding once with a cast that marks its
    argument;
  * `C14_seq_uncast_strings`: flag off — every leaf is a string or a sequence number;
  * `C14_seq_meta_not_cast`, `C14_seq_meta_not_cast_noroot`: flag on — comment / directive /
    processing-instruction texts are strings, whatever the cast options and the `Strconv`;
  * `C14_seq_run_cast_whole`, `C14_seq_run_split_irrelevant`, `C14_seq_run_value`: a run of
    adjacent CharData tokens is cast as a whole: the value depends on the concatenation only;
  * `C14_seq_no_naninf`: NaN/Inf casting off — every number leaf is a sequence number or came from
    an integer parser or from a `ParseFloat` that reported an ordinary value, for ANY `Strconv`.

  Lemmas: Mxj.Lemmas.CastSeq (the decoder is parametric in the leaf cast: `LRel_newMapXmlSeq`).
-/
import Mxj.Props.C14
import Mxj.Lemmas.CastSeq
namespace Mxj.C14
open Mxj Mxj.CastSeq

/-! ### the leaf-wise relation for the sequence decoder -/

/-- what may stand (cast side, `w`) in the place of a leaf `v` of the un-cast decoding: a string
    `s` stays, or becomes `cast S c s []` (empty key!); null, booleans and numbers — the sequence
    decoder's only numbers are the `#seq` values — stay -/
def castLeafSeq (S : Strconv) (c : CastCfg) : Val → Val → Prop
  | .str s, w => w = .str s ∨ w = cast S c s []
  | .null, w => w = .null
  | .bool b, w => w = .bool b
  | .num x, w => w = .num x
  | .list _, _ => False
  | .map _, _ => False

/-- `CastRelSeq S c v0 v`: `v` is `v0` with some string leaves `s` replaced by `cast S c s []`;
    same lists, same keys in the same order, all other leaves equal.  (The Map decoder's `CastRel`
    does not fit: it lets a string only stay when it is `""`, but the sequence decoder also keeps
    comment / directive / processing-instruction texts; and it leaves the key open, while the
    sequence decoder always casts under the empty key.) -/
def CastRelSeq (S : Strconv) (c : CastCfg) : Val → Val → Prop := LRel (castLeafSeq S c)
def CastRelSeqList (S : Strconv) (c : CastCfg) : List Val → List Val → Prop := LRelList (castLeafSeq S c)
def CastRelSeqEntries (S : Strconv) (c : CastCfg) : Entries → Entries → Prop :=
  LRelEntries (castLeafSeq S c)

section RelSeq
variable (S : Strconv) (c : CastCfg)

theorem CastRelSeq_str (s : Str) (w : Val) :
    CastRelSeq S c (.str s) w ↔ (w = .str s ∨ w = cast S c s []) := Iff.rfl

theorem CastRelSeq_num (x : Str) (w : Val) : CastRelSeq S c (.num x) w ↔ w = .num x := Iff.rfl

theorem CastRelSeq_bool (b : Bool) (w : Val) : CastRelSeq S c (.bool b) w ↔ w = .bool b := Iff.rfl

theorem CastRelSeq_null (w : Val) : CastRelSeq S c .null w ↔ w = .null := Iff.rfl

/-- `#seq` numbers are identical on both sides -/
theorem CastRelSeq_seqNum (n : Nat) (w : Val) : CastRelSeq S c (seqNum n) w ↔ w = seqNum n :=
  CastRelSeq_num S c _ w

/-- at a list: the list relation -/
theorem CastRelSeq_list (xs ys : List Val) :
    CastRelSeq S c (.list xs) (.list ys) ↔ CastRelSeqList S c xs ys := LRel_list

/-- at a map: the entries relation -/
theorem CastRelSeq_map (a b : Entries) :
    CastRelSeq S c (.map a) (.map b) ↔ CastRelSeqEntries S c a b := LRel_map

theorem CastRelSeqList_nil : CastRelSeqList S c [] [] := LRelList_nil

theorem CastRelSeqList_cons (x y : Val) (xs ys : List Val) :
    CastRelSeqList S c (x :: xs) (y :: ys) ↔ CastRelSeq S c x y ∧ CastRelSeqList S c xs ys :=
  LRelList_cons

theorem CastRelSeqEntries_nil : CastRelSeqEntries S c [] [] := LRelEntries_nil

theorem CastRelSeqEntries_cons (k k' : Str) (v w : Val) (a b : Entries) :
    CastRelSeqEntries S c ((k, v) :: a) ((k', w) :: b) ↔
      k = k' ∧ CastRelSeq S c v w ∧ CastRelSeqEntries S c a b :=
  LRelEntries_cons

/-- same keys, in the same order -/
theorem CastRelSeqEntries_keys (a b : Entries) (h : CastRelSeqEntries S c a b) : keys a = keys b :=
  LRelEntries_keys h

theorem CastRelSeqList_length (xs ys : List Val) (h : CastRelSeqList S c xs ys) :
    xs.length = ys.length := LRelList_length h

/-- preserved by `m[k] = v` -/
theorem CastRelSeqEntries_insert (k : Str) (v w : Val) (hv : CastRelSeq S c v w) (a b : Entries)
    (h : CastRelSeqEntries S c a b) : CastRelSeqEntries S c (insert k v a) (insert k w b) :=
  LRelEntries_insert k hv h

theorem castLeafSeq_refl (v : Val) (hl : v.isList = false) (hm : v.isMap = false) :
    castLeafSeq S c v v := by
  cases v with
  | str s => exact .inl rfl
  | null | bool _ | num _ => rfl
  | list _ => cases hl
  | map _ => cases hm

/-- reflexive (whatever the flag): every string may stay -/
theorem CastRelSeq_refl : ∀ (v : Val), CastRelSeq S c v v := LRel_refl (castLeafSeq_refl S c)
theorem CastRelSeqList_refl : ∀ (xs : List Val), CastRelSeqList S c xs xs :=
  LRelList_refl (castLeafSeq_refl S c)
theorem CastRelSeqEntries_refl : ∀ (a : Entries), CastRelSeqEntries S c a a :=
  LRelEntries_refl (castLeafSeq_refl S c)

theorem castLeafSeq_off (hr : c.r = false) (v w : Val) (h : castLeafSeq S c v w) : w = v := by
  cases v with
  | str s =>
    rcases h with rfl | rfl
    · rfl
    · exact cast_off S c s [] hr
  | null | bool _ | num _ => exact h
  | list _ | map _ => exact h.elim

/-- with the cast flag off the relation is equality -/
theorem CastRelSeq_off (hr : c.r = false) : ∀ (v w : Val), CastRelSeq S c v w → w = v :=
  LRel_eq (castLeafSeq_off S c hr)
theorem CastRelSeqList_off (hr : c.r = false) :
    ∀ (xs ys : List Val), CastRelSeqList S c xs ys → ys = xs :=
  LRelList_eq (castLeafSeq_off S c hr)
theorem CastRelSeqEntries_off (hr : c.r = false) :
    ∀ (a b : Entries), CastRelSeqEntries S c a b → b = a :=
  LRelEntries_eq (castLeafSeq_off S c hr)

/-- the leaf casts of the un-cast and the cast run are related, strings and sequence numbers
    are related to themselves -/
theorem castLeafSeq_hyp : LeafHyp (castLeafSeq S c) S S { c with r := false } c where
  scalar := by
    intro v w h
    cases v with
    | str s =>
      rcases h with rfl | rfl
      · exact ⟨rfl, rfl⟩
      · exact Dec.scalar_leaf (Dec.cast_scalar S c s [])
    | null | bool b | num x => cases h; exact ⟨rfl, rfl⟩
    | list xs | map a => exact h.elim
  hcast := by
    intro s
    rw [cast_off S { c with r := false } s [] rfl]
    exact Or.inr rfl
  str := fun s => Or.inl rfl
  seq := fun _ => rfl

end RelSeq

/-! ### same structure, leaf-wise cast -/

/-- `c` with the cast flag off, everything else (cast options included) unchanged -/
def uncastSeqCfg (c : SeqCfg) : SeqCfg := { c with cast := { c.cast with r := false } }

theorem uncastSeqCfg_r (c : SeqCfg) : (uncastSeqCfg c).cast.r = false := rfl

/-- the relation between the two top-level results, for every token stream -/
theorem CastRelSeq_newMapXmlSeq (c : SeqCfg) (S : Strconv) (fin : StreamEnd) (toks : List Tok) :
    LRelTop c (castLeafSeq S c.cast) (newMapXmlSeq (uncastSeqCfg c) S toks fin)
      (newMapXmlSeq c S toks fin) :=
  LRel_newMapXmlSeq (castLeafSeq_hyp S c.cast) c fin toks

/-- decoding with the cast flag relates leaf-wise to decoding the same tokens without it: same
    kind of result (document / no-root result / eof / syntax error / other error / panic), a
    document's values `CastRelSeq`-related, a no-root result identical -/
theorem C14_seq_structure (c : SeqCfg) (S : Strconv) (fin : StreamEnd) (toks : List Tok) :
    let c0 : SeqCfg := { c with cast := { c.cast with r := false } }
    match newMapXmlSeq c0 S toks fin, newMapXmlSeq c S toks fin with
    | .ok (.doc v0), .ok (.doc v) => CastRelSeq S c.cast v0 v
    | .ok (.noRoot v0), .ok (.noRoot v) => v = v0
    | .eof, .eof => True | .syntax, .syntax => True | .err a, .err b => a = b | .panic a, .panic b => a = b
    | _, _ => False := by
  intro c0
  have h : LRelTop c (castLeafSeq S c.cast) (newMapXmlSeq c0 S toks fin) (newMapXmlSeq c S toks fin) :=
    CastRelSeq_newMapXmlSeq c S fin toks
  revert h
  rcases newMapXmlSeq c0 S toks fin with (v0 | v0) | _ | _ | k0 | s0 <;>
    rcases newMapXmlSeq c S toks fin with (v | v) | _ | _ | k | s <;>
    first
    | exact id               -- `LRelTop` says the same as the `match`; for two different kinds of result both say `False`
    | exact fun h => h.2.1   -- no-root / no-root: `LRelTopRes` says `LRel … v0 v ∧ v = v0 ∧ NoRootVal c v0`

/-- the same at every fuel, for the element loop from related states (also: same unread tokens) -/
theorem C14_seq_structure_seqElem (c : SeqCfg) (S : Strconv) (fin : StreamEnd) (f : Nat) (skey : Str)
    (na nb : Entries) (seq : Nat) (pend : Option (Str × Bool)) (toks : List Tok)
    (hE : CastRelSeqEntries S c.cast na nb) :
    LRelOut (castLeafSeq S c.cast) (seqElem (uncastSeqCfg c) S fin f skey na seq pend toks)
      (seqElem c S fin f skey nb seq pend toks) :=
  (LRelOut_iff ..).2 (LRel_seqElem (castLeafSeq_hyp S c.cast) c fin f hE)

/-- … in particular: a document decodes with the flag iff it decodes without it, and the two
    MapSeq values are related -/
theorem C14_seq_structure_doc (c : SeqCfg) (S : Strconv) (fin : StreamEnd) (toks : List Tok) (v : Val)
    (h : newMapXmlSeq c S toks fin = .ok (.doc v)) :
    ∃ v0, newMapXmlSeq (uncastSeqCfg c) S toks fin = .ok (.doc v0) ∧ CastRelSeq S c.cast v0 v := by
  have hr := CastRelSeq_newMapXmlSeq c S fin toks
  rw [h] at hr
  revert hr
  rcases newMapXmlSeq (uncastSeqCfg c) S toks fin with (v0 | v0) | _ | _ | k0 | s0 <;> intro hr
  · exact ⟨v0, rfl, hr⟩
  all_goals exact hr.elim

/-! ### un-cast decoding: strings (and sequence numbers) only -/

/-- a leaf of an un-cast sequence decoding: a string, or one of the decoder's sequence numbers
    `seqNum n` (= the number `i:n`) -/
def StrOrSeqNum (v : Val) : Prop := (∃ s, v = .str s) ∨ (∃ n, v = seqNum n)

/-- with the cast flag off every leaf of the decoded value — element text, attribute values,
    comment / directive / processing-instruction texts, the `""` of empty elements — is a string,
    the only other leaves being the sequence numbers; no booleans, no nulls, no other numbers.
    Both for a document and for a no-root result.
    (Not claimed: that a sequence number sits directly under the `#seq` key — for an element that
    is itself named like the `#seq` key, `addChild` moves the number into a list.) -/
theorem C14_seq_uncast_strings (c : SeqCfg) (S : Strconv) (fin : StreamEnd) (toks : List Tok)
    (top : SeqTop) (hr : c.cast.r = false) (h : newMapXmlSeq c S toks fin = .ok top) :
    AllLeaves StrOrSeqNum top.val :=
  AllLeaves_newMapXmlSeq
    (fun s => Or.inl ⟨s, cast_off S c.cast s [] hr⟩) (fun s => Or.inl ⟨s, rfl⟩)
    (fun n => Or.inr ⟨n, rfl⟩) h

/-- with the flag ON the leaves are strings, sequence numbers, or proper cast results -/
theorem C14_seq_leaves (c : SeqCfg) (S : Strconv) (fin : StreamEnd) (toks : List Tok)
    (top : SeqTop) (h : newMapXmlSeq c S toks fin = .ok top) :
    AllLeaves (fun v => StrOrSeqNum v ∨ ∃ s, v = cast S c.cast s []) top.val :=
  AllLeaves_newMapXmlSeq
    (fun s => Or.inr ⟨s, rfl⟩) (fun s => Or.inl (Or.inl ⟨s, rfl⟩))
    (fun n => Or.inl (Or.inr ⟨n, rfl⟩)) h

/-! ### comments, directives, processing instructions are never cast -/

/-- the entry the element loop stores for a comment / directive / processing-instruction token
    at sequence number `seq`.  Neither the cast options nor the `Strconv` occur. -/
def metaEntry (c : SeqCfg) (seq : Nat) : Tok → Option (Str × Val)
  | .comment s => some (c.commentK, .map [(c.textK, .str s), (c.seqK, seqNum seq)])
  | .directive s => some (c.directiveK, .map [(c.textK, .str s), (c.seqK, seqNum seq)])
  | .procinst t i =>
      some (c.procinstK, .map [(c.targetK, .str t), (c.instK, .str i), (c.seqK, seqNum seq)])
  | _ => none

theorem metaEntry_isSome (c : SeqCfg) (seq : Nat) (tok : Tok) :
    (metaEntry c seq tok).isSome = true ↔
      (∃ s, tok = .comment s) ∨ (∃ s, tok = .directive s) ∨ (∃ t i, tok = .procinst t i) := by
  cases tok <;> simp [metaEntry]

/-- with the cast flag ON (or off), inside an element: a comment, directive or processing
    instruction stores `metaEntry` — its text as a STRING plus the sequence number — and goes on;
    the text is not passed to `cast`: the entry is the same for every cast configuration and
    every `Strconv`, and all its leaves are strings / the sequence number -/
theorem C14_seq_meta_not_cast (c : SeqCfg) (S : Strconv) (fin : StreamEnd) (f : Nat) (skey : Str)
    (na : Entries) (seq : Nat) (pend : Option (Str × Bool)) (tok : Tok) (rest : List Tok)
    (k : Str) (v : Val) (h : metaEntry c seq tok = some (k, v)) :
    seqElem c S fin (f + 1) skey na seq pend (tok :: rest)
        = seqElem c S fin f skey (insert k v na) (seq + 1) none rest
      ∧ AllLeaves StrOrSeqNum v
      ∧ ∀ cc : CastCfg, metaEntry (withCast c cc) seq tok = some (k, v) := by
  have hs : ∀ s, StrOrSeqNum (.str s) := fun s => Or.inl ⟨s, rfl⟩
  have hn : AllLeaves StrOrSeqNum (seqNum seq) := Or.inr ⟨seq, rfl⟩
  -- for a start tag, an end tag or character data `metaEntry` is `none`
  cases tok <;> cases h
  -- the three others: `(k, v)` is the entry in the loop's clause, with or without `cc`, by computation
  all_goals
    refine ⟨rfl, ?_, fun _ => rfl⟩
    simp only [AllLeaves, AllLeavesEntries, hs, hn, and_true]

/-- ahead of any root element: the no-root result of a comment / directive / processing
    instruction holds its text as a string — whatever the cast flag — and is the same result
    under every cast configuration and every `Strconv` -/
theorem C14_seq_meta_not_cast_noroot (c : SeqCfg) (S : Strconv) (fin : StreamEnd) (toks : List Tok)
    (m : Val) (h : newMapXmlSeq c S toks fin = .ok (.noRoot m)) :
    ((∃ s, m = .map [(c.commentK, .str s)]) ∨ (∃ s, m = .map [(c.directiveK, .str s)]) ∨
        (∃ t i, m = .map [(c.procinstK, .map [(c.targetK, .str t), (c.instK, .str i)])]))
      ∧ ∀ (cc : CastCfg) (S' : Strconv), newMapXmlSeq (withCast c cc) S' toks fin = .ok (.noRoot m) := by
  -- any leaf relation will do: a no-root result is related only to itself
  have key : ∀ (cc : CastCfg) (S' : Strconv),
      NoRootVal c m ∧ newMapXmlSeq (withCast c cc) S' toks fin = .ok (.noRoot m) := by
    intro cc S'
    have H : LeafHyp (fun _ w => w.isList = false ∧ w.isMap = false) S S' c.cast cc :=
      { scalar := fun _ _ h => h
        hcast := fun s => Dec.scalar_leaf (Dec.cast_scalar S' cc s [])
        str := fun _ => ⟨rfl, rfl⟩
        seq := fun _ => ⟨rfl, rfl⟩ }
    have hr := LRel_newMapXmlSeq H c fin toks
    rw [withCast_self, h] at hr
    revert hr
    rcases newMapXmlSeq (withCast c cc) S' toks fin with (v | v) | _ | _ | k | s <;> intro hr
    · exact hr.elim
    · rw [hr.2.1]; exact ⟨hr.2.2, rfl⟩
    all_goals exact hr.elim
  exact ⟨(key c.cast S).1, fun cc S' => (key cc S').2⟩

/-! ### a run of CharData tokens is cast as a whole -/

/-- the merge step: inside an element, from any state, two adjacent CharData tokens `a`, `b`
    (text next to a CDATA section) act exactly like the single token `a ++ b` — the run is
    accumulated and the WHOLE accumulated text is trimmed and cast again, replacing the value
    cast from `a` alone.  (`#text` and `#seq` must be different keys; one unit of fuel per
    token.) -/
theorem C14_seq_run_cast_whole (c : SeqCfg) (S : Strconv) (fin : StreamEnd) (f : Nat) (skey : Str)
    (na : Entries) (seq : Nat) (pend : Option (Str × Bool)) (a b : Str) (rest : List Tok)
    (hk : c.textK ≠ c.seqK) :
    seqElem c S fin (f + 2) skey na seq pend (.text a :: .text b :: rest) =
      seqElem c S fin (f + 1) skey na seq pend (.text (a ++ b) :: rest) :=
  seqElem_merge hk

/-- two token streams that differ only in how one run of character data is split into tokens —
    anywhere in the document, at any depth — decode to the same result (value or error) -/
theorem C14_seq_run_split_irrelevant (c : SeqCfg) (S : Strconv) (fin : StreamEnd)
    (hk : c.textK ≠ c.seqK) (pre : List Tok) (a b : Str) (post : List Tok) :
    newMapXmlSeq c S (pre ++ .text a :: .text b :: post) fin =
      newMapXmlSeq c S (pre ++ .text (a ++ b) :: post) fin := by
  unfold newMapXmlSeq
  rw [Merge_seqTop hk _ (Merge_at pre a b post) (Nat.lt_succ_self _)]
  exact (Total.seqTop_fuel _ (Nat.lt_succ_self _)
    (by simp only [List.length_append, List.length_cons]; omega)).symm

/-- the value of an element whose content is one run `a, t1, …, tn` of CharData tokens (no child
    elements in between) that is not blank: attributes, then `#text` = the cast — under the empty
    key — of the trimmed concatenation, then `#seq` -/
theorem C14_seq_run_value (c : SeqCfg) (S : Strconv) (fin : StreamEnd) (hk : c.textK ≠ c.seqK)
    (sp name : Str) (na : Entries) (seq : Nat) (a : Str) (ts : List Str) (rest : List Tok) (f : Nat)
    (hne : (escDecIf c.dec (trimChars (trimSet c.dec) (a ++ ts.flatten))).isEmpty = false) :
    seqElem c S fin (f + ts.length + 2) (qualName c sp name) na seq none
        (.text a :: (ts.map Tok.text ++ .stop sp name :: rest)) =
      .ok (.map (insert c.seqK (seqNum seq) (insert c.textK
        (cast S c.cast (escDecIf c.dec (trimChars (trimSet c.dec) (a ++ ts.flatten))) []) na)), rest) := by
  have e : f + ts.length + 2 = (f + 1) + ts.length + 1 := by omega
  rw [e, seqElem_run hk ts a (f + 1)]
  simp only [seqElem, List.nil_append, hne, Bool.false_eq_true, if_false, ne_eq, not_true_eq_false,
    insert_ne_nil]

/-! ### never NaN / Inf unless CastNanInf -/

/-- `x` is the rendering of an integer, or of a `ParseFloat` result that `Strconv` reports as an
    ordinary value (not NaN, not ±Inf) -/
def NumOrigin (S : Strconv) (c : CastCfg) (x : Str) : Prop :=
  ∃ s, (c.toInt = true ∧ (S.parseInt s = some x ∨ S.parseUint s = some x)) ∨
    (c.toFloat = true ∧ S.parseFloat s = some (x, false))

/-- a leaf that is a number is a sequence number or has an ordinary origin -/
def NoNanInfLeaf (S : Strconv) (c : CastCfg) (v : Val) : Prop :=
  ∀ x, v = .num x → (∃ n, v = seqNum n) ∨ NumOrigin S c x

/-- for ANY `Strconv`, with NaN/Inf casting off: every number leaf of the decoded value is a
    sequence number, or came from an integer parser, or from a `ParseFloat` that reported a
    non-special value (leaf level: `C14_no_naninf`) -/
theorem C14_seq_no_naninf (c : SeqCfg) (S : Strconv) (fin : StreamEnd) (toks : List Tok)
    (top : SeqTop) (hn : c.cast.nanInf = false) (h : newMapXmlSeq c S toks fin = .ok top) :
    AllLeaves (NoNanInfLeaf S c.cast) top.val :=
  AllLeaves_newMapXmlSeq
    (fun s x hx => Or.inr ⟨s, C14_no_naninf S c.cast s [] x hn hx⟩) (fun _ _ hx => nomatch hx)
    (fun n _ _ => Or.inl ⟨n, rfl⟩) h

/-- in negative form: for any classification `special` of number renderings that agrees with the
    `Strconv` (integer renderings and sequence numbers are ordinary, a float rendering is special
    exactly when `ParseFloat` says so), no number leaf is special -/
theorem C14_seq_no_naninf_special (c : SeqCfg) (S : Strconv) (fin : StreamEnd) (toks : List Tok)
    (top : SeqTop) (hn : c.cast.nanInf = false) (h : newMapXmlSeq c S toks fin = .ok top)
    (special : Str → Bool)
    (hint : ∀ s x, S.parseInt s = some x → special x = false)
    (huint : ∀ s x, S.parseUint s = some x → special x = false)
    (hfloat : ∀ s x sp, S.parseFloat s = some (x, sp) → special x = sp)
    (hseq : ∀ n, special ("i:".toList ++ natToStr n) = false) :
    AllLeaves (fun v => ∀ x, v = .num x → special x = false) top.val := by
  refine AllLeaves_mono ?_ _ (C14_seq_no_naninf c S fin toks top hn h)
  intro v hv x hx
  rcases hv x hx with ⟨n, hn'⟩ | ⟨s, ⟨_, hp | hp⟩ | ⟨_, hp⟩⟩
  · cases hx.symm.trans hn'
    exact hseq n
  · exact hint s x hp
  · exact huint s x hp
  · exact hfloat s x false hp

/-! ### the exact form of the structure theorem: decode once with a cast that marks -/

/-- a `Strconv` whose ParseInt accepts every text and renders it as itself behind the tag `M:` -/
def markConv : Strconv where
  parseInt s := some ("M:".toList ++ s)
  parseUint _ := none
  parseFloat _ := none
  lower s := s

/-- cast flag and integer casting on, no NaN/Inf word guard -/
def markCfg : CastCfg := { r := true, toInt := true, nanInf := true }

/-- under the marking configuration `cast` wraps its argument: every text that is passed to
    `cast` becomes the number `M:text`, every text that is not stays a string -/
theorem cast_mark (s : Str) : cast markConv markCfg s [] = .num ("M:".toList ++ s) :=
  C14_cast_int markConv markCfg s [] _ ⟨rfl, rfl⟩ (.inl rfl) rfl rfl

/-- reading a marked leaf back: `M:s` is where `cast` was called on `s` -/
def unmarkLeaf (S : Strconv) (c : CastCfg) : Val → Val
  | .num x => if "M:".toList.isPrefixOf x then cast S c (x.drop 2) [] else .num x
  | v => v

mutual
/-- `unmarkLeaf` at every leaf -/
def unmark (S : Strconv) (c : CastCfg) : Val → Val
  | .list xs => .list (unmarkList S c xs)
  | .map a => .map (unmarkEntries S c a)
  | .null => .null
  | .bool b => .bool b
  | .num x => unmarkLeaf S c (.num x)
  | .str s => .str s
def unmarkList (S : Strconv) (c : CastCfg) : List Val → List Val
  | [] => []
  | x :: xs => unmark S c x :: unmarkList S c xs
def unmarkEntries (S : Strconv) (c : CastCfg) : Entries → Entries
  | [] => []
  | (k, v) :: rest => (k, unmark S c v) :: unmarkEntries S c rest
end

/-- the graph of `unmarkLeaf` on leaves -/
def unmarkRel (S : Strconv) (c : CastCfg) (v w : Val) : Prop :=
  (v.isList = false ∧ v.isMap = false) ∧ w = unmarkLeaf S c v

mutual
theorem unmark_of_rel (S : Strconv) (c : CastCfg) :
    ∀ (v w : Val), LRel (unmarkRel S c) v w → w = unmark S c v
  | .list xs, w, h => by
      obtain ⟨ys, rfl, h⟩ := h
      exact congrArg Val.list (unmarkList_of_rel S c xs ys h)
  | .map a, w, h => by
      obtain ⟨b, rfl, h⟩ := h
      exact congrArg Val.map (unmarkEntries_of_rel S c a b h)
  | .null, _, h | .bool _, _, h | .num _, _, h | .str _, _, h => h.2
theorem unmarkList_of_rel (S : Strconv) (c : CastCfg) :
    ∀ (xs ys : List Val), LRelList (unmarkRel S c) xs ys → ys = unmarkList S c xs
  | [], _, h => h
  | x :: xs, ys, h => by
      obtain ⟨y, ys', rfl, h1, h2⟩ := h
      rw [unmark_of_rel S c x y h1, unmarkList_of_rel S c xs ys' h2, unmarkList]
theorem unmarkEntries_of_rel (S : Strconv) (c : CastCfg) :
    ∀ (a b : Entries), LRelEntries (unmarkRel S c) a b → b = unmarkEntries S c a
  | [], _, h => h
  | (k, v) :: rest, b, h => by
      obtain ⟨w, b', rfl, h1, h2⟩ := h
      rw [unmark_of_rel S c v w h1, unmarkEntries_of_rel S c rest b' h2, unmarkEntries]
end

theorem unmarkRel_hyp (S : Strconv) (c : CastCfg) : LeafHyp (unmarkRel S c) markConv S markCfg c where
  scalar := by
    intro v w h
    obtain ⟨⟨h1, h2⟩, rfl⟩ := h
    cases v with
    | num x =>
      simp only [unmarkLeaf]
      split
      · exact Dec.scalar_leaf (Dec.cast_scalar S c (x.drop 2) [])
      · exact ⟨rfl, rfl⟩
    | list xs => cases h1
    | map a => cases h2
    | null | bool b | str s => exact ⟨rfl, rfl⟩
  hcast := by
    intro s
    rw [cast_mark]
    refine ⟨⟨rfl, rfl⟩, ?_⟩
    simp [unmarkLeaf]
  str := fun s => ⟨⟨rfl, rfl⟩, rfl⟩
  seq := fun n => by
    refine ⟨⟨rfl, rfl⟩, ?_⟩
    simp [seqNum, unmarkLeaf]

def mapTopVal (g : Val → Val) : Outcome SeqTop → Outcome SeqTop
  | .ok (.doc v) => .ok (.doc (g v))
  | .ok (.noRoot v) => .ok (.noRoot (g v))
  | .eof => .eof
  | .syntax => .syntax
  | .err k => .err k
  | .panic s => .panic s

/-- the exact form: decode the tokens ONCE under the marking cast — the result shows the
    structure, all strings that are not cast (comment / directive / processing-instruction texts,
    `""` of empty elements) and, as `M:text`, every place where `cast` is called and on which
    text.  The decoding under ANY cast configuration and ANY `Strconv` is that value with each
    mark `M:s` replaced by `cast S c.cast s []` and nothing else changed.  Hence the structure
    does not depend on the cast flag, on the cast options or on the `Strconv`; which leaves are
    cast does not either; and strings that are not cast are the same in all decodings. -/
theorem C14_seq_structure_exact (c : SeqCfg) (S : Strconv) (fin : StreamEnd) (toks : List Tok) :
    newMapXmlSeq c S toks fin =
      mapTopVal (unmark S c.cast) (newMapXmlSeq (withCast c markCfg) markConv toks fin) := by
  have h := LRel_newMapXmlSeq (unmarkRel_hyp S c.cast) c fin toks
  rw [withCast_self] at h
  revert h
  rcases newMapXmlSeq (withCast c markCfg) markConv toks fin with (v0 | v0) | _ | _ | k0 | s0 <;>
    rcases newMapXmlSeq c S toks fin with (v | v) | _ | _ | k | s <;>
    intro h <;> try (exact h.elim)
  -- left: the same kind of result on both sides (for two different kinds `h : False`)
  · rw [unmark_of_rel S c.cast v0 v h]; rfl      -- document / document
  · rw [unmark_of_rel S c.cast v0 v h.1]; rfl    -- no-root / no-root: `h.1` is the `LRel` part of `LRelTopRes`
  · rfl                                          -- eof / eof
  · rfl                                          -- syntax / syntax
  · cases h; rfl                                 -- err / err
  · cases h; rfl                                 -- panic / panic

/-! ### non-vacuity: concrete decodings -/

def docVal : Outcome SeqTop → Option Val
  | .ok (.doc v) => some v
  | _ => none

/-- parses "-5" and "1" as floats; "-", "5x", "1x" are not numbers -/
def minusConv : Strconv where
  parseInt _ := none
  parseUint _ := none
  parseFloat s :=
    if s = "-5".toList then some ("f:-5".toList, false)
    else if s = "1".toList then some ("f:1".toList, false)
    else none
  lower s := s.map Char.toLower

/-- `<a>-<![CDATA[5]]></a>`: the CharData tokens `-` and `5` — the run is cast as a whole: −5 -/
example : docVal (newMapXmlSeq { cast := onCfg } minusConv
    [.start [] "a".toList [], .text "-".toList, .text "5".toList, .stop [] "a".toList] .eof) =
    some (.map [("a".toList, .map [("#text".toList, .num "f:-5".toList), ("#seq".toList, .num "i:0".toList)])]) := by
  decide +kernel

/-- the single token `-5` -/
example : docVal (newMapXmlSeq { cast := onCfg } minusConv
    [.start [] "a".toList [], .text "-5".toList, .stop [] "a".toList] .eof) =
    some (.map [("a".toList, .map [("#text".toList, .num "f:-5".toList), ("#seq".toList, .num "i:0".toList)])]) := by
  decide +kernel

/-- the same fact as an instance of the theorem (its hypothesis holds for the default keys) -/
example : newMapXmlSeq { cast := onCfg } minusConv
      ([.start [] "a".toList []] ++ .text "-".toList :: .text "5".toList :: [.stop [] "a".toList]) .eof =
    newMapXmlSeq { cast := onCfg } minusConv
      ([.start [] "a".toList []] ++ .text ("-".toList ++ "5".toList) :: [.stop [] "a".toList]) .eof :=
  C14_seq_run_split_irrelevant _ _ _ (by decide +kernel) _ _ _ _

/-- the value cast from the first token alone (`1`, a number) is REPLACED when the run goes on:
    `1` then `x` is the string `1x` -/
example : docVal (newMapXmlSeq { cast := onCfg } minusConv
    [.start [] "a".toList [], .text "1".toList, .text "x".toList, .stop [] "a".toList] .eof) =
    some (.map [("a".toList, .map [("#text".toList, .str "1x".toList), ("#seq".toList, .num "i:0".toList)])]) := by
  decide +kernel

/-- `C14_seq_run_value`'s hypothesis "the run is not blank" is satisfiable -/
example : (escDecIf ({ cast := onCfg } : SeqCfg).dec (trimChars (trimSet ({ cast := onCfg } : SeqCfg).dec)
    ("-".toList ++ ["5".toList].flatten))).isEmpty = false := by decide +kernel

/-- `<a id="42"><!--42--><b>42</b><?pi 42?><c>true</c><d/></a>` -/
def seqDemoToks : List Tok :=
  [.start [] "a".toList [⟨[], "id".toList, "42".toList⟩],
   .comment "42".toList,
   .start [] "b".toList [], .text "42".toList, .stop [] "b".toList,
   .procinst "pi".toList "42".toList,
   .start [] "c".toList [], .text "true".toList, .stop [] "c".toList,
   .start [] "d".toList [], .stop [] "d".toList,
   .stop [] "a".toList]

/-- cast flag on: attribute value, element texts are cast; the comment text `42` and the
    processing instruction's `42` stay strings; the empty element's `""` stays -/
example : docVal (newMapXmlSeq { cast := onCfg } demoConv seqDemoToks .eof) =
    some (.map [("a".toList, .map [
      ("#attr".toList, .map [("id".toList, .map [("#text".toList, .num "f:42".toList), ("#seq".toList, .num "i:0".toList)])]),
      ("#comment".toList, .map [("#text".toList, .str "42".toList), ("#seq".toList, .num "i:0".toList)]),
      ("b".toList, .map [("#text".toList, .num "f:42".toList), ("#seq".toList, .num "i:1".toList)]),
      ("#procinst".toList, .map [("#target".toList, .str "pi".toList), ("#inst".toList, .str "42".toList),
        ("#seq".toList, .num "i:2".toList)]),
      ("c".toList, .map [("#text".toList, .bool true), ("#seq".toList, .num "i:3".toList)]),
      ("d".toList, .map [("#text".toList, .str []), ("#seq".toList, .num "i:4".toList)])])]) := by
  decide +kernel

/-- cast flag off: the same structure, strings (and sequence numbers) only -/
example : docVal (newMapXmlSeq {} demoConv seqDemoToks .eof) =
    some (.map [("a".toList, .map [
      ("#attr".toList, .map [("id".toList, .map [("#text".toList, .str "42".toList), ("#seq".toList, .num "i:0".toList)])]),
      ("#comment".toList, .map [("#text".toList, .str "42".toList), ("#seq".toList, .num "i:0".toList)]),
      ("b".toList, .map [("#text".toList, .str "42".toList), ("#seq".toList, .num "i:1".toList)]),
      ("#procinst".toList, .map [("#target".toList, .str "pi".toList), ("#inst".toList, .str "42".toList),
        ("#seq".toList, .num "i:2".toList)]),
      ("c".toList, .map [("#text".toList, .str "true".toList), ("#seq".toList, .num "i:3".toList)]),
      ("d".toList, .map [("#text".toList, .str []), ("#seq".toList, .num "i:4".toList)])])]) := by
  decide +kernel

/-- the marking decoding of the same tokens: `M:` exactly where `cast` is called -/
example : docVal (newMapXmlSeq (withCast {} markCfg) markConv seqDemoToks .eof) =
    some (.map [("a".toList, .map [
      ("#attr".toList, .map [("id".toList, .map [("#text".toList, .num "M:42".toList), ("#seq".toList, .num "i:0".toList)])]),
      ("#comment".toList, .map [("#text".toList, .str "42".toList), ("#seq".toList, .num "i:0".toList)]),
      ("b".toList, .map [("#text".toList, .num "M:42".toList), ("#seq".toList, .num "i:1".toList)]),
      ("#procinst".toList, .map [("#target".toList, .str "pi".toList), ("#inst".toList, .str "42".toList),
        ("#seq".toList, .num "i:2".toList)]),
      ("c".toList, .map [("#text".toList, .num "M:true".toList), ("#seq".toList, .num "i:3".toList)]),
      ("d".toList, .map [("#text".toList, .str []), ("#seq".toList, .num "i:4".toList)])])]) := by
  decide +kernel

/-- a comment ahead of the root under the cast flag: a no-root result holding the string -/
example : newMapXmlSeq { cast := onCfg } demoConv [.comment "42".toList, .start [] "a".toList []] .eof matches
    .ok (.noRoot (.map [(_, .str _)])) := by decide +kernel

/-- `metaEntry` is defined on the comment token (hypothesis of `C14_seq_meta_not_cast`) -/
example : metaEntry { cast := onCfg } 3 (.comment "42".toList) =
    some ("#comment".toList, .map [("#text".toList, .str "42".toList), ("#seq".toList, .num "i:3".toList)]) := by
  decide +kernel

/-- `<a n="NaN">1e999</a>` with NaN/Inf casting off (hypothesis of `C14_seq_no_naninf`): strings -/
example : docVal (newMapXmlSeq { cast := onCfg } demoConv
    [.start [] "a".toList [⟨[], "n".toList, "NaN".toList⟩], .text "1e999".toList, .stop [] "a".toList] .eof) =
    some (.map [("a".toList, .map [
      ("#attr".toList, .map [("n".toList, .map [("#text".toList, .str "NaN".toList), ("#seq".toList, .num "i:0".toList)])]),
      ("#text".toList, .str "1e999".toList), ("#seq".toList, .num "i:0".toList)])]) := by
  decide +kernel

/-- … and why the hypothesis is needed: with CastNanInf on they are the special floats -/
example : docVal (newMapXmlSeq { cast := nanCfg } demoConv
    [.start [] "a".toList [⟨[], "n".toList, "NaN".toList⟩], .text "1e999".toList, .stop [] "a".toList] .eof) =
    some (.map [("a".toList, .map [
      ("#attr".toList, .map [("n".toList, .map [("#text".toList, .num "f:NaN".toList), ("#seq".toList, .num "i:0".toList)])]),
      ("#text".toList, .num "f:+Inf".toList), ("#seq".toList, .num "i:0".toList)])]) := by
  decide +kernel

/-- the compatibility hypotheses of `C14_seq_no_naninf_special` are satisfiable for `demoConv`:
    special = "the rendering is f:NaN or f:+Inf" -/
example : ∃ special : Str → Bool,
    (∀ s x, demoConv.parseInt s = some x → special x = false) ∧
    (∀ s x, demoConv.parseUint s = some x → special x = false) ∧
    (∀ s x sp, demoConv.parseFloat s = some (x, sp) → special x = sp) ∧
    (∀ n, special ("i:".toList ++ natToStr n) = false) := by
  refine ⟨fun x => x = "f:NaN".toList || x = "f:+Inf".toList, ?_, ?_, ?_, ?_⟩
  · intro s x h
    simp only [demoConv] at h
    split at h
    · cases h; decide
    · split at h
      · cases h; decide
      · cases h
  · intro s x h
    simp only [demoConv] at h
    split at h
    · cases h; decide
    · cases h
  · intro s x sp h
    simp only [demoConv] at h
    repeat' split at h
    all_goals first | (cases h; decide) | cases h
  · intro n
    simp

end Mxj.C14
