/-
  Mxj.Props.C15 — totality of the decoders.

  For arbitrary byte input every decoder terminates and returns either a Map or an error — it
  fails exactly when the underlying tokenizer rejects the first document, and then returns no
  partial Map (the sequence decoder's documented no-root result aside); none of them panics,
  and every Map produced by a decoder can be passed to the corresponding encoder without a
  panic.

  "Arbitrary bytes" are, in the model, an arbitrary token list `toks` followed by a stream end
  `fin` (`.eof`: the tokenizer hit end of input, `.bad`: it reported a syntax error).
-/
import Mxj.Lemmas.Total
import Mxj.Props.C15Sites
import Mxj.Generated.CallFacts
import Mxj.Lemmas.DecEq
namespace Mxj.C15
open Mxj

/-- the regenerated residue of potentially panicking source sites is contained in the reviewed
    table (re-checked against the regenerated list on every run) -/
theorem C15_sites_covered :
    Generated.panicSites.all (fun s => justified.any
      (fun j => j.1 == s.1 && j.2.1 == s.2.1 && j.2.2.1 == s.2.2)) = true := by
  decide +kernel

/-! ### the Map decoder -/

/-- it fails exactly when the token stream ends before the first root element closes -/
theorem C15_map_decoder_fails_iff (cfg : DecCfg) (S : Strconv) (toks : List Tok) (fin : StreamEnd) :
    (∃ v, newMapXml cfg S toks fin = .ok v) ↔ rootCloses toks = true := by
  have h := Total.decodeTop_spec cfg S fin _ toks (Nat.lt_succ_self _)
  unfold newMapXml
  cases hr : rootCloses toks with
  | true =>
    obtain ⟨k, x, r, e⟩ := h.1 hr
    rw [e]
    simp
  | false =>
    rw [h.2 hr]
    cases fin <;> simp [finErr]

/-- … and then the error kind is that of the stream end: io.EOF or the tokenizer's error,
    nothing else (in particular no partial Map and no out-of-fuel error) -/
theorem C15_map_decoder_error_kind (cfg : DecCfg) (S : Strconv) (toks : List Tok) (fin : StreamEnd)
    (h : rootCloses toks = false) :
    newMapXml cfg S toks fin = (match fin with | .eof => .eof | .bad => .syntax) := by
  unfold newMapXml
  rw [(Total.decodeTop_spec cfg S fin _ toks (Nat.lt_succ_self _)).2 h]
  cases fin <;> rfl

/-- on success the value is a one-entry map (the root element) -/
theorem C15_map_decoder_one_root (cfg : DecCfg) (S : Strconv) (toks : List Tok) (fin : StreamEnd)
    (v : Val) (h : newMapXml cfg S toks fin = .ok v) : ∃ k x, v = .map [(k, x)] := by
  have hr : rootCloses toks = true := (C15_map_decoder_fails_iff cfg S toks fin).1 ⟨v, h⟩
  obtain ⟨k, x, r, e⟩ := (Total.decodeTop_spec cfg S fin _ toks (Nat.lt_succ_self _)).1 hr
  unfold newMapXml at h
  rw [e] at h
  simp only [Outcome.ok.injEq] at h
  exact ⟨k, x, h.symm⟩

/-- the Map decoder is total: for every token list, every stream end, every configuration it
    returns a Map, io.EOF or a syntax error — never a panic, and (with the fuel `newMapXml`
    uses) never the out-of-fuel error -/
theorem C15_map_decoder_total (cfg : DecCfg) (S : Strconv) (toks : List Tok) (fin : StreamEnd) :
    (∃ v, newMapXml cfg S toks fin = .ok v) ∨ newMapXml cfg S toks fin = .eof
      ∨ newMapXml cfg S toks fin = .syntax := by
  cases hr : rootCloses toks with
  | true => exact .inl ((C15_map_decoder_fails_iff cfg S toks fin).2 hr)
  | false =>
    have := C15_map_decoder_error_kind cfg S toks fin hr
    cases fin
    · exact .inr (.inl this)
    · exact .inr (.inr this)

/-! ### the sequence decoder -/

/-- complete outcome classification of the sequence decoder by the decoder-independent
    `seqClass` (a stack scan of the token list): a one-root MapSeq when the root element is
    closed by properly named end tags, the documented no-root result when a comment /
    directive / processing instruction precedes any root, the stream-end error when the tokens
    run out, and the "not properly terminated / stray end tag" error exactly on a mismatched
    or stray end tag -/
theorem C15_seq_decoder_outcome (c : SeqCfg) (S : Strconv) (toks : List Tok) (fin : StreamEnd) :
    match seqClass c toks with
    | .doc => ∃ k v, newMapXmlSeq c S toks fin = .ok (.doc (.map [(k, v)]))
    | .noRoot => ∃ m, newMapXmlSeq c S toks fin = .ok (.noRoot m)
    | .trunc => newMapXmlSeq c S toks fin = (match fin with | .eof => .eof | .bad => .syntax)
    | .badEnd => newMapXmlSeq c S toks fin = .err .other :=
  Total.seqTop_spec c S fin _ toks (Nat.lt_succ_self _)

/-- the sequence decoder never panics (what it returns instead: `C15_seq_decoder_outcome`) -/
theorem C15_seq_decoder_total (c : SeqCfg) (S : Strconv) (toks : List Tok) (fin : StreamEnd) :
    ∀ site, newMapXmlSeq c S toks fin ≠ .panic site :=
  (Total.seqTopSpec_kind (C15_seq_decoder_outcome c S toks fin)).1

/-- with the fuel `newMapXmlSeq` uses, `.err .other` is never the out-of-fuel error: it arises
    exactly when `seqClass` finds a stray end tag ahead of the root or an end tag whose name
    differs from the open element's -/
theorem C15_seq_decoder_no_fuel_error (c : SeqCfg) (S : Strconv) (toks : List Tok)
    (fin : StreamEnd) :
    newMapXmlSeq c S toks fin = .err .other ↔ seqClass c toks = .badEnd :=
  (Total.seqTopSpec_kind (C15_seq_decoder_outcome c S toks fin)).2.1

/-- it succeeds (with a document or the no-root result) exactly on the token lists `seqClass`
    classifies as `.doc` or `.noRoot` -/
theorem C15_seq_decoder_fails_iff (c : SeqCfg) (S : Strconv) (toks : List Tok) (fin : StreamEnd) :
    (∃ r, newMapXmlSeq c S toks fin = .ok r) ↔ (seqClass c toks = .doc ∨ seqClass c toks = .noRoot) :=
  (Total.seqTopSpec_kind (C15_seq_decoder_outcome c S toks fin)).2.2

/-! ### decoder output is encodable -/

/-- the decoder establishes the shape invariant `SeqShaped` … -/
theorem C15_seq_decoded_shaped (c : SeqCfg) (S : Strconv) (toks : List Tok) (fin : StreamEnd)
    (m : Val) (hc : c.keysOK = true) (hn : seqNamesOK c toks = true)
    (h : newMapXmlSeq c S toks fin = .ok (.doc m)) : SeqShaped c m = true :=
  Total.seqTop_shaped c S fin hc _ toks m hn h

/-- … under which the sequence encoder reaches none of its `.panic` sites -/
theorem C15_seq_shaped_no_panic (c : SeqCfg) (esc goEmpty : Bool) (m : Entries)
    (h : SeqShaped c (.map m) = true) : ∀ site, mapSeqXml c esc goEmpty m ≠ .panic site := by
  match m, h with
  | [(key, v)], h =>
    simp only [SeqShaped, Bool.and_eq_true, Bool.not_eq_true'] at h
    cases v with
    | list xs => cases h.1
    | null | bool _ | num _ | str _ | map _ =>
      simp only [mapSeqXml]; exact Total.seqEnc_noPanic c esc goEmpty _ key _ h.2
  | [], h | _ :: _ :: _, h => cases h

/-
  Without hypotheses on `c` and `toks` the statement "every decoded MapSeq is encoded without a
  panic" is false in the model, because token names and configuration keys are arbitrary
  strings there (two counterexamples below).  Real tokenizer output cannot contain an element
  named `#comment`, `#directive`, `#procinst` or `#attr` (`#` is not a name character), and the
  keys are constants of xmlseq.go, so `keysOK` and `seqNamesOK` hold for the Go code.
-/

/-- every MapSeq the sequence decoder returns is encoded without a panic, provided the special
    keys do not collide (`keysOK`: true for the fixed keys) and no element is named like one of
    them (`seqNamesOK`: true of every XML name, which cannot start with `#`) -/
theorem C15_encode_decoded_seq_partial (c : SeqCfg) (S : Strconv) (toks : List Tok)
    (fin : StreamEnd) (m : Entries) (hc : c.keysOK = true) (hn : seqNamesOK c toks = true)
    (h : newMapXmlSeq c S toks fin = .ok (.doc (.map m))) (esc goEmpty : Bool) :
    ∀ site, mapSeqXml c esc goEmpty m ≠ .panic site :=
  C15_seq_shaped_no_panic c esc goEmpty m (C15_seq_decoded_shaped c S toks fin (.map m) hc hn h)

/-- the default keys satisfy `keysOK` -/
example : ({} : SeqCfg).keysOK = true := by decide +kernel

/-- counterexample 1 (element named like a special key, default configuration):
    `<#comment a="1"></#comment>` decodes to `{"#comment": {"#attr": {"a": …}}}`, and the
    encoder's unchecked `.(string)` on the missing comment text panics -/
def cex1 : Entries :=
  [("#comment".toList, .map [("#attr".toList,
      .map [("a".toList, .map [("#text".toList, .str "1".toList), ("#seq".toList, seqNum 0)])])])]
example : seqNamesOK {} [.start [] "#comment".toList [⟨[], "a".toList, "1".toList⟩],
    .stop [] "#comment".toList] = false := by decide +kernel
example : newMapXmlSeq {} Dec.S0 [.start [] "#comment".toList [⟨[], "a".toList, "1".toList⟩],
    .stop [] "#comment".toList] .eof = .ok (.doc (.map cex1)) := by decide +kernel
example : mapSeqXml {} false false cex1 = .panic "comment text is not a string" := by
  simp only [mapSeqXml, SeqL.seqEnc_eq _ _ _ _ ()]
  decide +kernel

/-- counterexample 2 (colliding keys: the attribute key set to the comment key):
    `<a><!--x--></a>` stores the comment where the encoder looks for the attribute map -/
def cex2cfg : SeqCfg := { attrK := "#comment".toList }
def cex2 : Entries :=
  [("a".toList, .map [("#comment".toList,
      .map [("#text".toList, .str "x".toList), ("#seq".toList, seqNum 0)])])]
example : cex2cfg.keysOK = false := by decide +kernel
example : seqNamesOK cex2cfg [.start [] "a".toList [], .comment "x".toList, .stop [] "a".toList]
    = true := by decide +kernel
example : newMapXmlSeq cex2cfg Dec.S0 [.start [] "a".toList [], .comment "x".toList,
    .stop [] "a".toList] .eof = .ok (.doc (.map cex2)) := rfl
example : mapSeqXml cex2cfg false false cex2 = .panic "attribute value is not a map" := by
  simp only [mapSeqXml, SeqL.seqEnc_eq _ _ _ _ ()]
  decide +kernel

/-
  The Map encoder model has no panic (`Except`).  The full statement "for every decoded Map the
  compact encoder succeeds" (without a hypothesis on the element keys) is false: the encoder
  recognises attribute keys by prefix and the text key by name, and an ELEMENT whose key it reads
  that way must hold a scalar.  That can happen for decoder output:
  with a letter prefix (`SetAttrPrefix("a")`), `<r><ab><c/></ab></r>` decodes to
  `{"r":{"ab":{"c":""}}}` and encoding fails with "invalid attribute value" (first example
  below; these are real XML names).  With the default prefix `-` (or any prefix that cannot start
  an XML name) and the text key `#text` it cannot happen for tokenizer output, because element
  names come from XML names; with the empty prefix no key is an attribute key.  The hypothesis
  `elemKeysOK` says exactly: no element key is read as an attribute key or the text key.
  `ec.attrPrefix = cfg.attrPrefix` is NOT needed (attribute, text and `_seq` entries hold
  scalars, which encode in any position).
-/

/-- the invariant behind it: decoded attribute / text entries are scalars (`encOK`) -/
theorem C15_map_decoded_encOK (cfg : DecCfg) (S : Strconv) (ec : EncCfg) (toks : List Tok)
    (fin : StreamEnd) (v : Val) (hk : elemKeysOK cfg S ec toks = true)
    (h : newMapXml cfg S toks fin = .ok v) : encOK ec v = true := by
  rw [Dec.newMapXml_eq] at h
  obtain ⟨p, hp, h⟩ := Outcome.bind_eq_ok.1 h
  cases h
  have hc : ∀ s t, Dec.scalar (cast S cfg.cast s t) = true := Dec.cast_scalar S cfg.cast
  exact Dec.decodeTop_inv cfg S fin (I := Total.encOKState ec) (Q := fun v => encOK ec v = true)
    (R := fun v => encOK ec v = true)
    (T := fun t => (match t with | .start _ n _ => plainE ec (elemKey cfg S n) | _ => true) = true)
    (fun attrs => ⟨Dec.loadAttrs_inv cfg S (P := fun na => encOKEntries ec na = true) rfl
      (fun na _ _ h => Total.encOKEntries_insert_scalar ec _ (hc _ _) na h) attrs, nofun⟩)
    (fun _ _ _ na _ seq v hp hI hv =>
      ⟨Total.encOKEntries_addChild ec _ _ na hp (Total.encOK_seqDecorate ec cfg seq v hv) hI.1, hI.2⟩)
    (fun skey na n s hI => Dec.onText_cases cfg S skey na n s (P := fun r => Total.encOKState ec r.1 r.2)
      hI ⟨Total.encOKEntries_insert_scalar ec _ (hc _ _) na hI.1, hI.2⟩
      ⟨hI.1, fun x hx => by cases hx; exact hc _ _⟩)
    (fun _ _ hI => Total.encOK_finishElem ec cfg hI)
    (fun _ _ _ v hp hv => by
      simp only [encOK, encOKEntries, Bool.and_eq_true, Bool.or_eq_true]
      exact ⟨⟨.inl hp, hv⟩, trivial⟩)
    (List.all_eq_true.1 hk) hp

/-- every value the Map decoder returns is encoded without error, provided no element key is an
    attribute key or the text key for the encoder -/
theorem C15_encode_decoded_map_partial (cfg : DecCfg) (S : Strconv) (ec : EncCfg)
    (toks : List Tok) (fin : StreamEnd) (m : Entries)
    (hk : elemKeysOK cfg S ec toks = true)
    (h : newMapXml cfg S toks fin = .ok (.map m)) : ∃ out, mapXml ec m none = .ok out := by
  have h := C15_map_decoded_encOK cfg S ec toks fin (.map m) hk h
  have hx : ∀ key x, m = [(key, x)] → encOK ec x = true := by
    rintro key x rfl
    simp only [encOK, encOKEntries, Bool.and_eq_true] at h
    exact h.1.2
  -- the root is the value of the only entry, or the whole Map
  fun_cases mapXml ec m none
  case case2 | case4 => exact Total.marshal_ok ec _ _ (hx _ _ rfl)
  all_goals exact Total.marshal_ok ec _ _ h

/-- XML names: no start tag's local name begins with `-` or `#` -/
def xmlNames (toks : List Tok) : Bool :=
  toks.all fun t => match t with
    | .start _ n _ => decide (n.head? ≠ some '-') && decide (n.head? ≠ some '#')
    | _ => true

/-- for the default attribute prefix and text key on the encoder side, without key lower-casing
    (`strings.ToLower` is a trusted-base parameter of the model), `elemKeysOK` follows from the
    names being XML names: then every decoded Map is encodable, whatever the other options -/
theorem C15_encode_decoded_map_xmlnames (cfg : DecCfg) (S : Strconv) (ec : EncCfg)
    (toks : List Tok) (fin : StreamEnd) (m : Entries)
    (hp : ec.attrPrefix = ['-']) (ht : ec.textK = "#text".toList) (hl : cfg.lowerCase = false)
    (hn : xmlNames toks = true)
    (h : newMapXml cfg S toks fin = .ok (.map m)) : ∃ out, mapXml ec m none = .ok out := by
  refine C15_encode_decoded_map_partial cfg S ec toks fin m ?_ h
  simp only [elemKeysOK, xmlNames, List.all_eq_true] at hn ⊢
  intro t ht'
  have h1 := hn t ht'
  cases t with
  | start sp n attrs =>
    simp only [Bool.and_eq_true, decide_eq_true_eq] at h1 ⊢
    have e5 : "#text".toList = ['#', 't', 'e', 'x', 't'] := rfl
    cases n with
    | nil => simp [plainE, isAttrK, elemKey, hl, snakeCase, hp, ht, e5]
    | cons ch tl =>
      simp only [List.head?_cons, ne_eq, Option.some.injEq] at h1
      have h2 : ¬ '-' = ch := fun e => h1.1 e.symm
      by_cases hs : cfg.snake = true <;>
        simp [plainE, isAttrK, elemKey, hl, snakeCase, hp, ht, e5, hs, h1.1, h1.2, h2,
          List.isPrefixOf]
  | _ => rfl

/-- letter prefix: `<r><ab><c/></ab></r>` with `SetAttrPrefix("a")` decodes, but the result is
    rejected by the encoder ("invalid attribute value") -/
example :
    let cfg : DecCfg := { attrPrefix := ['a'] }
    let ec : EncCfg := { attrPrefix := ['a'] }
    let toks := [Tok.start [] "r".toList [], .start [] "ab".toList [], .start [] "c".toList [],
                 .stop [] "c".toList, .stop [] "ab".toList, .stop [] "r".toList]
    elemKeysOK cfg Dec.S0 ec toks = false ∧
    ∃ m, newMapXml cfg Dec.S0 toks .eof = .ok (.map m) ∧ mapXml ec m none = .error .other :=
  ⟨by decide +kernel, _, rfl, by decide +kernel⟩

/-- the text key: an element named `#text` (not an XML name; the model's tokens are arbitrary)
    holding a map is rejected as a text value -/
example :
    let toks := [Tok.start [] "r".toList [], .start [] "#text".toList [], .start [] "c".toList [],
                 .stop [] "c".toList, .stop [] "#text".toList, .stop [] "r".toList]
    elemKeysOK {} Dec.S0 {} toks = false ∧
    ∃ m, newMapXml {} Dec.S0 toks .eof = .ok (.map m) ∧ mapXml {} m none = .error .other :=
  ⟨by decide +kernel, _, rfl, by decide +kernel⟩

/-! ### the `getJson` scanner -/

/-- `getJson` is total by construction (structural recursion on the read schedule: every
    schedule, including read errors, zero-length reads and early EOF, yields one of the five
    `JRes` results).  Its only success result, `.doc raw`, is handed out only in the form
    `{ … }`: the collected bytes begin with the opening and end with the closing brace (the
    extent characterisation is C13) -/
theorem C15_getjson_doc_braces (s : Stream.Sched) (raw : Str)
    (h : (Stream.getJson s {}).1 = .doc raw) :
    raw.head? = some '{' ∧ raw.getLast? = some '}' := by
  have := Total.getJson_docShape s {} ⟨fun _ => rfl, fun h => by cases h⟩
  rw [h] at this
  exact this

/-! ### non-vacuity -/

/-- truncated input `<r>x`: io.EOF when the tokenizer hits the end of input … -/
example : newMapXml {} Dec.S0 [.start [] "r".toList [], .text "x".toList] .eof = .eof := rfl
/-- … the tokenizer's error when it rejects the rest -/
example : newMapXml {} Dec.S0 [.start [] "r".toList [], .text "x".toList] .bad = .syntax := rfl
example : rootCloses [.start [] "r".toList [], .text "x".toList] = false := rfl
/-- complete input `<r a="1">x<b/></r>` followed by garbage: a Map, whatever the stream end -/
example : newMapXml {} Dec.S0
      [.procinst "xml".toList [], .start [] "r".toList [⟨[], "a".toList, "1".toList⟩],
       .text "x".toList, .start [] "b".toList [], .stop [] "b".toList, .stop [] "r".toList,
       .stop [] "zz".toList] .bad
    = .ok (.map [("r".toList, .map [("-a".toList, .str "1".toList), ("#text".toList, .str "x".toList),
                                    ("b".toList, .str [])])]) := by decide +kernel
example : rootCloses
      [.procinst "xml".toList [], .start [] "r".toList [⟨[], "a".toList, "1".toList⟩],
       .text "x".toList, .start [] "b".toList [], .stop [] "b".toList, .stop [] "r".toList,
       .stop [] "zz".toList] = true := rfl
/-- … and it is encodable -/
example : mapXml {} [("r".toList, .map [("-a".toList, .str "1".toList),
      ("#text".toList, .str "x".toList), ("b".toList, .str [])])] none
    = .ok "<r a=\"1\">x<b/></r>".toList := by
  -- the kernel's `String.toList` on a literal is quadratic: turn `"…".toList` into the list first
  repeat rw [String.toList_ofList]
  decide +kernel

/-- the sequence decoder: a stray end tag ahead of the root is the "stray end tag" error … -/
example : newMapXmlSeq {} Dec.S0 [.text " ".toList, .stop [] "a".toList] .eof = .err .other := rfl
example : seqClass {} [.text " ".toList, .stop [] "a".toList] = .badEnd := rfl
/-- … a mismatched end tag `<a></b>` the "not properly terminated" error … -/
example : newMapXmlSeq {} Dec.S0 [.start [] "a".toList [], .stop [] "b".toList] .eof = .err .other := rfl
/-- … truncated input the stream end's error … -/
example : newMapXmlSeq {} Dec.S0 [.start [] "a".toList [], .text "x".toList] .eof = .eof := rfl
example : newMapXmlSeq {} Dec.S0 [.start [] "a".toList [], .text "x".toList] .bad = .syntax := rfl
/-- … a leading comment the documented no-root result … -/
example : newMapXmlSeq {} Dec.S0 [.comment "c".toList, .start [] "a".toList []] .eof
    = .ok (.noRoot (.map [("#comment".toList, .str "c".toList)])) := rfl
/-- … and `<a x="1"><!--c-->t<?p i?><b/></a>` a MapSeq that satisfies the hypotheses of
    `C15_encode_decoded_seq_partial` and is encoded back -/
def seqSample : List Tok :=
  [.start [] "a".toList [⟨[], "x".toList, "1".toList⟩], .comment "c".toList, .text "t".toList,
   .procinst "p".toList "i".toList, .start [] "b".toList [], .stop [] "b".toList,
   .stop [] "a".toList]
example : seqNamesOK {} seqSample = true := by decide +kernel
example : seqClass {} seqSample = .doc := rfl
example : ∃ m, newMapXmlSeq {} Dec.S0 seqSample .eof = .ok (.doc (.map m)) ∧
    SeqShaped {} (.map m) = true ∧ ∀ site, mapSeqXml {} false false m ≠ .panic site :=
  ⟨_, by decide +kernel, by decide +kernel,
    C15_encode_decoded_seq_partial {} Dec.S0 seqSample .eof _ (by decide +kernel) (by decide +kernel) rfl false false⟩
/-- a small one in full: `<a x="1"/>` -/
example : newMapXmlSeq {} Dec.S0 [.start [] "a".toList [⟨[], "x".toList, "1".toList⟩],
      .stop [] "a".toList] .eof
    = .ok (.doc (.map [("a".toList, .map [("#attr".toList, .map [("x".toList,
        .map [("#text".toList, .str "1".toList), ("#seq".toList, seqNum 0)])])])])) := by decide +kernel

end Mxj.C15
