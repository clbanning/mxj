/-
  Mxj.Props.C19 — file round trip, the JSON-file part (the part with mxj's own loop logic):
  a list of Maps written with `Maps.JsonFile` is read back by `NewMapsFromJsonFile` as the same
  number of Maps, in order, each equal to the original; unreadable or malformed files yield an
  error together with the Maps read so far.

  Model: Mxj.Model.Files — `jsonString` (what `JsonFile` writes: the concatenation of the per-Map
  compact encodings `mapJson false`), `ReadRes`, `readMapsJson` (the loop of
  `NewMapsFromJsonFile`: scanner `getJson` + `newMapJson` until io.EOF; an error returns the Maps
  read so far) — over Mxj.Model.Stream (`Sched`, `plain`, `getJson`) and Mxj.Model.Json
  (`mapJson`, `newMapJson`).  Helper lemmas live in Mxj.Lemmas.Files and Mxj.Lemmas.Bulk (namespace
  `Mxj.Files`):
    `Gr`/`Bd`, `gr_encN`   the compact encoder writes texts of C13's generative grammar
    `Scans t raw`          the scanner reads `t` as the one document `raw`, whatever follows
    `InDoc`, `stepJ_inDoc` scanner invariant "inside a document" (Mxj.Lemmas.Stream: the two state
                           shapes `inObj`, `inStr`)
    `Scans.cut`            a text cut inside its one document gives "no closing }"
    `sepText docs`         encoded Maps, each preceded by a separator text `d.1`
    `readMapsJson_docs`    the loop over separated documents, followed by any schedule: the bulk
                           handler's `handleJson_docs` through `readMapsJson_eq_handleJson` (the
                           file loop is `handleJson false · 0` with the error count forgotten)
  and the results of C06 (`newMapJson (mapJson safe m) = norm m`) and C13 (`getJson` returns
  exactly one object of the grammar and leaves the rest unread; schedule independence).
  Property theorems and non-vacuity examples only.
-/
import Mxj.Lemmas.Bulk
namespace Mxj.C19
open Mxj Mxj.Stream Mxj.Json Mxj.Files

/-- the compact encoding of a JSON-shaped Map is an object text of the generative grammar of
    C13: there are items with `flat (.obj items) = mapJson safe (.map m)` and, since the compact
    encoder writes no white space outside strings, `flatNoWs (.obj items)` is the same text.
    (Strings become `Item.str` with `StrCh.esc`/`plain` per `quoteChar`, nested objects
    `Item.obj`, everything else — brackets, commas, colons, literals, number characters —
    `Item.ch`.) -/
theorem C19_mapJson_in_grammar (safe : Bool) (m : Entries)
    (hm : Json.JsonShaped (.map m) = true) :
    ∃ items, Stream.flat (.obj items) = Json.mapJson safe (.map m) ∧
      Stream.flatNoWs (.obj items) = Json.mapJson safe (.map m) :=
  mapJson_items safe m hm

/-- the scanner cuts exactly one encoded Map off the front of the file, whatever follows -/
theorem C19_getjson_one_map (m : Entries) (hm : Json.JsonShaped (.map m) = true) (rest : Str) :
    Stream.getJson (Stream.plain (Json.mapJson false (.map m) ++ rest)) {}
      = (.doc (Json.mapJson false (.map m)), Stream.plain rest) :=
  (scans_mapJson false m hm).append rest

/-- … also when an arbitrary delivery schedule follows (zero-length reads, errors, anything) -/
theorem C19_getjson_one_map_then (m : Entries) (hm : Json.JsonShaped (.map m) = true)
    (s : Sched) :
    Stream.getJson (Stream.plain (Json.mapJson false (.map m)) ++ s) {}
      = (.doc (Json.mapJson false (.map m)), s) :=
  scans_mapJson false m hm s

/-- `JsonShaped` cannot be dropped: a "number" whose literal is a brace is written verbatim and
    closes the object early (Go's encoder can only write well-formed number literals) -/
example : Stream.getJson (Stream.plain
      (Json.mapJson false (.map [("a".toList, .num "jn:}".toList)]))) {}
    = (.doc "{\"a\":}".toList, Stream.plain "}".toList) := by decide +kernel

/-- the general form: the loop over what `JsonFile` wrote, followed by ANY schedule `s`, reads
    every Map back — exactly `Val.norm` of it, in order — and goes on with `s` -/
theorem C19_json_file_then (ms : List Entries)
    (hms : ∀ m ∈ ms, Json.JsonShaped (.map m) = true) (f : Nat) (s : Sched) (acc : List Val) :
    Files.readMapsJson (ms.length + f)
        (Stream.plain (Files.jsonString (ms.map Val.map)) ++ s) acc
      = Files.readMapsJson f s ((ms.map (fun m => Val.norm (.map m))).reverse ++ acc) := by
  have h := readMapsJson_docs (ms.map fun m => ([], m))
    (List.forall_mem_map.2 fun _ _ _ => nofun) (List.forall_mem_map.2 hms) f s acc
  rwa [← jsonString_eq_sepText, List.length_map, List.map_map] at h

/-- headline: what `JsonFile` writes is read back Map by Map — same number, same order, each
    equal to the original up to the order of entries (exactly `Val.norm` of it) — and no error -/
theorem C19_json_file (ms : List Entries) (hms : ∀ m ∈ ms, Json.JsonShaped (.map m) = true)
    (f : Nat) (hf : ms.length < f) :
    Files.readMapsJson f (Stream.plain (Files.jsonString (ms.map Val.map))) []
      = ⟨ms.map (fun m => Val.norm (.map m)), false⟩ := by
  obtain ⟨g, rfl⟩ := Nat.exists_eq_add_of_lt hf
  have h := C19_json_file_then ms hms (g + 1) [] []
  rw [List.append_nil] at h
  rw [Nat.add_assoc, h, readMapsJson_end]
  simp

/-- in words: no error, the same number of Maps, and the i-th Map read equals the i-th Map
    written up to the order of entries at every level -/
theorem C19_json_file_same_maps (ms : List Entries)
    (hms : ∀ m ∈ ms, Json.JsonShaped (.map m) = true) (f : Nat) (hf : ms.length < f) :
    ∃ rs, Files.readMapsJson f (Stream.plain (Files.jsonString (ms.map Val.map))) []
        = ⟨rs, false⟩ ∧ rs.length = ms.length ∧
      ∀ (i : Nat) (h1 : i < rs.length) (h2 : i < ms.length), rs[i] ≈ᵥ .map ms[i] := by
  refine ⟨_, C19_json_file ms hms f hf, by simp, ?_⟩
  intro i h1 h2
  rw [List.getElem_map]
  exact Json.norm_idem (.map ms[i]) (hms _ (List.getElem_mem h2))

/-- an empty object is a Map too (the repaired behaviour).  `[{}]` and lists containing `{}`
    are covered by the headline; the special case explicitly: -/
theorem C19_empty_object_kept :
    Files.readMapsJson 3 (Stream.plain "{}".toList) [] = ⟨[.map []], false⟩ :=
  C19_json_file [[]] (by decide) 3 (by decide)

/-- … also between other Maps: nothing is dropped, nothing is shifted -/
theorem C19_empty_object_between (a b : Entries) (ha : Json.JsonShaped (.map a) = true)
    (hb : Json.JsonShaped (.map b) = true) :
    Files.readMapsJson 4 (Stream.plain (Files.jsonString [.map a, .map [], .map b])) []
      = ⟨[Val.norm (.map a), .map [], Val.norm (.map b)], false⟩ := by
  have h := C19_json_file [a, [], b] (by
    intro m hm
    simp only [List.mem_cons, List.not_mem_nil, or_false] at hm
    rcases hm with rfl | rfl | rfl
    · exact ha
    · decide
    · exact hb) 4 (by simp)
  have e : Val.norm (.map []) = .map [] := by decide +kernel
  simpa [e] using h

/-- an empty file is an empty list of Maps and no error -/
theorem C19_empty_file (f : Nat) (hf : 0 < f) :
    Files.readMapsJson f (Stream.plain []) [] = ⟨[], false⟩ :=
  C19_json_file [] (by simp) f hf

/-- at the scanner level: the raw documents `getJson` hands to the decoder are exactly the
    per-Map encodings, in order, followed by io.EOF (`readAll` of C13) -/
theorem C19_scanner_docs (ms : List Entries) (hms : ∀ m ∈ ms, Json.JsonShaped (.map m) = true)
    (n : Nat) (hn : ms.length < n) :
    Stream.readAll n (Stream.plain (Files.jsonString (ms.map Val.map)))
      = (ms.map (fun m => Json.mapJson false (.map m)), some (.eof [])) :=
  readAll_jsonString ms hms n hn

/-- robustness beyond what `JsonFile` writes: the Maps may be separated (and followed) by any
    characters except braces and quotes — new lines, blanks, commas — and are read back the
    same.  `sepText docs` = each `d.1 ++ mapJson false (.map d.2)` in order. -/
theorem C19_json_file_separated (docs : List (Str × Entries))
    (hlead : ∀ d ∈ docs, ∀ c ∈ d.1, c ≠ '{' ∧ c ≠ '}' ∧ c ≠ '"')
    (hms : ∀ d ∈ docs, Json.JsonShaped (.map d.2) = true)
    (trail : Str) (htrail : ∀ c ∈ trail, c ≠ '{' ∧ c ≠ '}' ∧ c ≠ '"')
    (f : Nat) (hf : docs.length < f) :
    Files.readMapsJson f (Stream.plain (Files.sepText docs ++ trail)) []
      = ⟨docs.map (fun d => Val.norm (.map d.2)), false⟩ := by
  obtain ⟨g, rfl⟩ := Nat.exists_eq_add_of_lt hf
  rw [Nat.add_assoc, plain_append, readMapsJson_docs docs hlead hms, readMapsJson,
    getJson_trail trail htrail]
  simp

/-- the loop does not depend on how the reader delivers the bytes -/
theorem C19_schedule_free (f : Nat) (s : Sched) (acc : List Val) (hs : Tame s = true) :
    Files.readMapsJson f s acc = Files.readMapsJson f (Stream.plain (bytesOf s)) acc :=
  readMapsJson_sched_free f s acc hs

/-- the headline under every tame schedule carrying the file's bytes (zero-length reads in
    between, the last byte delivered together with io.EOF, a final (0, io.EOF) read, …) -/
theorem C19_json_file_sched (ms : List Entries)
    (hms : ∀ m ∈ ms, Json.JsonShaped (.map m) = true) (s : Sched) (hs : Tame s = true)
    (hb : bytesOf s = Files.jsonString (ms.map Val.map)) (f : Nat) (hf : ms.length < f) :
    Files.readMapsJson f s [] = ⟨ms.map (fun m => Val.norm (.map m)), false⟩ := by
  rw [readMapsJson_sched_free f s [] hs, hb]
  exact C19_json_file ms hms f hf

/-- after the Maps of a well-formed prefix, whatever makes one more round fail — a scanner error
    (no closing brace, stray closing brace, I/O error) or a scanned object that does not decode —
    ends the loop with an error and exactly the Maps read so far -/
theorem C19_error_keeps_maps (ms : List Entries)
    (hms : ∀ m ∈ ms, Json.JsonShaped (.map m) = true) {s rest : Sched} {r : JRes}
    (h : Stream.getJson s {} = (r, rest))
    (hdoc : ∀ raw, r = .doc raw → Json.newMapJson raw = none) (heof : ∀ raw, r ≠ .eof raw)
    (f : Nat) (hf : ms.length < f) :
    Files.readMapsJson f (Stream.plain (Files.jsonString (ms.map Val.map)) ++ s) []
      = ⟨ms.map (fun m => Val.norm (.map m)), true⟩ := by
  obtain ⟨g, rfl⟩ := Nat.exists_eq_add_of_lt hf
  rw [Nat.add_assoc, C19_json_file_then ms hms (g + 1) s [], List.append_nil,
    readMapsJson_eq_handleJson _ _ _ 0, handleJson_err false g 0 h hdoc heof]
  simp

/-- unreadable: a read error after k Maps returns those k Maps and the error -/
theorem C19_io_error (ms : List Entries) (hms : ∀ m ∈ ms, Json.JsonShaped (.map m) = true)
    (s : Sched) (f : Nat) (hf : ms.length < f) :
    Files.readMapsJson f (Stream.plain (Files.jsonString (ms.map Val.map)) ++ Rd.fail :: s) []
      = ⟨ms.map (fun m => Val.norm (.map m)), true⟩ :=
  C19_error_keeps_maps ms hms (getJson_fail s {}) nofun nofun f hf

/-- truncation: a file cut inside the (k+1)-th document — after the first k encodings comes a
    non-empty proper prefix of the (k+1)-th encoding (it contains the opening brace, since every
    encoding starts with it) — yields the first k Maps together with an error -/
theorem C19_truncated (ms : List Entries) (hms : ∀ m ∈ ms, Json.JsonShaped (.map m) = true)
    (k : Nat) (hk : k < ms.length) (cut : Str)
    (hpre : cut <+: Json.mapJson false (.map ms[k])) (hne : cut ≠ [])
    (hproper : cut ≠ Json.mapJson false (.map ms[k])) (f : Nat) (hf : k < f) :
    Files.readMapsJson f
        (Stream.plain (Files.jsonString ((ms.take k).map Val.map) ++ cut)) []
      = ⟨(ms.take k).map (fun m => Val.norm (.map m)), true⟩ := by
  -- the scanner ends inside the object
  obtain ⟨raw, hraw⟩ := (scans_mapJson false ms[k] (hms _ (List.getElem_mem hk))).cut
    (mapJson_head false ms[k]) hpre hne hproper
  rw [plain_append]
  exact C19_error_keeps_maps (ms.take k) (fun m hm => hms m (List.mem_of_mem_take hm))
    hraw nofun nofun f (Nat.lt_of_le_of_lt (List.length_take_le ..) hf)

/-- … cut exactly at a document boundary it yields the first k Maps and no error -/
theorem C19_truncated_at_boundary (ms : List Entries)
    (hms : ∀ m ∈ ms, Json.JsonShaped (.map m) = true) (k : Nat) (f : Nat) (hf : k < f) :
    Files.readMapsJson f (Stream.plain (Files.jsonString ((ms.take k).map Val.map))) []
      = ⟨(ms.take k).map (fun m => Val.norm (.map m)), false⟩ :=
  C19_json_file (ms.take k) (fun m hm => hms m (List.mem_of_mem_take hm)) f
    (Nat.lt_of_le_of_lt (List.length_take_le ..) hf)

/-- truncation under every tame schedule carrying the truncated file's bytes -/
theorem C19_truncated_sched (ms : List Entries)
    (hms : ∀ m ∈ ms, Json.JsonShaped (.map m) = true)
    (k : Nat) (hk : k < ms.length) (cut : Str)
    (hpre : cut <+: Json.mapJson false (.map ms[k])) (hne : cut ≠ [])
    (hproper : cut ≠ Json.mapJson false (.map ms[k])) (s : Sched) (hs : Tame s = true)
    (hb : bytesOf s = Files.jsonString ((ms.take k).map Val.map) ++ cut)
    (f : Nat) (hf : k < f) :
    Files.readMapsJson f s [] = ⟨(ms.take k).map (fun m => Val.norm (.map m)), true⟩ := by
  rw [readMapsJson_sched_free f s [] hs, hb]
  exact C19_truncated ms hms k hk cut hpre hne hproper f hf

/-- a Map with hostile strings: braces and quotes in keys and values, a value that ends in a
    backslash, white space inside strings, a nested object whose key ends in a backslash -/
def exA : Entries :=
  [ ("k}\"".toList, .str "a{\"b} \\".toList),
    ("z".toList, .map [("in{\\".toList, .str "}".toList), ("e".toList, .map [])]),
    ("n".toList, .list [.num "jn:-1.5e+3".toList, .null, .bool false, .str "]}".toList]) ]

/-- a second one: only braces, a lone quote, a lone backslash, an empty key -/
def exB : Entries :=
  [ ("}{".toList, .str "\"".toList), ("".toList, .str "\\".toList),
    ("t".toList, .str "{{{ \n\t}".toList) ]

example : JsonShaped (.map exA) = true ∧ JsonShaped (.map exB) = true := by decide +kernel

example : mapJson false (.map exB)
    = "{\"\":\"\\\\\",\"t\":\"{{{ \\n\\t}\",\"}{\":\"\\\"\"}".toList := by
  -- the kernel unfolds `String.toList` of a literal through the UTF-8 decoding of its bytes, at a
  -- cost quadratic in its length: a long literal is first turned into its list of characters
  repeat rw [String.toList_ofList]
  decide +kernel

/-- written and read back: by the theorem … -/
example : readMapsJson 3 (plain (jsonString [.map exA, .map exB])) []
    = ⟨[Val.norm (.map exA), Val.norm (.map exB)], false⟩ :=
  C19_json_file [exA, exB] (by decide +kernel) 3 (by decide +kernel)

/-- … and by evaluating the model -/
example : (readMapsJson 3 (plain (jsonString [.map exA, .map exB])) []).maps
      = [Val.norm (.map exA), Val.norm (.map exB)] ∧
    (readMapsJson 3 (plain (jsonString [.map exA, .map exB])) []).failed = false := by
  decide +kernel

/-- with an empty object in between, and more fuel than needed -/
example : (readMapsJson 9 (plain (jsonString [.map exB, .map [], .map exA])) []).maps
      = [Val.norm (.map exB), .map [], Val.norm (.map exA)] ∧
    (readMapsJson 9 (plain (jsonString [.map exB, .map [], .map exA])) []).failed = false := by
  decide +kernel

/-- the same file through a schedule with zero-length reads, its last byte delivered together
    with io.EOF, then (0, io.EOF) -/
def exSched : Sched :=
  ((jsonString [.map exA, .map exB]).dropLast.flatMap fun c => [.zero, .byte c false])
    ++ [.byte '}' true, .zeroEof]

example : bytesOf exSched = jsonString [.map exA, .map exB] ∧ Tame exSched = true := by
  decide +kernel

example : readMapsJson 3 exSched [] = ⟨[Val.norm (.map exA), Val.norm (.map exB)], false⟩ :=
  C19_json_file_sched [exA, exB] (by decide +kernel) exSched (by decide +kernel) (by decide +kernel) 3
    (by decide +kernel)

/-- truncation inside the second document, in the middle of a string that holds braces: the
    first Map and an error -/
example : (readMapsJson 3 (plain (jsonString [.map exA] ++ (mapJson false (.map exB)).take 17))
      []).maps = [Val.norm (.map exA)] ∧
    (readMapsJson 3 (plain (jsonString [.map exA] ++ (mapJson false (.map exB)).take 17))
      []).failed = true := by
  decide +kernel

example : readMapsJson 3 (plain (jsonString (([exA, exB].take 1).map Val.map)
      ++ (mapJson false (.map exB)).take 17)) []
    = ⟨([exA, exB].take 1).map (fun m => Val.norm (.map m)), true⟩ :=
  C19_truncated [exA, exB] (by decide +kernel) 1 (by decide +kernel) _ (List.take_prefix _ _) (by decide +kernel)
    (by decide +kernel) 3 (by decide +kernel)

/-- cut right after the opening brace -/
example : (readMapsJson 3 (plain (jsonString [.map exA] ++ ['{'])) []).maps
      = [Val.norm (.map exA)] ∧
    (readMapsJson 3 (plain (jsonString [.map exA] ++ ['{'])) []).failed = true := by
  decide +kernel

/-- malformed: the second object scans but does not decode — the first Map and an error -/
example : (readMapsJson 3 (plain (jsonString [.map exA] ++ "{\"b\":x}".toList)) []).maps
      = [Val.norm (.map exA)] ∧
    (readMapsJson 3 (plain (jsonString [.map exA] ++ "{\"b\":x}".toList)) []).failed = true := by
  decide +kernel

/-- a stray closing brace after the first Map -/
example : (readMapsJson 3 (plain (jsonString [.map exA] ++ "}".toList)) []).maps
      = [Val.norm (.map exA)] ∧
    (readMapsJson 3 (plain (jsonString [.map exA] ++ "}".toList)) []).failed = true := by
  decide +kernel

/-- a read error after the first Map -/
example : readMapsJson 3 (plain (jsonString [.map exA]) ++ [Rd.fail]) []
    = ⟨[Val.norm (.map exA)], true⟩ :=
  C19_io_error [exA] (by decide +kernel) [] 3 (by decide +kernel)

/-- new-line separated, with a trailing new line -/
example : readMapsJson 3 (plain (sepText [([], exA), (['\n'], exB)] ++ ['\n'])) []
    = ⟨[Val.norm (.map exA), Val.norm (.map exB)], false⟩ :=
  C19_json_file_separated [([], exA), (['\n'], exB)] (by decide +kernel) (by decide +kernel) ['\n'] (by decide +kernel) 3
    (by decide +kernel)

/-- the separator condition cannot be dropped: a quote between two documents hides the second -/
example : (readMapsJson 3 (plain (sepText [([], exB), (['"'], exB)])) []).maps
    = [Val.norm (.map exB)] := by decide +kernel

/-- the fuel bound is needed only to let the loop see the end of the file: with exactly
    `ms.length` rounds the model runs out of fuel (reported as an error) -/
example : (readMapsJson 2 (plain (jsonString [.map exA, .map exB])) []).failed = true := by
  decide +kernel

end Mxj.C19
