/-
  Mxj.Props.C03ExtFrame — frame of C03's API over the package-level state, on facts regenerated from
  /repo's current source on every run: the Map/Any XML encoders read the attribute prefix, the text
  key, the escaping/validity/empty-element switches and the escape table, nothing else;
  and none of them (nor any function they can reach) assigns a package-level variable, so what they
  return is a function of their arguments and of exactly those variables - no hidden state carried
  from one call to the next.
-/
import Mxj.Lemmas.Facts
namespace Mxj.C03
open Mxj

/-- the package-level variables C03's functions may read -/
def frameAllowed : List String := ["attrPrefix", "escapechars", "lenAttrPrefix", "textK", "useGoXmlEmptyElemSyntax", "xmlCheckIsValid", "xmlEscapeChars"]

theorem frame_cert :
    Facts.cert Generated.c03FrameRoots Generated.c03FrameRootsClosure (Facts.frameOk frameAllowed)
      = true := by decide +kernel

theorem C03_frame_reads (root g v : String) (hr : root ∈ Generated.c03FrameRoots)
    (h : Facts.Reach root g) (hv : v ∈ Facts.readsOf g) : v ∈ frameAllowed :=
  Facts.reads_of_frame frame_cert hr h hv

theorem C03_frame_no_hidden_state (root g : String) (hr : root ∈ Generated.c03FrameRoots)
    (h : Facts.Reach root g) : Facts.writesOf g = [] :=
  Facts.writes_of_frame frame_cert hr h

/-- the statements are not vacuous: the API group is present in the source -/
theorem C03_frame_roots_present : Generated.c03FrameRoots.length ≥ 1 := by decide +kernel

end Mxj.C03
