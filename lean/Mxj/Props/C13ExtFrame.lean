/-
  Mxj.Props.C13ExtFrame — frame of C13's API over the package-level state, on facts regenerated from
  /repo's current source on every run: the JSON reader and bulk-handler forms read JsonUseNumber and
  their poll interval only;
  and none of them (nor any function they can reach) assigns a package-level variable, so what they
  return is a function of their arguments and of exactly those variables - no hidden state carried
  from one call to the next.
-/
import Mxj.Lemmas.Facts
namespace Mxj.C13
open Mxj

/-- the package-level variables C13's functions may read -/
def frameAllowed : List String := ["JsonUseNumber", "jhandlerPollInterval"]

theorem frame_cert :
    Facts.cert Generated.c13FrameRoots Generated.c13FrameRootsClosure (Facts.frameOk frameAllowed)
      = true := by decide +kernel

theorem C13_frame_reads (root g v : String) (hr : root ∈ Generated.c13FrameRoots)
    (h : Facts.Reach root g) (hv : v ∈ Facts.readsOf g) : v ∈ frameAllowed :=
  Facts.reads_of_frame frame_cert hr h hv

theorem C13_frame_no_hidden_state (root g : String) (hr : root ∈ Generated.c13FrameRoots)
    (h : Facts.Reach root g) : Facts.writesOf g = [] :=
  Facts.writes_of_frame frame_cert hr h

/-- the statements are not vacuous: the API group is present in the source -/
theorem C13_frame_roots_present : Generated.c13FrameRoots.length ≥ 1 := by decide +kernel

end Mxj.C13
